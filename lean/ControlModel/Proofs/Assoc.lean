/-
  Proofs/Assoc — association lists as Go maps: lookup (`Assoc.get`) in a concatenation, in a list without the key, in a
  function tabulated over keys, after a write (`Assoc.set`) and after a sequence of writes (`Assoc.setAll`, the loop
  `for k, v := range kvs { m[k] = v }`). The models that spell their maps themselves are read through it: `Load.lookup` is
  `Assoc.get` by definition, `Vars.lookup`/`set` and `Registry.find`/`put` by `lookup_eq_get` … `put_eq_set`.
-/
import ControlModel.Basic

namespace Assoc

variable {α : Type _} {β : Type _} [DecidableEq α]

theorem get_nil (k : α) : get ([] : List (α × β)) k = none := rfl

theorem get_cons (a : α) (b : β) (l : List (α × β)) (k : α) :
    get ((a, b) :: l) k = if a = k then some b else get l k := by
  simp only [get, beq_iff_eq]

theorem get_set (l : List (α × β)) (k k' : α) (v : β) :
    get (set l k v) k' = if k = k' then some v else get l k' := by
  fun_induction set l k v with
  | case1 => exact get_cons ..
  | case2 a b rest k v h =>
    cases beq_iff_eq.mp h
    rw [get_cons, get_cons]
    split <;> rfl
  | case3 a b rest k v h ih =>
    rw [get_cons, ih, get_cons]
    split
    · next h' => rw [if_neg fun e => h (beq_iff_eq.mpr (h'.trans e.symm))]
    · rfl

theorem get_set_self (l : List (α × β)) (k : α) (v : β) : get (set l k v) k = some v := by
  rw [get_set, if_pos rfl]

theorem get_set_ne (l : List (α × β)) {k k' : α} (v : β) (h : k ≠ k') : get (set l k v) k' = get l k' := by
  rw [get_set, if_neg h]

theorem mem_set {l : List (α × β)} {k : α} {v : β} {kv : α × β} (h : kv ∈ set l k v) : kv = (k, v) ∨ kv ∈ l := by
  fun_induction set l k v with
  | case1 => exact Or.inl (List.mem_singleton.mp h)
  | case2 => exact (List.mem_cons.mp h).imp_right (List.mem_cons_of_mem _)
  | case3 _ _ _ _ _ _ ih =>
    rcases List.mem_cons.mp h with h | h
    · exact Or.inr (h ▸ List.mem_cons_self)
    · exact (ih h).imp_right (List.mem_cons_of_mem _)

theorem mem_of_get {l : List (α × β)} {k : α} {v : β} (h : get l k = some v) : (k, v) ∈ l := by
  induction l with
  | nil => cases h
  | cons hd tl ih =>
    rw [get_cons] at h
    split at h
    · next hk => cases h; exact hk ▸ List.mem_cons_self
    · exact List.mem_cons_of_mem _ (ih h)

theorem get_append (a b : List (α × β)) (k : α) : get (a ++ b) k = (get a k).or (get b k) := by
  induction a with
  | nil => rfl
  | cons kv rest ih =>
    rw [List.cons_append, get_cons, get_cons, ih]
    split <;> rfl

theorem get_eq_none_iff {l : List (α × β)} {k : α} : get l k = none ↔ k ∉ l.map (·.1) := by
  induction l with
  | nil => exact ⟨fun _ => nofun, fun _ => rfl⟩
  | cons kv rest ih =>
    rw [get_cons, List.map_cons, List.mem_cons, not_or, ← ih]
    split
    · next h => exact ⟨nofun, fun hn => absurd h.symm hn.1⟩
    · next h => exact ⟨fun hn => ⟨Ne.symm h, hn⟩, And.right⟩

/-- A function tabulated over a list of keys, read back. -/
theorem get_tabulate (keys : List α) (f : α → Option β) (k : α) :
    get (keys.filterMap fun a => (f a).map fun v => (a, v)) k = if k ∈ keys then f k else none := by
  induction keys with
  | nil => rfl
  | cons a rest ih =>
    rw [List.filterMap_cons]
    by_cases h : a = k
    · subst h
      cases hf : f a <;> simp [get_cons, ih, hf]
    · cases f a <;> simp [get_cons, ih, h, Ne.symm h]

def setAll (l kvs : List (α × β)) : List (α × β) := kvs.foldl (fun a kv => set a kv.1 kv.2) l

theorem setAll_cons (l : List (α × β)) (kv : α × β) (r : List (α × β)) :
    setAll l (kv :: r) = setAll (set l kv.1 kv.2) r := rfl

theorem setAll_append (l a b : List (α × β)) : setAll l (a ++ b) = setAll (setAll l a) b :=
  List.foldl_append

theorem get_setAll_not_mem (l kvs : List (α × β)) (k : α) (h : k ∉ kvs.map (·.1)) :
    get (setAll l kvs) k = get l k := by
  induction kvs generalizing l with
  | nil => rfl
  | cons kv r ih =>
    rw [List.map_cons, List.mem_cons, not_or] at h
    rw [setAll_cons, ih _ h.2, get_set_ne _ _ (Ne.symm h.1)]

theorem get_setAll_or (l kvs : List (α × β)) (k : α) :
    get (setAll l kvs) k = (get (setAll [] kvs) k).or (get l k) := by
  induction kvs generalizing l with
  | nil => rfl
  | cons kv r ih =>
    rw [setAll_cons, setAll_cons, ih (set l kv.1 kv.2), ih (set [] kv.1 kv.2), get_set, get_set]
    split
    · rw [Option.or_assoc]; rfl
    · rw [get_nil, Option.or_none]

theorem get_setAll_mem (l kvs : List (α × β)) (k : α) (h : k ∈ kvs.map (·.1)) :
    ∃ v, (k, v) ∈ kvs ∧ get (setAll l kvs) k = some v := by
  induction kvs generalizing l with
  | nil => cases h
  | cons kv r ih =>
    rw [setAll_cons]
    by_cases hr : k ∈ r.map (·.1)
    · obtain ⟨v, hv, hg⟩ := ih _ hr
      exact ⟨v, List.mem_cons_of_mem _ hv, hg⟩
    · have hk : kv.1 = k := ((List.mem_cons.mp h).resolve_right hr).symm
      exact ⟨kv.2, hk ▸ List.mem_cons_self, by rw [get_setAll_not_mem _ _ _ hr, hk, get_set_self]⟩

theorem get_setAll_consistent (l kvs : List (α × β)) (k : α) (v : β) (hm : (k, v) ∈ kvs)
    (hc : ∀ v', (k, v') ∈ kvs → v' = v) : get (setAll l kvs) k = some v := by
  obtain ⟨v', hv', hg⟩ := get_setAll_mem l kvs k (List.mem_map_of_mem (f := (·.1)) hm)
  rw [hg, hc v' hv']

theorem mem_keys_of_get_setAll {kvs : List (α × β)} {k : α} {v : β} (h : get (setAll [] kvs) k = some v) :
    k ∈ kvs.map (·.1) :=
  Classical.byContradiction fun hn => nomatch (get_setAll_not_mem [] kvs k hn).symm.trans h

theorem mem_setAll {l kvs : List (α × β)} {kv : α × β} (h : kv ∈ setAll l kvs) : kv ∈ l ∨ kv ∈ kvs := by
  induction kvs generalizing l with
  | nil => exact Or.inl h
  | cons x r ih =>
    rcases ih h with h | h
    · rcases mem_set h with h | h
      · exact Or.inr (h ▸ List.mem_cons_self)
      · exact Or.inl h
    · exact Or.inr (List.mem_cons_of_mem _ h)

end Assoc
