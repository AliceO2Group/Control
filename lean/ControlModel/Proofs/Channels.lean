/-
  Proofs/Channels — lemmas behind the C13 theorems: each function of the channel model characterised
  once (the bind-map loop, `ToFMQMap` in both directions, the loops of BuildPropertyMap, the allocation
  loop of the launch, the per-task scan, merge, the role templates) and `configureWith` by cases.
  Go maps are association lists: `Proofs/Assoc`. Core Lean only.
-/
import ControlModel.Spec.C13
import ControlModel.Proofs.Assoc
import ControlModel.Proofs.Lists

namespace Channels

theorem toTarget_transport (e : Endpoint) (h : String) : (e.toTarget h).transport = e.transport := by
  cases e <;> rfl

theorem toBound_transport (e : Endpoint) : e.toBound.transport = e.transport := by
  cases e <;> rfl

/-- `e` is in bound form: TCP with host `*`, or any IPC endpoint. -/
def rawBound : Endpoint → Bool
  | .tcp h _ _ => h == "*"
  | .ipc _ _ => true

theorem freshFor_spec {c : Inbound} {e : Endpoint} (h : freshFor c e = true) :
    rawBound e = true ∧ e.transport = c.transport := by
  unfold freshFor at h
  split at h
  · exact ⟨rfl, beq_iff_eq.mp h⟩
  · rw [Bool.and_eq_true] at h
    exact ⟨h.1, beq_iff_eq.mp h.2⟩
  · cases h

/-- A target-form endpoint of a task on a valid host is a raw (bound) endpoint only if it is an IPC
    endpoint, which `toTarget` leaves alone whatever the host. -/
theorem toTarget_of_raw {e r : Endpoint} {h : String} (hv : validHost h = true) (hr : rawBound r = true)
    (heq : e.toTarget h = r) (h' : String) : r.toTarget h' = r := by
  subst heq
  cases e with
  | tcp eh p tr =>
    simp only [validHost, Bool.and_eq_true, Bool.not_eq_true', bne_iff_ne, ne_eq] at hv
    exact absurd (beq_iff_eq.mp hr) hv.2
  | ipc p tr => rfl

theorem isAlias_aliasKey (g : String) : isAlias (aliasKey g) = true := by
  simp [isAlias, aliasKey, hasPrefix, String.toList_append]

section
variable {c : Claim} {tasks : List Task}

theorem claimOf_raw (p h : String) (kv : String × Endpoint) : (claimOf p h kv).raw = kv.2 := by
  unfold claimOf; split <;> rfl

theorem claimOf_host (p h : String) (kv : String × Endpoint) : (claimOf p h kv).host = h := by
  unfold claimOf; split <;> rfl

theorem claimOf_target (p h : String) (kv : String × Endpoint) :
    (claimOf p h kv).target = kv.2.toTarget h := by
  rw [Claim.target, claimOf_raw, claimOf_host]

theorem claimOf_alias (p h : String) (kv : String × Endpoint) : (claimOf p h kv).alias = isAlias kv.1 := by
  unfold claimOf; split <;> simp only [*]

theorem claimOf_key_alias (p h : String) {kv : String × Endpoint} (hk : isAlias kv.1 = true) :
    (claimOf p h kv).key = kv.1 := by
  rw [claimOf, if_pos hk]

theorem mem_claims :
    c ∈ claims tasks ↔ ∃ t ∈ tasks, ∃ kv ∈ t.loc, claimOf t.path t.host kv = c := by
  induction tasks with
  | nil => simp only [claims, List.not_mem_nil, false_and, exists_false]
  | cons t ts ih =>
    simp only [claims, List.mem_append, taskClaims, List.mem_map, ih, List.mem_cons, or_and_right, exists_or,
      exists_eq_left]

theorem mem_allDeclClaims :
    c ∈ allDeclClaims tasks ↔ ∃ t ∈ tasks, c ∈ declClaims t := by
  induction tasks with
  | nil => simp [allDeclClaims]
  | cons t ts ih => simp [allDeclClaims, ih]

theorem mem_declClaims {t : Task} (h : c ∈ declClaims t) :
    ∃ ch ∈ t.inbound, ch.global.isEmpty = false ∧ Assoc.get t.loc ch.name = some c.raw ∧
      c.key = aliasKey ch.global ∧ c.host = t.host := by
  obtain ⟨ch, hch, hc⟩ := List.mem_filterMap.mp h
  split at hc
  · cases hc
  · rename_i hg
    obtain ⟨e, hget, rfl⟩ := Option.map_eq_some_iff.mp hc
    exact ⟨ch, hch, Bool.not_eq_true _ ▸ hg, hget, rfl, rfl⟩

end

section
variable {bm bm' : BindMap} {c : Claim} {cs : List Claim} {k : String} {v : Endpoint} {e : Err}

theorem step_ok (h : step bm c = .ok bm') :
    (c.alias = true ∧ Assoc.get bm c.key = some c.raw ∧ bm' = bm) ∨
    ((c.alias = false ∨ Assoc.get bm c.key = none) ∧ bm' = Assoc.set bm c.key c.target) := by
  revert h
  fun_cases step bm c with
  | case1 ha hg => exact fun h => Or.inl ⟨ha, hg, (Except.ok.inj h).symm⟩
  | case2 => exact nofun
  | case3 ha hg => exact fun h => Or.inr ⟨Or.inr hg, (Except.ok.inj h).symm⟩
  | case4 ha => exact fun h => Or.inr ⟨Or.inl (Bool.not_eq_true _ ▸ ha), (Except.ok.inj h).symm⟩

theorem step_error (h : step bm c = .error e) : e = .aliasConflict := by
  revert h
  fun_cases step bm c <;> intro h <;> cases h
  rfl

theorem build_error (h : build bm cs = .error e) : e = .aliasConflict := by
  fun_induction build bm cs with
  | case1 => cases h
  | case2 bm c cs e' he => cases h; exact step_error he
  | case3 bm c cs bm1 hs ih => exact ih h

theorem build_provenance (h : build bm cs = .ok bm') (hg : Assoc.get bm' k = some v) :
    Assoc.get bm k = some v ∨ ∃ c ∈ cs, c.key = k ∧ v = c.target := by
  fun_induction build bm cs with
  | case1 => cases h; exact Or.inl hg
  | case2 => cases h
  | case3 bm c cs bm1 hs ih =>
    rcases ih h with h1 | ⟨d, hd, hk, hv⟩
    · rcases step_ok hs with ⟨_, _, rfl⟩ | ⟨_, rfl⟩
      · exact Or.inl h1
      · rw [Assoc.get_set] at h1
        split at h1
        · rename_i hck
          exact Or.inr ⟨c, List.mem_cons_self, hck, (Option.some.inj h1).symm⟩
        · exact Or.inl h1
    · exact Or.inr ⟨d, List.mem_cons_of_mem _ hd, hk, hv⟩

theorem build_alias_stable (h : build bm cs = .ok bm')
    (hs : ∀ c ∈ cs, c.alias = isAlias c.key) (hk : isAlias k = true)
    (hg : Assoc.get bm k = some v) : Assoc.get bm' k = some v := by
  fun_induction build bm cs with
  | case1 => cases h; exact hg
  | case2 => cases h
  | case3 bm c cs bm1 hst ih =>
    apply ih h (fun d hd => hs d (List.mem_cons_of_mem _ hd))
    rcases step_ok hst with ⟨_, _, rfl⟩ | ⟨hc, rfl⟩
    · exact hg
    · have hne : c.key ≠ k := by
        rintro rfl
        rcases hc with hc | hc
        · rw [hs c List.mem_cons_self, hk] at hc; cases hc
        · rw [hg] at hc; cases hc
      rw [Assoc.get_set_ne _ _ hne]; exact hg

/-- An accepted alias claim was entered (its own target form is stored) or passed the comparison the
    code makes (what is stored equals its raw endpoint). -/
theorem build_alias_agree (h : build bm cs = .ok bm')
    (hs : ∀ c ∈ cs, c.alias = isAlias c.key) (hc : c ∈ cs) (ha : c.alias = true) :
    Assoc.get bm' c.key = some c.target ∨ Assoc.get bm' c.key = some c.raw := by
  fun_induction build bm cs with
  | case1 => cases hc
  | case2 => cases h
  | case3 bm d cs bm1 hst ih =>
    have hs' : ∀ x ∈ cs, x.alias = isAlias x.key := fun x hx => hs x (List.mem_cons_of_mem _ hx)
    rcases List.mem_cons.mp hc with rfl | hc'
    · have hk : isAlias c.key = true := hs c List.mem_cons_self ▸ ha
      rcases step_ok hst with ⟨_, hg, rfl⟩ | ⟨_, rfl⟩
      · exact Or.inr (build_alias_stable h hs' hk hg)
      · exact Or.inl (build_alias_stable h hs' hk (Assoc.get_set_self _ _ _))
    · exact ih h hs' hc'

theorem build_present (h : build bm cs = .ok bm')
    (hk : (Assoc.get bm k).isSome = true ∨ ∃ c ∈ cs, c.key = k) : (Assoc.get bm' k).isSome = true := by
  fun_induction build bm cs with
  | case1 =>
    cases h
    exact hk.elim id (fun ⟨_, hc, _⟩ => nomatch hc)
  | case2 => cases h
  | case3 bm d cs bm1 hst ih =>
    apply ih h
    rcases hk with hk | ⟨c, hc, rfl⟩
    · left
      rcases step_ok hst with ⟨_, _, rfl⟩ | ⟨_, rfl⟩
      · exact hk
      · rw [Assoc.get_set]; split
        · rfl
        · exact hk
    · rcases List.mem_cons.mp hc with rfl | hc'
      · left
        rcases step_ok hst with ⟨_, hg, rfl⟩ | ⟨_, rfl⟩
        · rw [hg]; rfl
        · rw [Assoc.get_set_self]; rfl
      · exact Or.inr ⟨c, hc', rfl⟩

theorem build_alias_same (h : build [] cs = .ok bm')
    (hs : ∀ c ∈ cs, c.alias = isAlias c.key) (hv : ∀ c ∈ cs, validHost c.host = true)
    (hr : ∀ c ∈ cs, rawBound c.raw = true)
    {c1 c2 : Claim} (h1 : c1 ∈ cs) (h2 : c2 ∈ cs) (a1 : c1.alias = true) (a2 : c2.alias = true)
    (hk : c1.key = c2.key) : c1.target = c2.target := by
  have key : ∀ c ∈ cs, c.alias = true → Assoc.get bm' c.key = some c.target := by
    intro c hc ha
    rcases build_alias_agree h hs hc ha with h' | h'
    · exact h'
    · -- what is stored is some claim's target form; being equal to `c.raw` it is its own target form
      rcases build_provenance h h' with h0 | ⟨f, hf, _, hfe⟩
      · cases h0
      · rw [h', Claim.target, toTarget_of_raw (hv f hf) (hr c hc) hfe.symm]
  have e1 := key c1 h1 a1
  rw [hk, key c2 h2 a2] at e1
  exact (Option.some.inj e1).symm

/-- The bind map is built if, of any two claims on one alias, the later holds the endpoint of the
    earlier and that is an IPC endpoint (its own target form, so the comparison the code makes succeeds). -/
theorem build_ok_of_pairwise (hs : ∀ c ∈ cs, c.alias = isAlias c.key)
    (hp : cs.Pairwise fun c d => c.alias = true → d.alias = true → c.key = d.key →
      c.raw = d.raw ∧ ∃ p tr, c.raw = .ipc p tr)
    (hbm : ∀ c ∈ cs, c.alias = true → ∀ v, Assoc.get bm c.key = some v → v = c.raw) :
    ∃ bm', build bm cs = .ok bm' := by
  induction cs generalizing bm with
  | nil => exact ⟨bm, rfl⟩
  | cons c cs ih =>
    obtain ⟨hpc, hp'⟩ := List.pairwise_cons.mp hp
    have ih' := fun bm1 => ih (bm := bm1) (fun x hx => hs x (List.mem_cons_of_mem _ hx)) hp'
    -- if `c` is entered, later alias claims on its key find their own endpoint there
    have hset : ∃ bm', build (Assoc.set bm c.key c.target) cs = .ok bm' := by
      refine ih' _ (fun d hd hda v hv => ?_)
      rw [Assoc.get_set] at hv
      split at hv
      · rename_i hkk
        have hca : c.alias = true := by
          rw [hs c List.mem_cons_self, hkk, ← hs d (List.mem_cons_of_mem _ hd), hda]
        obtain ⟨hraw, p, tr, hip⟩ := hpc d hd hca hda hkk
        rw [← Option.some.inj hv, ← hraw, Claim.target, hip]
        rfl
      · exact hbm d (List.mem_cons_of_mem _ hd) hda v hv
    rw [build]
    fun_cases step bm c with
    | case1 => exact ih' bm (fun d hd => hbm d (List.mem_cons_of_mem _ hd))
    | case2 ha ex hg hne => exact absurd (hbm c List.mem_cons_self ha ex hg) hne
    | case3 => exact hset
    | case4 => exact hset

theorem pairwise_of_not_shared (h : shared cs = false) :
    cs.Pairwise fun c d => ¬ (c.alias = true ∧ d.alias = true ∧ c.key = d.key) := by
  induction cs with
  | nil => exact .nil
  | cons c cs ih =>
    rw [shared, Bool.or_eq_false_iff] at h
    refine List.pairwise_cons.mpr ⟨fun d hd ⟨hca, hda, hk⟩ => ?_, ih h.2⟩
    have : (cs.any fun d => d.alias && d.key == c.key) = true :=
      List.any_eq_true.mpr ⟨d, hd, by rw [hda, hk, beq_self_eq_true]; rfl⟩
    rw [hca, this] at h
    cases h.1

theorem clash_mem (h : clash cs = true) :
    ∃ c ∈ cs, ∃ d ∈ cs, c.alias = true ∧ d.alias = true ∧ d.key = c.key ∧ d.target ≠ c.target := by
  induction cs with
  | nil => cases h
  | cons c cs ih =>
    simp only [clash, Bool.or_eq_true, Bool.and_eq_true, List.any_eq_true, beq_iff_eq,
      decide_eq_true_eq] at h
    rcases h with ⟨hc, d, hd, ⟨hda, hdk⟩, hdt⟩ | h
    · exact ⟨c, List.mem_cons_self, d, List.mem_cons_of_mem _ hd, hc, hda, hdk, hdt⟩
    · obtain ⟨x, hx, y, hy, r⟩ := ih h
      exact ⟨x, List.mem_cons_of_mem _ hx, y, List.mem_cons_of_mem _ hy, r⟩

end

section
variable {bm loc : BindMap} {o : Outbound} {c : Inbound} {e : Entry} {err : Err}

theorem explicit_empty {s : String} (h : s.isEmpty = true) : explicit s = false := by
  rw [String.isEmpty_iff.mp h]
  decide +kernel

theorem outboundFMQ_explicit (h : explicit o.target = true) :
    outboundFMQ bm o = .ok ⟨.connect, o.target, o.transport⟩ := by
  rw [outboundFMQ, if_pos h]

theorem outboundFMQ_some (h : explicit o.target = false) {ep : Endpoint}
    (hg : Assoc.get bm o.target = some ep) : outboundFMQ bm o = .ok ⟨.connect, ep.address, ep.transport⟩ := by
  rw [outboundFMQ, if_neg (Bool.eq_false_iff.mp h), hg]

theorem outboundFMQ_none (h : explicit o.target = false)
    (hg : Assoc.get bm o.target = none) : outboundFMQ bm o = .error .unmatched := by
  rw [outboundFMQ, if_neg (Bool.eq_false_iff.mp h), hg]

theorem outboundFMQ_ok (h : explicit o.target = false) (he : outboundFMQ bm o = .ok e) :
    ∃ ep, Assoc.get bm o.target = some ep ∧ e = ⟨.connect, ep.address, ep.transport⟩ := by
  cases hg : Assoc.get bm o.target with
  | none => rw [outboundFMQ_none h hg] at he; cases he
  | some ep => rw [outboundFMQ_some h hg] at he; exact ⟨ep, rfl, (Except.ok.inj he).symm⟩

theorem outboundFMQ_error (h : outboundFMQ bm o = .error err) :
    err = .unmatched ∧ explicit o.target = false ∧ Assoc.get bm o.target = none := by
  revert h
  fun_cases outboundFMQ bm o with
  | case1 => exact nofun
  | case2 => exact nofun
  | case3 hx hg => exact fun h => ⟨(Except.error.inj h).symm, Bool.not_eq_true _ ▸ hx, hg⟩

theorem outboundFMQ_method (h : outboundFMQ bm o = .ok e) : e.method = .connect := by
  revert h
  fun_cases outboundFMQ bm o <;> intro h <;> cases h <;> rfl

theorem inboundFMQ_explicit (h : explicit c.target = true) :
    inboundFMQ loc c = some ⟨.bind, c.target, c.transport⟩ := by
  rw [inboundFMQ, if_pos h]

theorem inboundFMQ_empty (h : c.target.isEmpty = true) :
    inboundFMQ loc c = (Assoc.get loc c.name).map fun e => ⟨.bind, e.toBound.address, e.transport⟩ := by
  rw [inboundFMQ, if_neg (Bool.eq_false_iff.mp (explicit_empty h)), h]
  cases Assoc.get loc c.name <;> rfl

theorem inboundFMQ_method (h : inboundFMQ loc c = some e) : e.method = .bind := by
  revert h
  fun_cases inboundFMQ loc c <;> intro h <;> cases h <;> rfl

end

section
variable {bm loc : BindMap} {pm pm' : Props} {cs : List Inbound} {os : List Outbound} {c : Inbound} {o : Outbound}
  {e : Entry} {err : Err} {t : Task}

theorem addIn_other (loc : BindMap) (pm : Props) {n : String}
    (hn : n ∉ cs.map Inbound.name) : Assoc.get (addIn loc pm cs) n = Assoc.get pm n := by
  fun_induction addIn loc pm cs with
  | case1 => rfl
  | case2 pm c cs e he ih =>
    rw [List.map_cons, List.mem_cons, not_or] at hn
    rw [ih hn.2, Assoc.get_set_ne _ _ (Ne.symm hn.1)]
  | case3 pm c cs he ih => exact ih (fun h => hn (List.mem_cons_of_mem _ h))

theorem addIn_mem (loc : BindMap) (pm : Props) (hnd : (cs.map Inbound.name).Nodup)
    (hc : c ∈ cs) (he : inboundFMQ loc c = some e) :
    Assoc.get (addIn loc pm cs) c.name = some e := by
  fun_induction addIn loc pm cs with
  | case1 => cases hc
  | case2 pm d cs e' he' ih =>
    rw [List.map_cons, List.nodup_cons] at hnd
    rcases List.mem_cons.mp hc with rfl | hc'
    · cases he.symm.trans he'
      exact (addIn_other _ _ hnd.1).trans (Assoc.get_set_self _ _ _)
    · exact ih hnd.2 hc'
  | case3 pm d cs he' ih =>
    rcases List.mem_cons.mp hc with rfl | hc'
    · cases he.symm.trans he'
    · exact ih (List.nodup_cons.mp hnd).2 hc'

theorem addOut_other (h : addOut bm pm os = .ok pm') {n : String}
    (hn : n ∉ os.map Outbound.name) : Assoc.get pm' n = Assoc.get pm n := by
  fun_induction addOut bm pm os with
  | case1 => cases h; rfl
  | case2 => cases h
  | case3 pm o os en hen ih =>
    rw [List.map_cons, List.mem_cons, not_or] at hn
    rw [ih h hn.2, Assoc.get_set_ne _ _ (Ne.symm hn.1)]

theorem addOut_mem (h : addOut bm pm os = .ok pm') (ho : o ∈ os) :
    ∃ e, outboundFMQ bm o = .ok e ∧ ((os.map Outbound.name).Nodup → Assoc.get pm' o.name = some e) := by
  fun_induction addOut bm pm os with
  | case1 => cases ho
  | case2 => cases h
  | case3 pm d os en hen ih =>
    rcases List.mem_cons.mp ho with rfl | ho'
    · exact ⟨en, hen, fun hnd => (addOut_other h (List.nodup_cons.mp hnd).1).trans (Assoc.get_set_self _ _ _)⟩
    · obtain ⟨e, he, hg⟩ := ih h ho'
      exact ⟨e, he, fun hnd => hg (List.nodup_cons.mp hnd).2⟩

theorem addOut_error (h : addOut bm pm os = .error err) : ∃ o ∈ os, outboundFMQ bm o = .error err := by
  fun_induction addOut bm pm os with
  | case1 => cases h
  | case2 pm o os e he =>
    cases h
    exact ⟨o, List.mem_cons_self, he⟩
  | case3 pm o os en hen ih =>
    obtain ⟨o', ho, hoe⟩ := ih h
    exact ⟨o', List.mem_cons_of_mem _ ho, hoe⟩

theorem mapE_ok {α β ε} {f : α → Except ε β} {xs : List α} {ys : List β} (h : mapE f xs = .ok ys) :
    ys.length = xs.length ∧ ∀ p ∈ xs.zip ys, f p.1 = .ok p.2 := by
  fun_induction mapE f xs generalizing ys with
  | case1 => cases h; exact ⟨rfl, nofun⟩
  | case2 => cases h
  | case3 => cases h
  | case4 x xs y hy ys' hys ih =>
    cases h
    obtain ⟨i1, i2⟩ := ih hys
    refine ⟨congrArg (· + 1) i1, fun p hp => ?_⟩
    rcases List.mem_cons.mp hp with rfl | hp
    · exact hy
    · exact i2 p hp

theorem mapE_error {α β ε} {f : α → Except ε β} {xs : List α} {e : ε} (h : mapE f xs = .error e) :
    ∃ x ∈ xs, f x = .error e := by
  fun_induction mapE f xs with
  | case1 => cases h
  | case2 x xs e' he' => cases h; exact ⟨x, List.mem_cons_self, he'⟩
  | case3 x xs y hy e' he' ih =>
    cases h
    obtain ⟨x', hx, hxe⟩ := ih he'
    exact ⟨x', List.mem_cons_of_mem _ hx, hxe⟩
  | case4 => cases h

theorem namesDistinct_parts (h : namesDistinct t) :
    (t.inbound.map Inbound.name).Nodup ∧ (t.outbound.map Outbound.name).Nodup ∧
    ∀ c ∈ t.inbound, c.name ∉ t.outbound.map Outbound.name := by
  obtain ⟨hi, ho, hd⟩ := List.nodup_append.mp h
  exact ⟨hi, ho, fun c hc hm => hd c.name (List.mem_map_of_mem hc) c.name hm rfl⟩

theorem taskProps_out (h : taskProps bm t = .ok pm)
    (ho : o ∈ t.outbound) :
    ∃ e, outboundFMQ bm o = .ok e ∧ (namesDistinct t → Assoc.get pm o.name = some e) := by
  obtain ⟨e, he, hg⟩ := addOut_mem h ho
  exact ⟨e, he, fun hnd => hg (namesDistinct_parts hnd).2.1⟩

theorem taskProps_in (h : taskProps bm t = .ok pm) (hnd : namesDistinct t)
    (hc : c ∈ t.inbound) (he : inboundFMQ t.loc c = some e) :
    Assoc.get pm c.name = some e :=
  (addOut_other h ((namesDistinct_parts hnd).2.2 c hc)).trans (addIn_mem _ _ (namesDistinct_parts hnd).1 hc he)

theorem taskProps_error (h : taskProps bm t = .error err) :
    ∃ o ∈ t.outbound, outboundFMQ bm o = .error err :=
  addOut_error h

end

section
variable {bm : BindMap} {cs : List Inbound} {es : List Endpoint} {c : Inbound} {e : Endpoint}

/-- What the loop writes, in order: for each channel its name, then its alias if it has one. -/
def allocWrites (ps : List (Inbound × Endpoint)) : BindMap :=
  ps.flatMap fun p => (p.1.name, p.2) :: if p.1.global.isEmpty then [] else [(aliasKey p.1.global, p.2)]

theorem allocLocal_eq (bm : BindMap) (cs : List Inbound) (es : List Endpoint) :
    allocLocal bm cs es = Assoc.setAll bm (allocWrites (cs.zip es)) := by
  induction cs generalizing bm es with
  | nil => rfl
  | cons c cs ih =>
    cases es with
    | nil => rfl
    | cons e es =>
      show allocLocal _ cs es = Assoc.setAll bm
        (((c.name, e) :: if c.global.isEmpty then [] else [(aliasKey c.global, e)]) ++ allocWrites (cs.zip es))
      rw [ih, Assoc.setAll_append]
      split <;> rfl

theorem mem_allocWrites {ps : List (Inbound × Endpoint)} {kv : String × Endpoint} :
    kv ∈ allocWrites ps ↔
      ∃ p ∈ ps, kv = (p.1.name, p.2) ∨ (p.1.global.isEmpty = false ∧ kv = (aliasKey p.1.global, p.2)) := by
  simp only [allocWrites, List.mem_flatMap, List.mem_cons]
  refine exists_congr fun p => and_congr_right fun _ => or_congr_right ?_
  split <;> simp [*]

theorem alloc_name (hnd : (cs.map Inbound.name).Nodup) (hna : ∀ c ∈ cs, isAlias c.name = false)
    (h : (c, e) ∈ cs.zip es) :
    Assoc.get (allocLocal bm cs es) c.name = some e := by
  rw [allocLocal_eq]
  refine Assoc.get_setAll_consistent _ _ _ _ (mem_allocWrites.mpr ⟨_, h, Or.inl rfl⟩) fun v' hv' => ?_
  obtain ⟨p, hp, hpe | ⟨_, hpe⟩⟩ := mem_allocWrites.mp hv'
  · rw [(Prod.mk.inj hpe).2]
    exact congrArg Prod.snd (List.zip_unique hnd hp h (Prod.mk.inj hpe).1.symm)
  · -- the channel's name is not an alias key
    have := hna c (List.of_mem_zip h).1
    rw [(Prod.mk.inj hpe).1, isAlias_aliasKey] at this
    cases this

theorem alloc_alias (hnd : (cs.map Inbound.name).Nodup) (hna : ∀ c ∈ cs, isAlias c.name = false)
    (hal : ∀ c ∈ cs, ∀ c' ∈ cs, c.global.isEmpty = false → c'.global.isEmpty = false →
      aliasKey c.global = aliasKey c'.global → c.name = c'.name)
    (h : (c, e) ∈ cs.zip es) (hg : c.global.isEmpty = false) :
    Assoc.get (allocLocal bm cs es) (aliasKey c.global) = some e := by
  rw [allocLocal_eq]
  refine Assoc.get_setAll_consistent _ _ _ _ (mem_allocWrites.mpr ⟨_, h, Or.inr ⟨hg, rfl⟩⟩) fun v' hv' => ?_
  obtain ⟨p, hp, hpe | ⟨hpg, hpe⟩⟩ := mem_allocWrites.mp hv'
  · have := hna p.1 (List.of_mem_zip hp).1
    rw [← (Prod.mk.inj hpe).1, isAlias_aliasKey] at this
    cases this
  · have hn := hal c (List.of_mem_zip h).1 p.1 (List.of_mem_zip hp).1 hg hpg (Prod.mk.inj hpe).1
    rw [(Prod.mk.inj hpe).2]
    exact congrArg Prod.snd (List.zip_unique hnd hp h hn.symm)

theorem alloc_mem {kv : String × Endpoint} (h : kv ∈ allocLocal [] cs es) :
    ∃ p ∈ cs.zip es, kv = (p.1.name, p.2) ∨ (p.1.global.isEmpty = false ∧ kv = (aliasKey p.1.global, p.2)) := by
  rw [allocLocal_eq] at h
  exact mem_allocWrites.mp ((Assoc.mem_setAll h).resolve_left nofun)

theorem alloc_alias_present (h : (c, e) ∈ cs.zip es) (hg : c.global.isEmpty = false) :
    (Assoc.get (allocLocal bm cs es) (aliasKey c.global)).isSome = true := by
  rw [allocLocal_eq]
  obtain ⟨v, _, hv⟩ := Assoc.get_setAll_mem bm _ _
    (List.mem_map_of_mem (f := (·.1)) (mem_allocWrites.mpr ⟨_, h, Or.inr ⟨hg, rfl⟩⟩))
  rw [hv]; rfl

end

section
/-- Two declarations that name one alias have one name. -/
def Agree (c d : Inbound) : Prop := c.global.isEmpty = false → c.global = d.global → c.name = d.name

/-- The owner recorded for `d`'s alias, if any, is `d`. -/
def Owned (owners : List (String × String)) (d : Inbound) : Prop :=
  d.global.isEmpty = false → ∀ n, Assoc.get owners d.global = some n → n = d.name

variable {owners : List (String × String)} {c d : Inbound} {cs : List Inbound}

theorem Agree.symm (h : Agree c d) : Agree d c := fun hg hk => (h (hk ▸ hg) hk.symm).symm

/-- With `c` recorded as owner of its alias, a later channel has to agree with the old owners and with `c`. -/
theorem Owned.set (hg : c.global.isEmpty = false) (hc : Owned owners c) :
    Owned (Assoc.set owners c.global c.name) d ↔ Owned owners d ∧ Agree c d := by
  constructor
  · intro h
    refine ⟨fun hd n hn => ?_, fun _ hk => h (hk ▸ hg) _ (hk ▸ Assoc.get_set_self _ _ _)⟩
    by_cases hk : c.global = d.global
    · exact (hc hg n (hk ▸ hn)).trans (h hd _ (hk ▸ Assoc.get_set_self _ _ _))
    · exact h hd n ((Assoc.get_set_ne _ _ hk).trans hn)
  · rintro ⟨ho, ha⟩ hd n hn
    rw [Assoc.get_set] at hn
    split at hn
    · next hk => exact (Option.some.inj hn).symm.trans (ha hg hk)
    · exact ho hd n hn

theorem Owned.set_all (hg : c.global.isEmpty = false) (hc : Owned owners c) :
    (∀ d ∈ cs, Owned (Assoc.set owners c.global c.name) d) ↔ (∀ d ∈ cs, Owned owners d) ∧ ∀ d ∈ cs, Agree c d :=
  ⟨fun h => ⟨fun d hd => ((Owned.set hg hc).mp (h d hd)).1, fun d hd => ((Owned.set hg hc).mp (h d hd)).2⟩,
    fun h d hd => (Owned.set hg hc).mpr ⟨h.1 d hd, h.2 d hd⟩⟩

/-- The scan passes iff every channel agrees with the owners handed in and any two channels agree. -/
theorem aliasScan_false : aliasScan owners cs = false ↔ (∀ d ∈ cs, Owned owners d) ∧ cs.Pairwise Agree := by
  fun_induction aliasScan owners cs with
  | case1 => exact ⟨fun _ => ⟨fun _ h => (nomatch h), .nil⟩, fun _ => rfl⟩
  | case2 owners c cs hg ih =>
    -- a channel without alias asks nothing
    have h1 : Owned owners c := fun h => nomatch hg.symm.trans h
    have h2 : ∀ d ∈ cs, Agree c d := fun _ _ h => nomatch hg.symm.trans h
    rw [ih, List.forall_mem_cons, List.pairwise_cons, and_iff_right h1, and_iff_right h2]
  | case3 owners c cs hg o ho hon =>
    exact ⟨nofun, fun h => absurd (h.1 c List.mem_cons_self (Bool.not_eq_true _ ▸ hg) o ho) (bne_iff_ne.mp hon)⟩
  | case4 owners c cs hg o ho hon ih =>
    have hc : Owned owners c := fun _ n hn =>
      (Option.some.inj (ho.symm.trans hn)).symm.trans (Classical.byContradiction fun hne => hon (bne_iff_ne.mpr hne))
    rw [ih, Owned.set_all (Bool.not_eq_true _ ▸ hg) hc, List.forall_mem_cons, List.pairwise_cons, and_iff_right hc,
      and_assoc]
  | case5 owners c cs hg ho ih =>
    have hc : Owned owners c := fun _ n hn => nomatch ho.symm.trans hn
    rw [ih, Owned.set_all (Bool.not_eq_true _ ▸ hg) hc, List.forall_mem_cons, List.pairwise_cons, and_iff_right hc,
      and_assoc]

theorem redefines_iff (t : Task) : redefines t = true ↔ AliasTwice t := by
  rw [← Bool.not_eq_false, redefines, aliasScan_false]
  constructor
  · intro h
    refine Classical.byContradiction fun hn => h ⟨fun _ _ _ _ hn => (nomatch hn), ?_⟩
    exact List.pairwise_of_forall_mem_list fun c hc d hd hg hk =>
      Classical.byContradiction fun hne => hn ⟨c, hc, d, hd, hg, hk, hne⟩
  · rintro ⟨c, hc, d, hd, hg, hk, hne⟩ ⟨_, hp⟩
    exact hne (hp.forall_of_forall_of_flip (fun _ _ _ _ => rfl) (hp.imp Agree.symm) hc hd hg hk)
end

theorem any_redefines_iff (tasks : List Task) : tasks.any redefines = true ↔ ∃ t ∈ tasks, AliasTwice t := by
  simp only [List.any_eq_true, redefines_iff]

section
variable {cfg : Cfg} {tasks : List Task} {bm : BindMap} {t : Task}

theorem configureWith_cases (cfg : Cfg) (tasks : List Task) :
    (cfg.aliasPerTask = true ∧ (∃ t ∈ tasks, AliasTwice t) ∧ configureWith cfg tasks = .error .aliasConflict) ∨
    ((cfg.aliasPerTask = false ∨ ∀ t ∈ tasks, ¬ AliasTwice t) ∧ configureWith cfg tasks = wire tasks) := by
  unfold configureWith
  cases cfg.aliasPerTask with
  | false => exact Or.inr ⟨Or.inl rfl, rfl⟩
  | true =>
    cases h2 : tasks.any redefines with
    | true => exact Or.inl ⟨rfl, (any_redefines_iff tasks).mp h2, rfl⟩
    | false =>
      refine Or.inr ⟨Or.inr fun t ht h => ?_, rfl⟩
      rw [(any_redefines_iff tasks).mpr ⟨t, ht, h⟩] at h2
      cases h2

theorem wire_cases (tasks : List Task) :
    ((∃ e, build [] (claims tasks) = .error e) ∧ wire tasks = .error .aliasConflict) ∨
    ∃ bm, build [] (claims tasks) = .ok bm ∧ wire tasks = mapE (taskProps bm) tasks := by
  unfold wire
  cases hb : build [] (claims tasks) with
  | error e => exact Or.inl ⟨⟨e, rfl⟩, by rw [build_error hb]⟩
  | ok bm => exact Or.inr ⟨bm, rfl, rfl⟩

theorem configureWith_ok {res : List Props} (h : configureWith cfg tasks = .ok res) :
    ∃ bm, build [] (claims tasks) = .ok bm ∧ res.length = tasks.length ∧
      ∀ p ∈ tasks.zip res, taskProps bm p.1 = .ok p.2 := by
  rcases configureWith_cases cfg tasks with ⟨_, _, he⟩ | ⟨_, he⟩
  · rw [he] at h; cases h
  · rcases wire_cases tasks with ⟨_, hw⟩ | ⟨bm, hb, hw⟩
    · rw [he, hw] at h; cases h
    · exact ⟨bm, hb, mapE_ok (hw ▸ he ▸ h)⟩

/-- A bind-map loop that fails fails the configuration, whatever the per-task check says. -/
theorem configureWith_of_build_error {e : Err} (hb : build [] (claims tasks) = .error e) :
    configureWith cfg tasks = .error .aliasConflict := by
  rcases configureWith_cases cfg tasks with ⟨_, _, he⟩ | ⟨_, he⟩
  · exact he
  · rcases wire_cases tasks with ⟨_, hw⟩ | ⟨bm, hb', _⟩
    · exact he.trans hw
    · cases hb.symm.trans hb'

theorem configureWith_error {e : Err} (h : configureWith cfg tasks = .error e) :
    (e = .aliasConflict ∧ ((∃ t ∈ tasks, AliasTwice t) ∨ ∃ e', build [] (claims tasks) = .error e')) ∨
    (e = .unmatched ∧ ∃ bm, build [] (claims tasks) = .ok bm ∧
      ∃ t ∈ tasks, ∃ o ∈ t.outbound, explicit o.target = false ∧ Assoc.get bm o.target = none) := by
  rcases configureWith_cases cfg tasks with ⟨_, h2, he⟩ | ⟨_, he⟩
  · rw [he] at h; cases h
    exact Or.inl ⟨rfl, Or.inl h2⟩
  · rcases wire_cases tasks with ⟨hb, hw⟩ | ⟨bm, hb, hw⟩
    · rw [he, hw] at h; cases h
      exact Or.inl ⟨rfl, Or.inr hb⟩
    · rw [he, hw] at h
      obtain ⟨t, ht, hte⟩ := mapE_error h
      obtain ⟨o, ho, hoe⟩ := taskProps_error hte
      obtain ⟨rfl, hx, hg⟩ := outboundFMQ_error hoe
      exact Or.inr ⟨rfl, bm, hb, t, ht, o, ho, hx, hg⟩

theorem legacy_eq_wire (tasks : List Task) : configureWith legacyCfg tasks = wire tasks := rfl

theorem claims_get (hb : build [] (claims tasks) = .ok bm) {k : String} {v : Endpoint}
    (hg : Assoc.get bm k = some v) :
    ∃ b ∈ tasks, ∃ kv ∈ b.loc, advKey b kv = k ∧ v = kv.2.toTarget b.host := by
  rcases build_provenance hb hg with h0 | ⟨cl, hcl, hkey, hval⟩
  · cases h0
  · obtain ⟨b, hbt, kv, hkv, rfl⟩ := mem_claims.mp hcl
    exact ⟨b, hbt, kv, hkv, hkey, hval.trans (claimOf_target _ _ _)⟩

theorem claims_present (hb : build [] (claims tasks) = .ok bm) {b : Task}
    (hbt : b ∈ tasks) {kv : String × Endpoint} (hkv : kv ∈ b.loc) : (Assoc.get bm (advKey b kv)).isSome = true :=
  build_present hb (Or.inr ⟨_, mem_claims.mpr ⟨b, hbt, kv, hkv, rfl⟩, rfl⟩)

theorem claims_alias_key (hk : keysSane (claims tasks) = true) :
    ∀ c ∈ claims tasks, c.alias = isAlias c.key := by
  intro c hc
  have h1 : (c.alias || !isAlias c.key) = true := List.all_eq_true.mp hk c hc
  obtain ⟨t, _, kv, _, rfl⟩ := mem_claims.mp hc
  cases ha : isAlias kv.1 with
  | true => rw [claimOf_alias, claimOf_key_alias _ _ ha, ha]
  | false =>
    rw [claimOf_alias, ha, Bool.false_or, Bool.not_eq_true'] at h1
    rw [claimOf_alias, ha, h1]

theorem launchOk_iff (t : Task) : launchOk t = true ↔
    (∀ c ∈ t.inbound, ∃ e, Assoc.get t.loc c.name = some e ∧ freshFor c e = true) ∧
    (∀ kv ∈ t.loc, ∃ c ∈ t.inbound, entryOf kv c ∧ Assoc.get t.loc c.name = some kv.2) ∧
    (∀ c ∈ t.inbound, c.global.isEmpty = false → (Assoc.get t.loc (aliasKey c.global)).isSome = true) ∧
    (∀ c ∈ t.inbound, isAlias c.name = false) := by
  simp only [launchOk, Bool.and_eq_true, List.all_eq_true, List.any_eq_true, decide_eq_true_eq,
    Bool.or_eq_true, Bool.not_eq_true', and_assoc]
  refine and_congr (forall₂_congr fun c _ => ?_) (and_congr Iff.rfl (and_congr (forall₂_congr fun c _ => ?_) Iff.rfl))
  · cases Assoc.get t.loc c.name <;> simp
  · cases c.global.isEmpty <;> simp

theorem launch_entry (hl : launchOk t = true) {kv : String × Endpoint} (hkv : kv ∈ t.loc) :
    ∃ c ∈ t.inbound, entryOf kv c ∧ Assoc.get t.loc c.name = some kv.2 ∧ freshFor c kv.2 = true := by
  obtain ⟨h1, h2, _⟩ := (launchOk_iff t).mp hl
  obtain ⟨c, hc, he, hg⟩ := h2 kv hkv
  obtain ⟨e, hge, hf⟩ := h1 c hc
  exact ⟨c, hc, he, hg, Option.some.inj (hge.symm.trans hg) ▸ hf⟩

/-- The launch gives every inbound channel an endpoint, so `Inbound.ToFMQMap` succeeds unless the
    channel's target is neither empty nor explicit. -/
theorem inboundFMQ_of_configurable (hl : launchOk t = true) {c : Inbound} (hc : c ∈ t.inbound)
    (hcf : configurable c = true) : ∃ e, inboundFMQ t.loc c = some e := by
  rcases (Bool.or_eq_true _ _).mp hcf with hemp | hex
  · obtain ⟨e, he, _⟩ := ((launchOk_iff t).mp hl).1 c hc
    exact ⟨_, by rw [inboundFMQ_empty hemp, he]; rfl⟩
  · exact ⟨_, inboundFMQ_explicit hex⟩

theorem advertised_of_not_twice (hl : launchOk t = true) (hn : ¬ AliasTwice t) : aliasesAdvertised t := by
  intro c hc hg e he
  obtain ⟨_, _, h3, h4⟩ := (launchOk_iff t).mp hl
  obtain ⟨e', he'⟩ := Option.isSome_iff_exists.mp (h3 c hc hg)
  have hmem : (aliasKey c.global, e') ∈ t.loc := Assoc.mem_of_get he'
  obtain ⟨c', hc', hent, hloc, _⟩ := launch_entry hl hmem
  -- the entry under the alias belongs to a channel naming this alias, hence to `c` itself
  have hsame : c'.name = c.name := by
    rcases hent with hnm | ⟨_, hk⟩
    · have := h4 c' hc'
      rw [← show aliasKey c.global = c'.name from hnm, isAlias_aliasKey] at this
      cases this
    · have hgg : c.global = c'.global := (String.append_right_inj _).mp hk
      exact Classical.byContradiction fun hne => hn ⟨c, hc, c', hc', hg, hgg, fun e => hne e.symm⟩
  refine ⟨(aliasKey c.global, e'), hmem, rfl, ?_⟩
  rw [hsame, he] at hloc
  exact (Option.some.inj hloc).symm

theorem wf_claims (hwf : WF tasks) :
    (∀ c ∈ claims tasks, c.alias = isAlias c.key) ∧ (∀ c ∈ claims tasks, validHost c.host = true) ∧
    (∀ c ∈ claims tasks, rawBound c.raw = true) := by
  refine ⟨claims_alias_key hwf.2, fun c hc => ?_, fun c hc => ?_⟩
  · obtain ⟨t, ht, kv, _, rfl⟩ := mem_claims.mp hc
    rw [claimOf_host]
    exact (hwf.1 t ht).2.1
  · obtain ⟨t, ht, kv, hkv, rfl⟩ := mem_claims.mp hc
    rw [claimOf_raw]
    obtain ⟨c', _, _, _, hf⟩ := launch_entry (hwf.1 t ht).1 hkv
    exact (freshFor_spec hf).1

end

theorem mergeBy_find {α} (name : α → String) (n : String) (hp lp : List α) :
    findName name n (mergeBy name hp lp) = (findName name n hp).or (findName name n lp) := by
  unfold mergeBy
  induction lp generalizing hp with
  | nil => exact Option.or_none.symm
  | cons v lp ih =>
    have hcons : findName name n (v :: lp) = if name v == n then some v else findName name n lp := by
      rw [findName, List.find?_cons]
      cases name v == n <;> rfl
    rw [List.foldl_cons, ih, hcons]
    split
    · rename_i hany
      cases hf : findName name n hp with
      | some x => rfl
      | none =>
        -- `v`'s name is taken in `hp` but `n` is not found there, so `v` is not named `n`
        obtain ⟨c, hc, hcn⟩ := List.any_eq_true.mp hany
        rw [← beq_iff_eq.mp hcn, if_neg (List.find?_eq_none.mp hf c hc)]
    · rw [findName, List.find?_append, ← findName, Option.or_assoc]
      cases hvn : name v == n <;> simp only [List.find?_cons, List.find?_nil, hvn, Option.none_or] <;> rfl

theorem Forest.append_nil (f : Forest) : f.append .nil = f := by
  induction f with
  | nil => rfl
  | agg n bb cc kids next _ ih => simp [Forest.append, ih]
  | task n cls h bb cc next ih => simp [Forest.append, ih]

theorem flatten_append (pfx : String) (b : List Inbound) (c : List Outbound) (f g : Forest) :
    flatten pfx b c (f.append g) = flatten pfx b c f ++ flatten pfx b c g := by
  induction f generalizing pfx b c with
  | nil => simp [Forest.append, flatten]
  | agg n bb cc kids next _ ih => simp [Forest.append, flatten, ih]
  | task n cls h bb cc next ih => simp [Forest.append, flatten, ih]

theorem ownDecls_append (f g : Forest) : ownDecls (f.append g) = ownDecls f ++ ownDecls g := by
  induction f with
  | nil => simp [Forest.append, ownDecls]
  | agg n bb cc kids next _ ih => simp [Forest.append, ownDecls, ih]
  | task n cls h bb cc next ih => simp [Forest.append, ownDecls, ih]

/-- A map of sibling lists that respects concatenation sends what an iterator generates to the
    concatenation of the images of its instances. -/
theorem foldr_append_hom {β} (f : Forest → List β) (hnil : f .nil = []) (happ : ∀ a b, f (a.append b) = f a ++ f b)
    (F : String → Forest) (vals : List String) :
    f (vals.foldr (fun x acc => (F x).append acc) .nil) = vals.flatMap fun x => f (F x) := by
  induction vals with
  | nil => exact hnil
  | cons x xs ih => rw [List.foldr_cons, happ, ih, List.flatMap_cons]

theorem inst_lit (c : Ctx) (s : String) : Tmpl.inst c [.lit s] = s := by
  simp [Tmpl.inst, Seg.inst]

theorem OutT_resolve_inst (c c' : Ctx) (o : OutT) : (o.resolve c).inst c' = o.inst c := by
  simp [OutT.resolve, OutT.inst, inst_lit]

theorem InT_resolve_inst (c c' : Ctx) (b : InT) : (b.resolve c).inst c' = b.inst c := by
  simp [InT.resolve, InT.inst, inst_lit]

theorem OutT_resolve_idem (c c' : Ctx) (o : OutT) : (o.resolve c).resolve c' = o.resolve c := by
  simp [OutT.resolve, inst_lit]

theorem InT_resolve_idem (c c' : Ctx) (b : InT) : (b.resolve c).resolve c' = b.resolve c := by
  simp [InT.resolve, inst_lit]

theorem Cell.resolve_read (x : Cell) : x.resolve.read = x.read := by
  simp [Cell.resolve, Cell.read, List.map_map, Function.comp_def, OutT_resolve_inst, InT_resolve_inst]

theorem Cell.resolve_idem (x : Cell) : x.resolve.resolve = x.resolve := by
  simp [Cell.resolve, List.map_map, Function.comp_def, OutT_resolve_idem, InT_resolve_idem]

theorem toT_inst_out (c : Ctx) (o : Outbound) : o.toT.inst c = o := by
  simp [Outbound.toT, OutT.inst, inst_lit]

theorem toT_inst_in (c : Ctx) (b : Inbound) : b.toT.inst c = b := by
  simp [Inbound.toT, InT.inst, inst_lit]

theorem expand_toT (c : Ctx) (f : Forest) : expand c f.toT = f := by
  induction f generalizing c with
  | nil => rfl
  | agg n bb cc kids next ih1 ih2 =>
    simp [Forest.toT, expand, inst_lit, ih1, ih2, List.map_map, Function.comp_def, toT_inst_out, toT_inst_in]
  | task n cls h bb cc next ih =>
    simp [Forest.toT, expand, inst_lit, ih, List.map_map, Function.comp_def, toT_inst_out, toT_inst_in]

theorem ownDecls_expand (c : Ctx) (f : TForest) :
    ownDecls (expand c f) = (cells c f).map Cell.read := by
  induction f generalizing c with
  | nil => rfl
  | agg n bb cc kids next ih1 ih2 => simp [expand, cells, ownDecls, ih1, ih2, Cell.read]
  | task n cls h bb cc next ih => simp [expand, cells, ownDecls, ih, Cell.read]
  | iter v vals body next ih1 ih2 =>
    simp only [expand, cells, ownDecls_append, foldr_append_hom ownDecls rfl ownDecls_append,
      List.foldr_append_eq_append, List.append_nil, ← List.flatMap_def, ih1, ih2, List.map_append, List.map_flatMap]

theorem modAt_eq_modify {α} (f : α → α) (l : List α) (i : Nat) : modAt f l i = l.modify i f := by
  induction l generalizing i with
  | nil => rw [modAt, List.modify_nil]
  | cons x xs ih =>
    cases i with
    | zero => rfl
    | succ i => rw [modAt, ih, List.modify_succ_cons]

theorem getElem?_modAt {α} (f : α → α) (l : List α) (i j : Nat) :
    (modAt f l i)[j]? = if j = i then l[j]?.map f else l[j]? := by
  rw [modAt_eq_modify]
  split
  · next h => rw [h, List.getElem?_modify_eq]; rfl
  · next h => exact List.getElem?_modify_ne f l (Ne.symm h)

theorem processOrder_get (st : List Cell) (ord : List Nat) (j : Nat) :
    (processOrder st ord)[j]? = if j ∈ ord then st[j]?.map Cell.resolve else st[j]? := by
  unfold processOrder
  induction ord generalizing st with
  | nil => rfl
  | cons i ord ih =>
    rw [List.foldl_cons, ih, getElem?_modAt]
    by_cases hji : j = i
    · rw [if_pos hji, if_pos (List.mem_cons.mpr (Or.inl hji))]
      split
      · rw [Option.map_map]
        exact congrArg (Option.map · st[j]?) (funext Cell.resolve_idem)
      · rfl
    · rw [if_neg hji]
      simp only [List.mem_cons, hji, false_or]

theorem processOrder_all (st : List Cell) (ord : List Nat) (hall : ∀ j, j < st.length → j ∈ ord) :
    processOrder st ord = st.map Cell.resolve := by
  apply List.ext_getElem?
  intro j
  rw [processOrder_get, List.getElem?_map]
  split
  · rfl
  · rename_i hj
    rw [List.getElem?_eq_none (Nat.le_of_not_lt fun h => hj (hall j h))]
    rfl

end Channels
