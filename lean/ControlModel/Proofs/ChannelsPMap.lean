/-
  Proofs/ChannelsPMap — lemmas about the WHOLE property map of a task (C13): the loops of
  BuildPropertyMap as one `setAll` of the generated keys over the declared ones, what the map says
  about a channel (`readEntry`) against the channel-level model (`taskProps`), and monotonicity of
  the Spec in the channel entries. Core Lean only.
-/
import ControlModel.Proofs.Channels

namespace Channels

theorem setAll_nil (pm : PMap) : setAll pm [] = pm := rfl

theorem setAll_append (pm a b : PMap) : setAll pm (a ++ b) = setAll (setAll pm a) b :=
  Assoc.setAll_append pm a b

theorem get_setAll_not_mem (pm kvs : PMap) (k : Key) (h : k ∉ kvs.map (·.1)) :
    Assoc.get (setAll pm kvs) k = Assoc.get pm k :=
  Assoc.get_setAll_not_mem pm kvs k h

theorem get_setAll_or (pm kvs : PMap) (k : Key) :
    Assoc.get (setAll pm kvs) k = (Assoc.get (setAll [] kvs) k).or (Assoc.get pm k) :=
  Assoc.get_setAll_or pm kvs k

theorem addInP_eq (loc : BindMap) (pm : PMap) (cs : List Inbound) :
    addInP loc pm cs = setAll pm (inKVs loc cs) := by
  fun_induction addInP loc pm cs with
  | case1 => rfl
  | case2 pm c cs e he ih => rw [ih, inKVs, he, setAll_append]
  | case3 pm c cs he ih => rw [ih, inKVs, he]

theorem addOutP_eq (bm : BindMap) (pm : PMap) (os : List Outbound) :
    addOutP bm pm os = match outKVs bm os with
      | .error e => .error e
      | .ok r => .ok (setAll pm r) := by
  fun_induction addOutP bm pm os with
  | case1 => rfl
  | case2 pm o os e he => rw [outKVs, he]
  | case3 pm o os en hen ih =>
    rw [ih, outKVs, hen]
    cases outKVs bm os with
    | error e => rfl
    | ok r => exact congrArg Except.ok (setAll_append _ _ _).symm

/-- BuildPropertyMap: the generated keys (which do not depend on the declared properties) laid
    over / under the declared ones, by configuration. -/
theorem buildPMap_eq (cfg : Cfg) (bm : BindMap) (t : Task) :
    buildPMap cfg bm t = match genKVs bm t.loc t.inbound t.outbound with
      | .error e => .error e
      | .ok g => .ok (if cfg.generatedLast then setAll (setAll baseProps t.props) g
                      else setAll (setAll baseProps g) t.props) := by
  unfold buildPMap genKVs
  simp only [addOutP_eq, addInP_eq]
  cases outKVs bm t.outbound with
  | error e => rfl
  | ok r =>
    cases cfg.generatedLast <;> simp [setAll_append]

theorem buildPMap_error_iff {cfg : Cfg} {bm : BindMap} {t : Task} {e : Err} :
    buildPMap cfg bm t = .error e ↔ genKVs bm t.loc t.inbound t.outbound = .error e := by
  rw [buildPMap_eq]
  cases genKVs bm t.loc t.inbound t.outbound with
  | error e' => exact ⟨fun h => h, fun h => h⟩
  | ok g => exact ⟨nofun, nofun⟩

theorem buildPMap_ok {cfg : Cfg} {bm : BindMap} {t : Task} {pm : PMap} (h : buildPMap cfg bm t = .ok pm) :
    ∃ g, genKVs bm t.loc t.inbound t.outbound = .ok g ∧
      (cfg.generatedLast = true → pm = setAll (setAll baseProps t.props) g) ∧
      (cfg.generatedLast = false → pm = setAll (setAll baseProps g) t.props) := by
  rw [buildPMap_eq] at h
  cases hg : genKVs bm t.loc t.inbound t.outbound with
  | error e => rw [hg] at h; cases h
  | ok g =>
    rw [hg] at h
    cases Except.ok.inj h
    exact ⟨g, rfl, fun hc => if_pos hc, fun hc => if_neg (hc ▸ Bool.false_ne_true)⟩

section
variable {bm loc : BindMap} {t : Task} {g : PMap} {n : String} {m : Misc} {e : Entry} {kv : Key × String}
  {cs : List Inbound} {os : List Outbound} {c : Inbound} {o : Outbound}

theorem mem_fmqMap :
    kv ∈ fmqMap n m e ↔ kv = (.sockets n, "1") ∨ ∃ f ∈ fieldsOf e.method, kv = (.chan n f, fieldVal m e f) := by
  simp [fmqMap, eq_comm]

def Key.owner : Key → Option String
  | .chan n _ => some n
  | .sockets n => some n
  | .other _ => none

theorem fmqMap_owner (h : kv ∈ fmqMap n m e) :
    kv.1.owner = some n := by
  rcases mem_fmqMap.mp h with rfl | ⟨f, _, rfl⟩ <;> rfl

theorem fmqMap_functional {k : Key} {v v' : String}
    (h : (k, v) ∈ fmqMap n m e) (h' : (k, v') ∈ fmqMap n m e) : v = v' := by
  rcases mem_fmqMap.mp h with h1 | ⟨f, _, h1⟩ <;> rcases mem_fmqMap.mp h' with h2 | ⟨f', _, h2⟩
  · cases h1; cases h2; rfl
  · cases h1; cases h2
  · cases h1; cases h2
  · cases h1; cases h2; rfl

def Configured (bm : BindMap) (t : Task) (n : String) (m : Misc) (e : Entry) : Prop :=
  (∃ c ∈ t.inbound, c.name = n ∧ c.misc = m ∧ inboundFMQ t.loc c = some e) ∨
  (∃ o ∈ t.outbound, o.name = n ∧ o.misc = m ∧ outboundFMQ bm o = .ok e)

theorem Configured.inbound (hc : c ∈ t.inbound) (he : inboundFMQ t.loc c = some e) : Configured bm t c.name c.misc e :=
  Or.inl ⟨c, hc, rfl, rfl, he⟩

theorem Configured.outbound (ho : o ∈ t.outbound) (he : outboundFMQ bm o = .ok e) : Configured bm t o.name o.misc e :=
  Or.inr ⟨o, ho, rfl, rfl, he⟩

theorem mem_chanNames_in (h : c ∈ t.inbound) : c.name ∈ chanNames t :=
  List.mem_append_left _ (List.mem_map_of_mem h)

theorem mem_chanNames_out (h : o ∈ t.outbound) : o.name ∈ chanNames t :=
  List.mem_append_right _ (List.mem_map_of_mem h)

theorem Configured.mem_chanNames (h : Configured bm t n m e) : n ∈ chanNames t := by
  rcases h with ⟨c, hc, rfl, _⟩ | ⟨o, ho, rfl, _⟩
  · exact mem_chanNames_in hc
  · exact mem_chanNames_out ho

theorem Configured.unique (hnd : namesDistinct t) {m' : Misc} {e' : Entry}
    (h : Configured bm t n m e) (h' : Configured bm t n m' e') : m = m' ∧ e = e' := by
  obtain ⟨hi, ho, hd⟩ := namesDistinct_parts hnd
  rcases h with ⟨c, hc, rfl, rfl, he⟩ | ⟨o, ho1, rfl, rfl, he⟩ <;>
    rcases h' with ⟨c', hc', hn, rfl, he'⟩ | ⟨o', ho', hn, rfl, he'⟩
  · cases List.inj_of_nodup_map hi hc' hc hn
    exact ⟨rfl, Option.some.inj (he.symm.trans he')⟩
  · exact absurd (hn ▸ List.mem_map_of_mem ho') (hd c hc)
  · exact absurd (hn.symm ▸ List.mem_map_of_mem ho1) (hd c' hc')
  · cases List.inj_of_nodup_map ho ho' ho1 hn
    exact ⟨rfl, Except.ok.inj (he.symm.trans he')⟩

theorem mem_inKVs :
    kv ∈ inKVs loc cs ↔ ∃ c ∈ cs, ∃ e, inboundFMQ loc c = some e ∧ kv ∈ fmqMap c.name c.misc e := by
  fun_induction inKVs loc cs with
  | case1 => exact ⟨nofun, fun ⟨_, h, _⟩ => nomatch h⟩
  | case2 c cs e he ih =>
    simp only [List.mem_append, ih, List.mem_cons, or_and_right, exists_or, exists_eq_left, he, Option.some.injEq,
      exists_eq_left']
  | case3 c cs he ih =>
    simp only [ih, List.mem_cons, or_and_right, exists_or, exists_eq_left, he, reduceCtorEq, false_and, exists_false,
      false_or]

theorem mem_outKVs {r : PMap} (h : outKVs bm os = .ok r) :
    kv ∈ r ↔ ∃ o ∈ os, ∃ e, outboundFMQ bm o = .ok e ∧ kv ∈ fmqMap o.name o.misc e := by
  fun_induction outKVs bm os generalizing r with
  | case1 => cases h; exact ⟨nofun, fun ⟨_, h, _⟩ => nomatch h⟩
  | case2 => cases h
  | case3 => cases h
  | case4 o os en hen r' hr' ih =>
    cases h
    simp only [List.mem_append, ih hr', List.mem_cons, or_and_right, exists_or, exists_eq_left, hen,
      Except.ok.injEq, exists_eq_left']

theorem outKVs_all {r : PMap} (h : outKVs bm os = .ok r)
    (ho : o ∈ os) : ∃ e, outboundFMQ bm o = .ok e := by
  fun_induction outKVs bm os generalizing r with
  | case1 => cases ho
  | case2 => cases h
  | case3 => cases h
  | case4 d os en hen r' hr' ih =>
    rcases List.mem_cons.mp ho with rfl | ho
    · exact ⟨en, hen⟩
    · exact ih hr' ho

theorem genKVs_ok {inb : List Inbound} {out : List Outbound}
    (h : genKVs bm loc inb out = .ok g) : ∃ r, outKVs bm out = .ok r ∧ g = inKVs loc inb ++ r := by
  unfold genKVs at h
  split at h
  · cases h
  · rename_i r hr
    exact ⟨r, hr, (Except.ok.inj h).symm⟩

theorem genKVs_out {inb : List Inbound} {out : List Outbound}
    (h : genKVs bm loc inb out = .ok g) (ho : o ∈ out) : ∃ e, outboundFMQ bm o = .ok e := by
  obtain ⟨r, hr, _⟩ := genKVs_ok h
  exact outKVs_all hr ho

theorem mem_genKVs (h : genKVs bm t.loc t.inbound t.outbound = .ok g) :
    kv ∈ g ↔ ∃ n m e, Configured bm t n m e ∧ kv ∈ fmqMap n m e := by
  obtain ⟨r, hr, rfl⟩ := genKVs_ok h
  rw [List.mem_append, mem_inKVs, mem_outKVs hr]
  constructor
  · rintro (⟨c, hc, e, he, hkv⟩ | ⟨o, ho, e, he, hkv⟩)
    · exact ⟨_, _, e, .inbound hc he, hkv⟩
    · exact ⟨_, _, e, .outbound ho he, hkv⟩
  · rintro ⟨n, m, e, ⟨c, hc, rfl, rfl, he⟩ | ⟨o, ho, rfl, rfl, he⟩, hkv⟩
    · exact Or.inl ⟨c, hc, e, he, hkv⟩
    · exact Or.inr ⟨o, ho, e, he, hkv⟩

theorem genKVs_owned (h : genKVs bm t.loc t.inbound t.outbound = .ok g) {k : Key}
    (hk : k ∈ g.map (·.1)) : ownsKey t k = true := by
  obtain ⟨kv, hkv, rfl⟩ := List.mem_map.mp hk
  obtain ⟨n, m, e, hc, hm⟩ := (mem_genKVs h).mp hkv
  have hn : (chanNames t).contains n = true := List.contains_iff_mem.mpr hc.mem_chanNames
  rcases mem_fmqMap.mp hm with rfl | ⟨f, _, rfl⟩ <;> exact hn

theorem genKVs_block (h : genKVs bm t.loc t.inbound t.outbound = .ok g)
    (hnd : namesDistinct t) (hc : Configured bm t n m e)
    {k : Key} {v : String} (hkv : (k, v) ∈ fmqMap n m e) (pm : PMap) :
    Assoc.get (setAll pm g) k = some v := by
  refine Assoc.get_setAll_consistent _ _ _ _ ((mem_genKVs h).mpr ⟨n, m, e, hc, hkv⟩) fun v' hv' => ?_
  -- whoever wrote `k` is a channel called `n`; there is only one
  obtain ⟨n', m', e', hc', hkv'⟩ := (mem_genKVs h).mp hv'
  have h1 : k.owner = some n' := fmqMap_owner hkv'
  have h2 : k.owner = some n := fmqMap_owner hkv
  cases Option.some.inj (h1.symm.trans h2)
  obtain ⟨rfl, rfl⟩ := hc.unique hnd hc'
  exact fmqMap_functional hkv' hkv

theorem fieldVal_misc (m : Misc) (e : Entry) (f : Field) (hf1 : f ≠ .address) (hf2 : f ≠ .transport) :
    fieldVal m e f = fieldVal m ⟨e.method, "", .default⟩ f := by
  cases f <;> first | rfl | exact absurd rfl hf1 | exact absurd rfl hf2

/-- Clause 5 for one configured channel: its block reaches the map whatever was there before. -/
theorem miscOk_of_configured (h : genKVs bm t.loc t.inbound t.outbound = .ok g) (hnd : namesDistinct t)
    (hc : Configured bm t n m e) (pm : PMap) : miscOk (setAll pm g) n e.method m :=
  ⟨genKVs_block h hnd hc (mem_fmqMap.mpr (Or.inl rfl)) pm, fun f hf h1 h2 => by
    rw [genKVs_block h hnd hc (mem_fmqMap.mpr (Or.inr ⟨f, hf, rfl⟩)) pm, fieldVal_misc _ _ _ h1 h2]⟩

end

theorem Method.parse_name (m : Method) : Method.parse? m.name = some m := by cases m <;> decide +kernel

theorem Transport.parse_name (t : Transport) : Transport.parse? t.name = some t := by cases t <;> decide +kernel

/-- The whole property map `pm` tells what the channel-level model tells; `RelE`/`RelL`/`RelLE`: with errors, per task, both. -/
def Rel (pm : PMap) (props : Props) : Prop :=
  ∀ n e, Assoc.get props n = some e → readEntry pm n = some e

theorem get_setAll_fmq_field (pm : PMap) (n : String) (m : Misc) (e : Entry) (f : Field)
    (hf : f ∈ fieldsOf e.method) :
    Assoc.get (setAll pm (fmqMap n m e)) (.chan n f) = some (fieldVal m e f) := by
  apply Assoc.get_setAll_consistent
  · exact mem_fmqMap.mpr (Or.inr ⟨f, hf, rfl⟩)
  · intro v' hv'
    exact fmqMap_functional hv' (mem_fmqMap.mpr (Or.inr ⟨f, hf, rfl⟩))

theorem readEntry_setAll_fmq_self (pm : PMap) (n : String) (m : Misc) (e : Entry) :
    readEntry (setAll pm (fmqMap n m e)) n = some e := by
  have hf : Field.address ∈ fieldsOf e.method ∧ Field.method ∈ fieldsOf e.method ∧
      Field.transport ∈ fieldsOf e.method := by cases e.method <;> decide
  rw [readEntry, get_setAll_fmq_field _ _ _ _ _ hf.1, get_setAll_fmq_field _ _ _ _ _ hf.2.1,
    get_setAll_fmq_field _ _ _ _ _ hf.2.2]
  simp only [fieldVal, Method.parse_name, Transport.parse_name]

theorem readEntry_setAll_fmq_ne (pm : PMap) (n n' : String) (m : Misc) (e : Entry) (h : n' ≠ n) :
    readEntry (setAll pm (fmqMap n m e)) n' = readEntry pm n' := by
  have hk : ∀ f, Key.chan n' f ∉ (fmqMap n m e).map (·.1) := by
    intro f hin
    obtain ⟨x, hx, hxk⟩ := List.mem_map.mp hin
    have := fmqMap_owner hx
    rw [hxk] at this
    exact h (Option.some.inj this)
  unfold readEntry
  rw [get_setAll_not_mem _ _ _ (hk _), get_setAll_not_mem _ _ _ (hk _), get_setAll_not_mem _ _ _ (hk _)]

theorem Rel_step {pm : PMap} {props : Props} (h : Rel pm props) (n : String) (m : Misc) (e : Entry) :
    Rel (setAll pm (fmqMap n m e)) (Assoc.set props n e) := by
  intro n' e' hg
  rw [Assoc.get_set] at hg
  split at hg
  · next hn =>
    cases hn; cases hg
    exact readEntry_setAll_fmq_self _ _ _ _
  · next hn =>
    rw [readEntry_setAll_fmq_ne _ _ _ _ _ (Ne.symm hn)]
    exact h n' e' hg

theorem addIn_rel (loc : BindMap) {pm : PMap} {props : Props} (h : Rel pm props) (cs : List Inbound) :
    Rel (addInP loc pm cs) (addIn loc props cs) := by
  induction cs generalizing pm props with
  | nil => exact h
  | cons c cs ih =>
    unfold addInP addIn
    split
    · exact ih (Rel_step h _ _ _)
    · exact ih h

def RelE : Except Err PMap → Except Err Props → Prop
  | .ok a, .ok b => Rel a b
  | .error e, .error e' => e = e'
  | _, _ => False

theorem addOut_rel (bm : BindMap) {pm : PMap} {props : Props} (h : Rel pm props) (os : List Outbound) :
    RelE (addOutP bm pm os) (addOut bm props os) := by
  induction os generalizing pm props with
  | nil => exact h
  | cons o os ih =>
    unfold addOutP addOut
    split
    · rfl
    · exact ih (Rel_step h _ _ _)

/-- In the code as it is (generated keys written last) the property map of a task tells each of
    its channels what the channel-level model says. -/
theorem buildPMap_rel (cfg : Cfg) (hc : cfg.generatedLast = true) (bm : BindMap) (t : Task) :
    RelE (buildPMap cfg bm t) (taskProps bm t) := by
  unfold buildPMap taskProps
  simp only [hc, if_true]
  have h0 : Rel (setAll baseProps t.props) [] := by
    intro n e hg; simp [Assoc.get] at hg
  have := addOut_rel bm (addIn_rel t.loc h0 t.inbound) t.outbound
  revert this
  cases addOutP bm (addInP t.loc (setAll baseProps t.props) t.inbound) t.outbound <;>
    cases addOut bm (addIn t.loc [] t.inbound) t.outbound <;> exact id

def RelL : List PMap → List Props → Prop
  | [], [] => True
  | a :: as, b :: bs => Rel a b ∧ RelL as bs
  | _, _ => False

def RelLE : Except Err (List PMap) → Except Err (List Props) → Prop
  | .ok a, .ok b => RelL a b
  | .error e, .error e' => e = e'
  | _, _ => False

theorem RelLE.cases {a : Except Err (List PMap)} {b : Except Err (List Props)} (h : RelLE a b) :
    (∃ e, a = .error e ∧ b = .error e) ∨ ∃ pms res, a = .ok pms ∧ b = .ok res ∧ RelL pms res := by
  cases a <;> cases b
  · exact Or.inl ⟨_, rfl, congrArg Except.error (Eq.symm h)⟩
  · exact h.elim
  · exact h.elim
  · exact Or.inr ⟨_, _, rfl, rfl, h⟩

theorem mapE_rel {f : Task → Except Err PMap} {g : Task → Except Err Props} (xs : List Task)
    (h : ∀ x, RelE (f x) (g x)) : RelLE (mapE f xs) (mapE g xs) := by
  induction xs with
  | nil => trivial
  | cons x xs ih =>
    unfold mapE
    have hx := h x
    revert hx
    cases f x <;> cases g x <;> intro hx
    · exact hx
    · exact hx.elim
    · exact hx.elim
    · simp only
      revert ih
      cases mapE f xs <;> cases mapE g xs <;> intro ih
      · exact ih
      · exact ih.elim
      · exact ih.elim
      · exact ⟨hx, ih⟩

theorem configureP_rel (cfg : Cfg) (hc : cfg.generatedLast = true) (tasks : List Task) :
    RelLE (configurePWith cfg tasks) (configureWith cfg tasks) := by
  unfold configurePWith configureWith
  split
  · rfl
  · unfold wireP wire
    cases build [] (claims tasks) with
    | error e => rfl
    | ok bm => exact mapE_rel tasks (buildPMap_rel cfg hc bm)

theorem RelL_length {a : List PMap} {b : List Props} (h : RelL a b) : a.length = b.length := by
  induction a generalizing b with
  | nil => cases b <;> first | rfl | exact h.elim
  | cons x xs ih =>
    cases b with
    | nil => exact h.elim
    | cons y ys => simp [ih h.2]

theorem configurePWith_ok {cfg : Cfg} {tasks : List Task} {pms : List PMap} (h : configurePWith cfg tasks = .ok pms) :
    ∃ bm, build [] (claims tasks) = .ok bm ∧ pms.length = tasks.length ∧
      ∀ p ∈ tasks.zip pms, buildPMap cfg bm p.1 = .ok p.2 := by
  unfold configurePWith at h
  split at h
  · cases h
  · unfold wireP at h
    split at h
    · cases h
    · rename_i bm hb
      exact ⟨bm, hb, mapE_ok h⟩

theorem view_get (t : Task) (pm : PMap) (n : String) :
    Assoc.get (view t pm) n = if n ∈ chanNames t then readEntry pm n else none :=
  Assoc.get_tabulate (chanNames t) (readEntry pm) n

/-- What `Spec` is monotone in: on `t`'s channels `v` says whatever `props` says. -/
def SubOn (t : Task) (props v : Props) : Prop :=
  ∀ n ∈ chanNames t, ∀ e, Assoc.get props n = some e → Assoc.get v n = some e

theorem Rel_sub (t : Task) {pm : PMap} {props : Props} (h : Rel pm props) : SubOn t props (view t pm) := by
  intro n hn e hg
  rw [view_get, if_pos hn]
  exact h n e hg

section
variable {tasks : List Task} {pms : List PMap} {res : List Props}

/-- `RelL` in the form `Spec` quantifies: members of the two zips. -/
theorem zip_corr (h : RelL pms res) :
    (∀ t v, (t, v) ∈ tasks.zip (viewAll tasks pms) → ∃ r, (t, r) ∈ tasks.zip res ∧ SubOn t r v) ∧
    (∀ t r, (t, r) ∈ tasks.zip res → ∃ v, (t, v) ∈ tasks.zip (viewAll tasks pms) ∧ SubOn t r v) := by
  induction tasks generalizing pms res with
  | nil => simp
  | cons t ts ih =>
    cases pms with
    | nil => cases res with
      | nil => simp [viewAll]
      | cons y ys => exact h.elim
    | cons x xs =>
      cases res with
      | nil => exact h.elim
      | cons y ys =>
        obtain ⟨ih1, ih2⟩ := ih (pms := xs) (res := ys) h.2
        have hv : viewAll (t :: ts) (x :: xs) = view t x :: viewAll ts xs := rfl
        simp only [hv, List.zip_cons_cons, List.mem_cons, Prod.mk.injEq]
        constructor
        · rintro t' v (⟨rfl, rfl⟩ | hp)
          · exact ⟨y, Or.inl ⟨rfl, rfl⟩, Rel_sub t' h.1⟩
          · exact (ih1 t' v hp).imp fun r hr => ⟨Or.inr hr.1, hr.2⟩
        · rintro t' r (⟨rfl, rfl⟩ | hp)
          · exact ⟨view t' x, Or.inl ⟨rfl, rfl⟩, Rel_sub t' h.1⟩
          · exact (ih2 t' r hp).imp fun v hv => ⟨Or.inr hv.1, hv.2⟩

theorem matchedVia_mono {w : Bool} {t tq : Task} {pp pq vp vq : Props} {o : Outbound} {kv : String × Endpoint}
    (ho : o ∈ t.outbound) (hp : SubOn t pp vp) (hq : SubOn tq pq vq)
    (h : matchedVia w (t, pp) (tq, pq) o kv) : matchedVia w (t, vp) (tq, vq) o kv := by
  obtain ⟨h1, h2, c, hc, h3, h4, h5, h6⟩ := h
  exact ⟨h1, hp _ (mem_chanNames_out ho) _ h2, c, hc, h3, h4, h5,
    fun hw => hq _ (mem_chanNames_in hc) _ (h6 hw)⟩

theorem Matched_mono {w : Bool} (h : RelL pms res) (hm : Matched w tasks res) :
    Matched w tasks (viewAll tasks pms) := by
  obtain ⟨c1, c2⟩ := zip_corr (tasks := tasks) h
  intro ⟨t, v⟩ hp' o ho hne
  obtain ⟨r, hp, hps⟩ := c1 t v hp'
  obtain ⟨⟨tq, rq⟩, hq, kv, hkv, hvia⟩ := hm (t, r) hp o ho hne
  obtain ⟨vq, hq', hqs⟩ := c2 tq rq hq
  exact ⟨(tq, vq), hq', kv, hkv, matchedVia_mono ho hps hqs hvia⟩

theorem Passthrough_mono (h : RelL pms res) (hm : Passthrough tasks res) :
    Passthrough tasks (viewAll tasks pms) := by
  intro ⟨t, v⟩ hp'
  obtain ⟨r, hp, hps⟩ := (zip_corr h).1 t v hp'
  obtain ⟨ho, hi⟩ := hm (t, r) hp
  exact ⟨fun o hoo hex => hps _ (mem_chanNames_out hoo) _ (ho o hoo hex),
         fun c hcc hex => hps _ (mem_chanNames_in hcc) _ (hi c hcc hex)⟩

theorem SpecW_mono {a b : Bool} (h : RelL pms res) (hs : SpecW a b tasks (.ok res)) :
    SpecW a b tasks (.ok (viewAll tasks pms)) := by
  obtain ⟨hl, hm, hp, hu, hc⟩ := hs
  refine ⟨?_, Matched_mono h hm, Passthrough_mono h hp, hu, hc⟩
  rw [viewAll, List.length_zipWith, RelL_length h, hl, Nat.min_self]

end

end Channels
