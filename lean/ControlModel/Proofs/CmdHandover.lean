/-
  Proofs/CmdHandover — the queue layer (Model/CmdHandover) on top of the
  servent / commit layer: the hand-over of an answer is a rendezvous that waits
  for the caller, and a queue works on one command at a time.
  Core Lean only.
-/
import ControlModel.Proofs.CmdQueue

namespace CmdQueue

variable {cmds : List Cmd} {qof : Nat → Nat}

theorem qrun_eq_foldl (cmds : List Cmd) (qof : Nat → Nat) : ∀ (sched : List QStep) (s : QState),
    qrun cmds qof s sched = sched.foldl (qstep cmds qof) s
  | [], _ => rfl
  | st :: rest, s => qrun_eq_foldl cmds qof rest (qstep cmds qof s st)

theorem qrun_append (cmds : List Cmd) (qof : Nat → Nat) (a b : List QStep) (s : QState) :
    qrun cmds qof s (a ++ b) = qrun cmds qof (qrun cmds qof s a) b := by
  simp only [qrun_eq_foldl, List.foldl_append]

theorem qrun_induction {Q : QState → Prop} {sched : List QStep} {s : QState}
    (hs : Q s) (hstep : ∀ s, ∀ st ∈ sched, Q s → Q (qstep cmds qof s st)) : Q (qrun cmds qof s sched) := by
  rw [qrun_eq_foldl]
  exact List.foldlRecOn sched _ hs fun s hs st hm => hstep s st hm hs

/-- What an enabled step of the queue layer does: a step of the base layer (a dequeue only
    while the consumer is free), a caller starting to listen, or the rendezvous. -/
inductive QMoves (cmds : List Cmd) (qof : Nat → Nat) (s : QState) : QStep → QState → Prop
  | base {b} : (∀ c, b = .start c → holds qof cmds.length s c = false) →
      QMoves cmds qof s (.base b) { s with base := step cmds s.base b }
  | listen {c} : QMoves cmds qof s (.listen c) { s with listening := upd s.listening c true }
  | take {c res} : s.listening c = true → s.taken c = false → offered s c = some res →
      QMoves cmds qof s (.take c) { s with taken := upd s.taken c true, received := s.received ++ [(c, res)] }

theorem qstep_moves (cmds : List Cmd) (qof : Nat → Nat) (s : QState) (st : QStep) :
    qstep cmds qof s st = s ∨ QMoves cmds qof s st (qstep cmds qof s st) := by
  fun_cases qstep cmds qof s st with
  | case1 | case6 | case7 | case8 => exact .inl rfl
  | case2 c hh => exact .inr (.base fun c' e => by cases e; exact eq_false_of_ne_true hh)
  | case3 b hb => exact .inr (.base fun c e => (hb c e).elim)
  | case4 => exact .inr .listen
  | case5 c hen res ho => exact .inr (.take hen.1 hen.2 ho)

theorem qstep_lift {Q : State → Prop} (s : QState) (st : QStep)
    (hstep : ∀ b, Q s.base → Q (step cmds s.base b)) (hq : Q s.base) : Q (qstep cmds qof s st).base := by
  rcases qstep_moves cmds qof s st with e | m
  · rw [e]; exact hq
  generalize qstep cmds qof s st = s' at m
  cases m with
  | base _ => exact hstep _ hq
  | listen | take => exact hq

/-- The queue discipline only removes behaviours of the base layer. -/
theorem base_reachable (cmds : List Cmd) (qof : Nat → Nat) (sched : List QStep) (s : QState) :
    ∃ bs, (qrun cmds qof s sched).base = run cmds s.base bs := by
  simp only [qrun_eq_foldl, run_eq_foldl]
  refine foldl_refines (π := QState.base) (fun s st => ?_) sched s
  rcases qstep_moves cmds qof s st with e | m
  · exact ⟨[], by rw [e]; rfl⟩
  generalize qstep cmds qof s st = s' at m
  cases m with
  | base _ => exact ⟨[_], rfl⟩
  | listen | take => exact ⟨[], rfl⟩

/-- What holds in every state of the queue layer, besides `Reach` of its base state:
    * `taken_listening`/`taken_received`/`received_callback`/`received_nodup`: a caller has been served only if it
      listens, and then it has received exactly one value, which is the callback of its command;
    * `one_at_a_time`: of the dequeued commands of one queue at most one has not been taken by its caller. -/
structure QInv (cmds : List Cmd) (qof : Nat → Nat) (s : QState) : Prop where
  reach : Reach cmds s.base
  taken_listening : ∀ c, s.taken c = true → s.listening c = true
  taken_received : ∀ c, s.taken c = true → ∃ res, (c, res) ∈ s.received
  received_callback : ∀ c res, (c, res) ∈ s.received → s.taken c = true ∧ (c, res) ∈ s.base.callbacks
  received_nodup : (s.received.map (·.1)).Nodup
  one_at_a_time : ∀ c c', c ≠ c' → qof c = qof c' → s.base.started c = true → s.taken c = false →
        s.base.started c' = true → s.taken c' = true

theorem qinv_init (cmds : List Cmd) (qof : Nat → Nat) : QInv cmds qof qinit :=
  ⟨reach_init cmds, nofun, nofun, nofun, List.nodup_nil, nofun⟩

theorem holds_false {n : Nat} {s : QState} {c : Nat} (h : holds qof n s c = false)
    {c' : Nat} (hlt : c' < n) (hne : c' ≠ c) (hq : qof c' = qof c) (hst : s.base.started c' = true) :
    s.taken c' = true := by
  cases ht : s.taken c' with
  | true => rfl
  | false =>
    rw [holds, List.any_eq_false] at h
    simpa [hne, hq, hst, ht] using h c' (List.mem_range.mpr hlt)

theorem offered_mem {s : QState} {c : Nat} {res : Result} (h : offered s c = some res) :
    (c, res) ∈ s.base.callbacks := by
  obtain ⟨⟨c', r⟩, hf, hr⟩ := Option.map_eq_some_iff.mp h
  cases hr
  cases beq_iff_eq.mp (List.find?_some (p := fun e : Nat × Result => e.1 == c) hf)
  exact List.mem_of_find?_eq_some hf

theorem offered_of_mem {s : QState} (hnd : (s.base.callbacks.map (·.1)).Nodup) {c : Nat} {res : Result}
    (hm : (c, res) ∈ s.base.callbacks) : offered s c = some res := by
  rw [offered, List.find?_key hnd hm fun _ => beq_iff_eq]; rfl

theorem qinv_step (h : wfCfg cmds = true) {s : QState}
    (inv : QInv cmds qof s) (st : QStep) : QInv cmds qof (qstep cmds qof s st) := by
  rcases qstep_moves cmds qof s st with e | m
  · rw [e]; exact inv
  generalize qstep cmds qof s st = s' at m
  cases m with
  | @base b hfree =>
    refine { inv with
      reach := reach_step h inv.reach b
      received_callback := fun x res hm => ⟨(inv.received_callback x res hm).1, ?_⟩, one_at_a_time := ?_ }
    · obtain ⟨extra, he⟩ := callbacks_step cmds s.base b
      exact he ▸ List.mem_append_left _ (inv.received_callback x res hm).2
    · show ∀ c c', c ≠ c' → qof c = qof c' → (step cmds s.base b).started c = true → s.taken c = false →
        (step cmds s.base b).started c' = true → s.taken c' = true
      rcases started_step cmds s.base b with e | ⟨c0, rfl, e⟩ <;> rw [e]
      · exact inv.one_at_a_time
      · -- `c0` is the command being dequeued: every other dequeued command of its queue has been served
        have served := fun {x} => holds_false (c' := x) (hfree c0 rfl)
        intro x y hxy hq hx' htx hy'
        rcases upd_true.mp hx' with rfl | hx <;> rcases upd_true.mp hy' with rfl | hy
        · exact absurd rfl hxy
        · exact served (inv.reach.commit.started_lt y hy) (Ne.symm hxy) hq.symm hy
        · rw [served (inv.reach.commit.started_lt x hx) hxy hq hx] at htx; cases htx
        · exact inv.one_at_a_time x y hxy hq hx htx hy
  | @listen c => exact { inv with taken_listening := fun x hx => upd_true.mpr (.inr (inv.taken_listening x hx)) }
  | @take c res hl hnt hoff =>
    refine { inv with
      taken_listening := fun x hx => ?_, taken_received := fun x hx => ?_, received_callback := fun x r hm => ?_
      received_nodup := ?_, one_at_a_time := fun a b hab hq ha hta hb => ?_ }
    · rcases upd_true.mp hx with rfl | hx
      · exact hl
      · exact inv.taken_listening x hx
    · rcases upd_true.mp hx with rfl | hx
      · exact ⟨res, List.mem_append_right _ List.mem_cons_self⟩
      · exact (inv.taken_received x hx).imp fun _ hr => List.mem_append_left _ hr
    · rcases List.mem_append.mp hm with hm | hm
      · exact ⟨upd_true.mpr (.inr (inv.received_callback x r hm).1), (inv.received_callback x r hm).2⟩
      · cases List.mem_singleton.mp hm
        exact ⟨upd_same _ _ _, offered_mem hoff⟩
    · rw [List.map_append]
      refine inv.received_nodup.concat fun ha => ?_
      obtain ⟨⟨x, r⟩, hm, hx⟩ := List.mem_map.mp ha
      cases (show x = c from hx)
      rw [(inv.received_callback _ r hm).1] at hnt; cases hnt
    · refine upd_true.mpr (.inr (inv.one_at_a_time a b hab hq ha ?_ hb))
      exact Bool.eq_false_iff.mpr fun ht => Bool.eq_false_iff.mp hta (upd_true.mpr (.inr ht))

theorem qinv_run (h : wfCfg cmds = true) (sched : List QStep) {s : QState}
    (inv : QInv cmds qof s) : QInv cmds qof (qrun cmds qof s sched) :=
  qrun_induction inv fun _ st _ inv => qinv_step h inv st

theorem offered_step (s : QState) (st : QStep) {c : Nat} {res : Result}
    (h : offered s c = some res) : offered (qstep cmds qof s st) c = some res := by
  rcases qstep_moves cmds qof s st with e | m
  · rw [e]; exact h
  generalize qstep cmds qof s st = s' at m
  cases m with
  | @base b _ =>
    obtain ⟨extra, he⟩ := callbacks_step cmds s.base b
    simp only [offered, he, List.find?_append] at h ⊢
    cases hf : s.base.callbacks.find? (fun e => e.1 == c) with
    | none => rw [hf] at h; cases h
    | some x => rw [hf] at h; exact h
  | listen | take => exact h

theorem taken_step (s : QState) (st : QStep) {c : Nat} (hne : st ≠ .take c) :
    (qstep cmds qof s st).taken c = s.taken c := by
  rcases qstep_moves cmds qof s st with e | m
  · rw [e]
  generalize qstep cmds qof s st = s' at m
  cases m with
  | base | listen => rfl
  | @take c' _ _ _ _ => exact upd_other _ _ _ fun e => hne (e ▸ rfl)

theorem take_enabled {s : QState} {c : Nat} {res : Result}
    (hl : s.listening c = true) (ht : s.taken c = false) (ho : offered s c = some res) :
    qstep cmds qof s (.take c) =
      { s with taken := upd s.taken c true, received := s.received ++ [(c, res)] } := by
  simp only [qstep, if_pos (And.intro hl ht), ho]

theorem listen_take {s : QState} (inv : QInv cmds qof s) {c : Nat} {res : Result}
    (ho : offered s c = some res) (ht : s.taken c = false) :
    (qstep cmds qof (qstep cmds qof s (.listen c)) (.take c)).taken c = true ∧
      ∀ res', (c, res') ∈ (qstep cmds qof (qstep cmds qof s (.listen c)) (.take c)).received ↔ res' = res := by
  rw [take_enabled (s := qstep cmds qof s (.listen c)) (upd_same _ _ _) ht ho]
  refine ⟨upd_same _ _ _, fun res' => ⟨fun hm => ?_, fun e => e ▸ List.mem_append_right _ List.mem_cons_self⟩⟩
  rcases List.mem_append.mp hm with hm | hm
  · rw [(inv.received_callback c res' hm).1] at ht; cases ht
  · cases List.mem_singleton.mp hm; rfl

theorem offered_waits {c : Nat} {res : Result} (later : List QStep) {s : QState}
    (ho : offered s c = some res) (ht : s.taken c = false) (hn : QStep.take c ∉ later) :
    offered (qrun cmds qof s later) c = some res ∧ (qrun cmds qof s later).taken c = false :=
  qrun_induction (Q := fun s => offered s c = some res ∧ s.taken c = false) ⟨ho, ht⟩ fun s st hm ⟨ho, ht⟩ =>
    ⟨offered_step s st ho, by rw [taken_step s st fun e => hn (e ▸ hm)]; exact ht⟩

/-- The record so far and the state agree. -/
structure TraceInv (before : List Ev) (s : QState) : Prop where
  listening_recorded : ∀ c, s.listening c = true → before.any (isListen c) = true
  recorded_started : ∀ c, before.any (dequeues c) = true → s.base.started c = true
  taken_recorded : ∀ c, s.taken c = true → before.any (isDone c) = true

theorem traceInv_init : TraceInv [] qinit := ⟨nofun, nofun, nofun⟩

theorem TraceInv.snoc {before : List Ev} {s s' : QState} (tr : TraceInv before s) (e : Ev)
    (hl : ∀ c, s'.listening c = true → s.listening c = true ∨ isListen c e = true)
    (ht : ∀ c, s'.taken c = true → s.taken c = true ∨ isDone c e = true)
    (hs : ∀ c, s.base.started c = true → s'.base.started c = true)
    (hd : ∀ c, dequeues c e = true → s'.base.started c = true) : TraceInv (before ++ [e]) s' := by
  refine ⟨fun c hc => ?_, fun c hc => ?_, fun c hc => ?_⟩ <;>
    simp only [List.any_append, List.any_cons, List.any_nil, Bool.or_false, Bool.or_eq_true] at hc ⊢
  · exact (hl c hc).imp_left (tr.listening_recorded c)
  · exact hc.elim (fun hc => hs c (tr.recorded_started c hc)) (hd c)
  · exact (ht c hc).imp_left (tr.taken_recorded c)

/-- While a dequeued command waits for its caller, no caller of another command of
    the same queue is at its send. -/
theorem send_waits (h : wfCfg cmds = true) {qs : List Nat} {s : QState}
    (inv : QInv cmds (queueOf qs) s) {before : List Ev} (tr : TraceInv before s) (late : List Nat)
    {i : Ref} (hreg : (s.base.call i).pc = .registered) (t : Nat) (ok : Bool) (tmo arg : Nat) :
    handoverStep qs late before (.send i.1 t ok tmo arg) = true := by
  simp only [handoverStep, List.all_eq_true, List.mem_range, Bool.or_eq_true, Bool.not_eq_true', bne_iff_ne, ne_eq,
    beq_iff_eq]
  intro c _
  by_cases h1 : c = i.1
  · exact .inl (.inl (.inl (.inl h1)))
  by_cases h2 : queueOf qs c = queueOf qs i.1
  · by_cases h3 : before.any (isListen c) = true
    · exact .inl (.inr h3)
    · by_cases h4 : before.any (dequeues c) = true
      · exfalso
        have hnl : s.listening c = false := Bool.eq_false_iff.mpr fun hl => h3 (tr.listening_recorded c hl)
        have hnt : s.taken c = false := Bool.eq_false_iff.mpr fun ht => by rw [inv.taken_listening c ht] at hnl; cases hnl
        have hst' : s.base.started i.1 = true := (inv.reach.servent.callOk i).dequeued (by rw [hreg]; nofun)
        obtain ⟨res, hres⟩ := inv.taken_received _ (inv.one_at_a_time c i.1 h1 h2 (tr.recorded_started c h4) hnt hst')
        exact no_caller_left h inv.reach (inv.received_callback _ res hres).2 i.2 (.inl hreg)
      · exact .inr (Bool.eq_false_iff.mpr h4)
  · exact .inl (.inl (.inl (.inr h2)))

theorem trace_step (h : wfCfg cmds = true) {qs : List Nat} {s : QState}
    (inv : QInv cmds (queueOf qs) s) {before : List Ev} (tr : TraceInv before s) (late : List Nat) (st : QStep) :
    match emitQ cmds s st with
    | none => TraceInv before (qstep cmds (queueOf qs) s st)
    | some e => handoverStep qs late before e = true ∧ TraceInv (before ++ [e]) (qstep cmds (queueOf qs) s st) := by
  have started := fun c hc => qstep_lift (qof := queueOf qs) (Q := fun b => b.started c = true) s st (fun b hb => started_mono cmds _ b hb) hc
  cases st with
  | base b =>
    have same : (qstep cmds (queueOf qs) s (.base b)).listening = s.listening ∧
        (qstep cmds (queueOf qs) s (.base b)).taken = s.taken := by
      rcases qstep_moves cmds (queueOf qs) s (.base b) with e | m
      · rw [e]; exact ⟨rfl, rfl⟩
      · generalize qstep cmds (queueOf qs) s (.base b) = s' at m; cases m; exact ⟨rfl, rfl⟩
    cases he : emitQ cmds s (.base b) with
    | none =>
      exact ⟨fun c hc => tr.listening_recorded c (same.1 ▸ hc), fun c hc => started c (tr.recorded_started c hc),
        fun c hc => tr.taken_recorded c (same.2 ▸ hc)⟩
    | some e =>
      obtain ⟨i, ok, hreg, hv⟩ := emitSend_some he
      obtain ⟨x, _, rfl⟩ := Option.map_eq_some_iff.mp hv
      refine ⟨send_waits h inv tr late hreg _ ok _ _, tr.snoc _ (fun c hc => .inl (same.1 ▸ hc))
        (fun c hc => .inl (same.2 ▸ hc)) started fun c hc => ?_⟩
      cases beq_iff_eq.mp hc
      exact started _ ((inv.reach.servent.callOk i).dequeued (by rw [hreg]; nofun))
  | listen c =>
    refine ⟨rfl, tr.snoc _ (fun x hx => ?_) (fun _ hx => .inl hx) (fun _ hx => hx) nofun⟩
    exact (upd_true.mp hx).elim (fun e => .inr (beq_iff_eq.mpr e.symm)) .inl
  | take c =>
    by_cases hen : s.listening c = true ∧ s.taken c = false
    · cases hoff : offered s c with
      | none => simp only [emitQ, qstep, if_pos hen, hoff, Option.map_none]; exact tr
      | some res =>
        simp only [emitQ, qstep, if_pos hen, hoff, Option.map_some]
        refine ⟨?_, tr.snoc _ (fun _ hx => .inl hx) (fun x hx => ?_) (fun _ hx => hx) nofun⟩
        · rw [handoverStep, Bool.or_eq_true]; exact .inr (tr.listening_recorded c hen.1)
        · exact (upd_true.mp hx).elim (fun e => .inr (beq_iff_eq.mpr e.symm)) .inl
    · simp only [emitQ, qstep, if_neg hen]; exact tr
  | probe c =>
    by_cases hco : s.base.completed c = true
    · simp only [emitQ, qstep, if_pos hco]
      refine ⟨?_, tr.snoc _ (fun _ hx => .inl hx) (fun _ hx => .inl hx) (fun _ hx => hx) fun x hx => ?_⟩
      · rw [handoverStep, Bool.or_eq_true]
        cases ht : s.taken c with
        | false => exact .inl rfl
        | true => exact .inr (tr.taken_recorded c ht)
      · cases beq_iff_eq.mp hx; exact inv.reach.commit.completed_started _ hco
    · simp only [emitQ, qstep, if_neg hco]; exact tr

theorem handover_trace (h : wfCfg cmds = true) (qs : List Nat) (late : List Nat) :
    ∀ (sched : List QStep) (s : QState) (before : List Ev), QInv cmds (queueOf qs) s → TraceInv before s →
      handoverFrom qs late before (qtrace cmds (queueOf qs) s sched) = true
  | [], _, _, _, _ => rfl
  | st :: rest, s, before, inv, tr => by
    have hs := trace_step h inv tr late st
    have inv' := qinv_step h inv st
    rw [qtrace]
    cases he : emitQ cmds s st with
    | none =>
      rw [he] at hs
      exact handover_trace h qs late rest _ _ inv' hs
    | some e =>
      rw [he] at hs
      rw [Option.toList, List.singleton_append, handoverFrom, Bool.and_eq_true]
      exact ⟨hs.1, handover_trace h qs late rest _ _ inv' hs.2⟩

end CmdQueue
