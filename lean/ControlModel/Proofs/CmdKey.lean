/- Proofs/CmdKey — with the code's key (the whole target) the assignment of
   targets to executors does not enter the Servent model: `runK codeKey ex = run`. -/
import ControlModel.Model.CmdKey

namespace CmdQueue

theorem projKey_code (ex : Nat → Nat) (k : CallId) : projKey codeKey ex k = k := by
  simp [projKey, codeKey]

theorem finishK_code (s : State) (i : Ref) (k : CallId) (o : Outcome) (u : Bool) :
    finishK s i k k.target o u = finish s i k o u := rfl

theorem stepK_code (ex : Nat → Nat) (cmds : List Cmd) (s : State) (st : Step) :
    stepK codeKey ex cmds s st = step cmds s st := by
  -- both sides unfold to the same term: `projKey codeKey ex k` reduces to `k`, `finishK … k k.target` to `finish … k`
  cases st <;> rfl

theorem runK_code (ex : Nat → Nat) (cmds : List Cmd) (s : State) (sched : List Step) :
    runK codeKey ex cmds s sched = run cmds s sched := by
  induction sched generalizing s with
  | nil => rfl
  | cons st rest ih => simp only [runK, run, stepK_code, ih]

end CmdQueue
