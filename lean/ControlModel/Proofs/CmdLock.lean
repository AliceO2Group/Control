/-
  Proofs/CmdLock — lemmas about the lock layer (Model/CmdLock): projection to the
  queue and base layers, the mutex is free at rest under `codeLock`, liveness over
  the refined steps, the reply that arrives in a leave window, and the wedge under
  `deferLock`. Core Lean only.
-/
import ControlModel.Proofs.CmdHandover

namespace CmdQueue

variable {cfg : LockCfg} {cmds : List Cmd} {qof : Nat → Nat}

theorem lrun_eq_foldl (cfg : LockCfg) (cmds : List Cmd) (qof : Nat → Nat) : ∀ (ls : List LStep) (s : LState),
    lrun cfg cmds qof s ls = ls.foldl (lstep cfg cmds qof) s
  | [], _ => rfl
  | st :: rest, s => lrun_eq_foldl cfg cmds qof rest (lstep cfg cmds qof s st)

theorem lrun_append (cfg : LockCfg) (cmds : List Cmd) (qof : Nat → Nat) (a b : List LStep) (s : LState) :
    lrun cfg cmds qof s (a ++ b) = lrun cfg cmds qof (lrun cfg cmds qof s a) b := by
  simp only [lrun_eq_foldl, List.foldl_append]

theorem lrun_induction {Q : LState → Prop} {ls : List LStep} {s : LState}
    (hs : Q s) (hstep : ∀ s, ∀ st ∈ ls, Q s → Q (lstep cfg cmds qof s st)) : Q (lrun cfg cmds qof s ls) := by
  rw [lrun_eq_foldl]
  exact List.foldlRecOn ls _ hs fun s hs st hm => hstep s st hm hs

theorem lstep_q (cfg : LockCfg) (cmds : List Cmd) (qof : Nat → Nat) (s : LState) (st : LStep) :
    (lstep cfg cmds qof s st).q = s.q ∨ ∃ qst, lproj s st = some qst ∧ (lstep cfg cmds qof s st).q = qstep cmds qof s.q qst := by
  simp only [lstep]
  cases lproj s st with
  | none => exact .inl rfl
  | some qst => exact .inr ⟨qst, rfl, rfl⟩

theorem lrun_refines (cfg : LockCfg) (cmds : List Cmd) (qof : Nat → Nat) (ls : List LStep) (s : LState) :
    ∃ qs, (lrun cfg cmds qof s ls).q = qrun cmds qof s.q qs := by
  simp only [lrun_eq_foldl, qrun_eq_foldl]
  exact foldl_refines (π := LState.q) (g := qstep cmds qof)
    (fun s st => (lstep_q cfg cmds qof s st).elim (fun e => ⟨[], e⟩) fun ⟨qst, _, e⟩ => ⟨[qst], e⟩) ls s

theorem lstep_base (cfg : LockCfg) (cmds : List Cmd) (qof : Nat → Nat) (s : LState) (st : LStep) :
    (lstep cfg cmds qof s st).q.base = s.q.base ∨
      ∃ b, lproj s st = some (.base b) ∧ (lstep cfg cmds qof s st).q.base = step cmds s.q.base b := by
  rcases lstep_q cfg cmds qof s st with e | ⟨qst, hp, e⟩ <;> rw [e]
  · exact .inl rfl
  rcases qstep_moves cmds qof s.q qst with e | m
  · exact .inl (by rw [e])
  generalize qstep cmds qof s.q qst = s' at m
  cases m with
  | base _ => exact .inr ⟨_, hp, rfl⟩
  | listen | take => exact .inl rfl

theorem lstep_lift {Q : State → Prop} (s : LState) (st : LStep)
    (hstep : ∀ b, Q s.q.base → Q (step cmds s.q.base b)) (hq : Q s.q.base) : Q (lstep cfg cmds qof s st).q.base := by
  rcases lstep_base cfg cmds qof s st with e | ⟨b, _, e⟩ <;> rw [e]
  · exact hq
  · exact hstep b hq

/-- The base layer's atomic send failure / timeout is let through only as the `unregister` of a
    caller that has left. -/
theorem lproj_base {s : LState} {st : LStep} {b : Step} (h : lproj s st = some (.base b)) :
    match b with
    | .start _ | .complete _ => True
    | .register _ | .deliver _ => s.mu = none
    | .sendOk i | .recv i => s.left i = false
    | .sendFail i | .timeout i => s.left i = true ∧ s.mu = none := by
  have free : ∀ {b' : Step}, (if s.mu.isSome = true then none else some b') = some b → s.mu = none ∧ b' = b := by
    intro b' h; split at h
    · cases h
    · next hm => cases h; exact ⟨Option.not_isSome_iff_eq_none.mp hm, rfl⟩
  have stays : ∀ {i : Ref} {b' : Step}, (if s.left i = true then none else some b') = some b → s.left i = false ∧ b' = b := by
    intro i b' h; split at h
    · cases h
    · next hl => cases h; exact ⟨Bool.eq_false_iff.mpr hl, rfl⟩
  cases st with
  | expire | look => cases h
  | unregister i =>
    simp only [lproj] at h; split at h
    · next hg => split at h <;> cases h <;> exact hg
    · cases h
  | q qst =>
    cases qst with
    | listen | take | probe => cases h
    | base b' =>
      obtain ⟨b'', h, e⟩ := Option.map_eq_some_iff.mp h
      cases e
      cases b' with
      | sendFail | timeout => cases h
      | start | complete => cases h; trivial
      | register | deliver => obtain ⟨hm, rfl⟩ := free h; exact hm
      | sendOk | recv => obtain ⟨hl, rfl⟩ := stays h; exact hl

/-- What holds in every state of the lock layer: the queue layer's invariant, and — when the
    mutex is released before the hand-over — a mutex that is free between steps. -/
structure LInv (cfg : LockCfg) (cmds : List Cmd) (qof : Nat → Nat) (s : LState) : Prop where
  queue : QInv cmds qof s.q
  mutex_free : cfg.lockSpansSend = false → s.mu = none

theorem linv_init (cfg : LockCfg) (cmds : List Cmd) (qof : Nat → Nat) : LInv cfg cmds qof linit :=
  ⟨qinv_init cmds qof, fun _ => rfl⟩

theorem lmu_none (hc : cfg.lockSpansSend = false) {s : LState} (hm : s.mu = none) (st : LStep) :
    lmu cfg s st = none := by
  cases st with
  | q qst =>
    cases qst with
    | base b =>
      cases b with
      | deliver r => simp only [lmu, hm, hc, Option.isSome_none, Bool.false_eq_true, if_false]; split <;> rfl
      | recv i => simp only [lmu, hm]; split <;> rfl
      | _ => exact hm
    | _ => exact hm
  | _ => exact hm

theorem linv_step (h : wfCfg cmds = true) {s : LState}
    (inv : LInv cfg cmds qof s) (st : LStep) : LInv cfg cmds qof (lstep cfg cmds qof s st) := by
  refine ⟨?_, fun hc => lmu_none hc (inv.mutex_free hc) st⟩
  rcases lstep_q cfg cmds qof s st with e | ⟨qst, _, e⟩ <;> rw [e]
  · exact inv.queue
  · exact qinv_step h inv.queue qst

theorem linv_run (h : wfCfg cmds = true) (ls : List LStep)
    {s : LState} (inv : LInv cfg cmds qof s) : LInv cfg cmds qof (lrun cfg cmds qof s ls) :=
  lrun_induction inv fun _ st _ inv => linv_step h inv st

/-- register; send; leave; unregister — whatever state caller `i` of a dequeued command is in, these four
    steps (each a no-op when it does not apply) make it return, provided the mutex is free. -/
def sendAndLeave (i : Ref) : List LStep := [.q (.base (.register i)), .q (.base (.sendOk i)), .expire i, .unregister i]

theorem sendAndLeave_finishes {s : LState} {i : Ref} {k : CallId}
    (hk : keyOf? cmds i = some k) (hst : s.q.base.started i.1 = true) (hmu : s.mu = none) :
    ∃ o, ((lrun cfg cmds qof s (sendAndLeave i)).q.base.call i).pc = .finished o := by
  cases hpc : (s.q.base.call i).pc <;> cases hl : s.left i <;>
    simp [sendAndLeave, lrun, lstep, lproj, lprojB, lmu, lleft, lleaked, canExpire, qstep, step, hk, hst, hmu, hpc, hl, upd, finish]

/-- Holds from any reachable state, callers in their leave windows and replies parked for ever in
    their hand-over included: when the mutex is released before the hand-over nothing can hold it
    (`LInv.mutex_free`). -/
theorem lcan_complete (h : wfCfg cmds = true)
    (hcfg : cfg.lockSpansSend = false) {s : LState} (inv : LInv cfg cmds qof s)
    {c : Nat} {cmd : Cmd} (hc : cmds[c]? = some cmd) (hst : s.q.base.started c = true) :
    ∃ res, (c, res) ∈ (lrun cfg cmds qof s
      ((List.range cmd.targets.length).flatMap (fun p => sendAndLeave (c, p)) ++ [.q (.base (.complete c))])).q.base.callbacks := by
  rw [lrun_append]
  let J := fun s : LState => LInv cfg cmds qof s ∧ s.q.base.started c = true
  have hJ : ∀ s st, J s → J (lstep cfg cmds qof s st) := fun s st ⟨inv, hs⟩ =>
    ⟨linv_step h inv st, lstep_lift (Q := fun b => b.started c = true) s st (fun b hb => started_mono cmds _ b hb) hs⟩
  generalize hs1 : lrun cfg cmds qof s _ = s1
  have ⟨inv1, hst1⟩ : J s1 := hs1 ▸ lrun_induction (Q := J) ⟨inv, hst⟩ fun s st _ => hJ s st
  refine complete_delivers h inv1.queue.reach.commit hc hst1 fun p t hp => ?_
  rw [← hs1, lrun_eq_foldl]
  refine foldl_serves (f := lstep cfg cmds qof) (J := J) (served := fun s p => ∃ o, (s.q.base.call (c, p)).pc = .finished o)
    hJ (fun s st p hf => lstep_lift (Q := fun b => ∃ o, (b.call (c, p)).pc = .finished o) s st
      (fun b ⟨o, ho⟩ => ⟨o, finished_step cmds _ b ho⟩) hf)
    _ (fun s p hp ⟨inv, hs⟩ => ?_) s ⟨inv, hst⟩ p (List.mem_range.mpr (List.getElem?_eq_some_iff.mp hp).1)
  rw [← lrun_eq_foldl]
  exact sendAndLeave_finishes (keyOf_of hc (List.getElem?_eq_getElem (List.mem_range.mp hp))) hs (inv.mutex_free hcfg)

theorem window_reply (hcfg : cfg.lockSpansSend = false)
    {s : LState} (inv : Inv cmds s.q.base) (hmu : s.mu = none) {i : Ref} {r : Resp}
    (hl : s.left i = true) (hp : s.q.base.pending r.key = some i) :
    let s1 := lstep cfg cmds qof s (.q (.base (.deliver r)))
    r ∈ s1.leaked ∧ s1.mu = none ∧ (s1.q.base.call i).pc = (s.q.base.call i).pc ∧ s1.q.base.pending r.key = none ∧
      ∃ o, (o = .sendErr ∨ o = .timeoutErr) ∧
        ((lstep cfg cmds qof s1 (.unregister i)).q.base.call i).pc = .finished o ∧
        ((lstep cfg cmds qof s (.unregister i)).q.base.call i).pc = .finished o := by
  obtain ⟨hk, hpc, _⟩ := (inv.pending_iff _ _).mp hp
  rcases hpc with hpc | hpc
  · refine ⟨?_, ?_, ?_, ?_, .sendErr, .inl rfl, ?_, ?_⟩ <;>
      simp [lstep, lproj, lprojB, lmu, lleft, lleaked, qstep, step, hmu, hp, hl, hcfg, hpc, hk, upd, finish]
  · refine ⟨?_, ?_, ?_, ?_, .timeoutErr, .inr rfl, ?_, ?_⟩ <;>
      simp [lstep, lproj, lprojB, lmu, lleft, lleaked, qstep, step, hmu, hp, hl, hcfg, hpc, hk, upd, finish]

theorem leaked_step (s : LState) (st : LStep) : ∃ extra, lleaked s st = extra ++ s.leaked := by
  fun_cases lleaked s st with
  | case2 r | case5 _ _ r => exact ⟨[r], rfl⟩
  | case1 | case3 | case4 | case6 | case7 | case8 => exact ⟨[], rfl⟩

theorem leaked_run (ls : List LStep) {s : LState} {r : Resp}
    (hr : r ∈ s.leaked) : r ∈ (lrun cfg cmds qof s ls).leaked :=
  lrun_induction (Q := fun s => r ∈ s.leaked) hr fun s st _ hr => by
    obtain ⟨extra, he⟩ := leaked_step s st
    show r ∈ lleaked s st
    rw [he]; exact List.mem_append_right _ hr

theorem wedgedFor_free {s : LState} (hm : s.mu = none) (c : Nat) : wedgedFor cmds s c = false := by
  simp only [wedgedFor, hm, Bool.false_and]

theorem stuckTrace_nil (hcfg : cfg.lockSpansSend = false) : ∀ (ls : List LStep) (s : LState), s.mu = none →
    stuckTrace cfg cmds qof s ls = []
  | [], _, _ => rfl
  | st :: rest, s, hm => by
    rw [stuckTrace, stuckTrace_nil hcfg rest _ (lmu_none hcfg hm st), List.append_nil]
    cases st with
    | look c => rw [emitStuck, wedgedFor_free hm]; rfl
    | _ => rfl

/-- Two commands on two queues; command 0's only target answers (`wedgeReply`) although the
    send to it is reported as failed. -/
def wedgeCmds : List Cmd := [{ id := 7, targets := [1] }, { id := 9, targets := [2] }]

def wedgeReply : Resp := ⟨7, 1, 5, false⟩

/-- dequeue 0; its caller registers; the send returns an error (the caller stops listening,
    the entry is still pending); the reply arrives; command 1 is dequeued on its own queue. -/
def wedgeSched : List LStep :=
  [.q (.base (.start 0)), .q (.base (.register (0, 0))), .expire (0, 0), .q (.base (.deliver wedgeReply)),
   .q (.base (.start 1))]

/-- What `wedgeSched` leaves under `deferLock` and no step can change (`wedged_step`). -/
structure Wedged (s : LState) : Prop where
  MU : s.mu = some (wedgeReply, (0, 0))
  L : s.left (0, 0) = true
  PC : (s.q.base.call (0, 0)).pc = .registered
  ID : ∀ i, i ≠ (0, 0) → (s.q.base.call i).pc = .idle
  SEM : ∀ c, s.q.base.sem c = []
  CB : s.q.base.callbacks = []

theorem wedged_pc {s : LState} (w : Wedged s) (i : Ref) (hne : i ≠ (0, 0)) : (s.q.base.call i).pc = .idle := w.ID i hne

/-- Whoever needs the mutex is held up, the caller that has left neither sends nor receives,
    nobody else has got beyond `idle`, and no command has its semaphore entries. -/
theorem wedged_base {s : LState} (w : Wedged s) {st : LStep} {b : Step} (h : lproj s st = some (.base b)) :
    (step wedgeCmds s.q.base b).call = s.q.base.call ∧ (step wedgeCmds s.q.base b).sem = s.q.base.sem ∧
      (step wedgeCmds s.q.base b).callbacks = s.q.base.callbacks := by
  have let_through := lproj_base h
  have held : s.mu ≠ none := by rw [w.MU]; nofun
  have idle : ∀ {i}, s.left i = false → (s.q.base.call i).pc = .idle :=
    fun {i} hl => w.ID i fun e => by rw [e, w.L] at hl; cases hl
  rcases step_moves wedgeCmds s.q.base b with e | m
  · rw [e]; exact ⟨rfl, rfl, rfl⟩
  generalize step wedgeCmds s.q.base b = s' at m
  cases m with
  | start _ _ => exact ⟨rfl, rfl, rfl⟩
  | register | deliver => exact absurd let_through held
  | sendOk hpc => rw [idle let_through] at hpc; cases hpc
  | @ret _ i _ o _ hst _ ha _ _ =>
    subst hst
    cases o with
    | reply _ => exact absurd (idle let_through) ha.ne_idle
    | sendErr | timeoutErr => exact absurd let_through.2 held
  | @complete c cmd hc _ _ hlen =>
    rw [w.SEM c] at hlen
    have : cmd.targets ≠ [] := by
      match c, hc with
      | 0, hc | 1, hc => cases hc; nofun
    exact absurd (List.eq_nil_of_length_eq_zero hlen.symm) this

theorem wedged_mu {s : LState} (w : Wedged s) (st : LStep) : lmu deferLock s st = s.mu := by
  have hmu : s.mu.isSome = true := by rw [w.MU]; rfl
  have nw : ∀ i, (s.q.base.call i).pc ≠ .waiting := fun i hi => by
    by_cases e : i = (0, 0)
    · rw [e, w.PC] at hi; cases hi
    · rw [w.ID i e] at hi; cases hi
  cases st with
  | q qst =>
    cases qst with
    | base b =>
      cases b with
      | deliver r => simp only [lmu, hmu, if_true]
      | recv i => simp only [lmu, nw i, false_and, and_false, if_false]
      | _ => rfl
    | _ => rfl
  | _ => rfl

theorem wedged_left {s : LState} (w : Wedged s) (st : LStep) : lleft s st = s.left := by
  cases st with
  | expire i =>
    have hx : canExpire s i = false := by
      by_cases e : i = (0, 0)
      · simp [canExpire, e, w.L]
      · simp [canExpire, w.ID i e]
    simp only [lleft, hx, Bool.false_eq_true, if_false]
  | _ => rfl

theorem wedged_step {s : LState} (w : Wedged s) (st : LStep) : Wedged (lstep deferLock wedgeCmds id s st) := by
  have hb : (lstep deferLock wedgeCmds id s st).q.base.call = s.q.base.call ∧
      (lstep deferLock wedgeCmds id s st).q.base.sem = s.q.base.sem ∧
      (lstep deferLock wedgeCmds id s st).q.base.callbacks = s.q.base.callbacks := by
    rcases lstep_base deferLock wedgeCmds id s st with e | ⟨b, hp, e⟩ <;> rw [e]
    · exact ⟨rfl, rfl, rfl⟩
    · exact wedged_base w hp
  have hm : (lstep deferLock wedgeCmds id s st).mu = s.mu := wedged_mu w st
  have hl : (lstep deferLock wedgeCmds id s st).left = s.left := wedged_left w st
  exact ⟨hm ▸ w.MU, hl ▸ w.L, hb.1 ▸ w.PC, hb.1 ▸ w.ID, hb.2.1 ▸ w.SEM, hb.2.2 ▸ w.CB⟩

theorem wedged_run (ls : List LStep) {s : LState} (w : Wedged s) : Wedged (lrun deferLock wedgeCmds id s ls) :=
  lrun_induction w fun _ st _ w => wedged_step w st

theorem wedged_witness : Wedged (lrun deferLock wedgeCmds id linit wedgeSched) := by
  refine ⟨by decide, by decide, by decide, ?_, ?_, by decide⟩
  · intro i hi
    simp [wedgeSched, lrun, lstep, lproj, lprojB, lmu, lleft, lleaked, canExpire, qstep, step, linit, qinit, init, holds,
      keyOf?, callCmd, singleTarget, wedgeCmds, wedgeReply, Resp.key, upd, hi]
  · intro c
    simp [wedgeSched, lrun, lstep, lproj, lprojB, lmu, lleft, lleaked, canExpire, qstep, step, linit, qinit, init, holds,
      keyOf?, callCmd, singleTarget, wedgeCmds, wedgeReply, Resp.key, upd]

end CmdQueue
