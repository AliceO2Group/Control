/-
  Proofs/CmdQueue — invariants of the Servent / CommandQueue model.

  `step` is characterised once (`Moves`, `step_moves`); who can change which part of a
  caller's state is said once (`pc_step`, `mailbox_step`, `step_frame`); everything about
  schedules is lifted from single steps by three lemmas about `List.foldl`.
  Core Lean only.
-/
import ControlModel.Spec.C12
import ControlModel.Proofs.Lists

namespace CmdQueue

variable {cmds : List Cmd}

/-- How an outcome is traced to its cause in the schedule (`outcome_run_cause`, `mailbox_run_cause`). -/
theorem foldl_cause {σ α} {f : σ → α → σ} {X : σ → Prop} {a₀ : α} (h : ∀ s a, X (f s a) → X s ∨ a = a₀) :
    ∀ (l : List α) (s : σ), X (l.foldl f s) → X s ∨ a₀ ∈ l
  | [], _, hx => .inl hx
  | a :: l, s, hx =>
    (foldl_cause h l (f s a) hx).elim
      (fun hx => (h s a hx).imp_right fun (e : a = a₀) => e ▸ List.mem_cons_self)
      fun hm => .inr (List.mem_cons_of_mem _ hm)

/-- How a layer maps onto the one below: each step is a run there (`base_reachable`, `lrun_refines`). -/
theorem foldl_refines {σ τ α β} {f : σ → α → σ} {g : τ → β → τ} {π : σ → τ}
    (h : ∀ s a, ∃ bs : List β, π (f s a) = bs.foldl g (π s)) :
    ∀ (l : List α) (s : σ), ∃ bs : List β, π (l.foldl f s) = bs.foldl g (π s)
  | [], _ => ⟨[], rfl⟩
  | a :: l, s => by
    obtain ⟨bs, hbs⟩ := foldl_refines h l (f s a)
    obtain ⟨bs', e⟩ := h s a
    exact ⟨bs' ++ bs, by rw [List.foldl_cons, hbs, e, List.foldl_append]⟩

/-- Liveness by blocks: `serve p` serves `p` wherever `J` holds, no step undoes `J` or a service (`can_complete`). -/
theorem foldl_serves {σ α ι} {f : σ → α → σ} {J : σ → Prop} {served : σ → ι → Prop} {serve : ι → List α}
    (hJ : ∀ s a, J s → J (f s a)) (hstay : ∀ s a p, served s p → served (f s a) p) :
    ∀ (ps : List ι), (∀ s, ∀ p ∈ ps, J s → served ((serve p).foldl f s) p) →
      ∀ s, J s → ∀ p ∈ ps, served ((ps.flatMap serve).foldl f s) p
  | [], _, _, _, _, hp => nomatch hp
  | q :: ps, hserve, s, hs, p, hp => by
    rw [List.flatMap_cons, List.foldl_append]
    have hs1 : J ((serve q).foldl f s) := List.foldlRecOn _ f hs fun s hs a _ => hJ s a hs
    rcases List.mem_cons.mp hp with rfl | hp
    · exact List.foldlRecOn _ f (hserve s p List.mem_cons_self hs) fun s hs a _ => hstay s a p hs
    · exact foldl_serves hJ hstay ps (fun s p hp => hserve s p (List.mem_cons_of_mem _ hp)) _ hs1 p hp

theorem run_eq_foldl (cmds : List Cmd) : ∀ (sched : List Step) (s : State), run cmds s sched = sched.foldl (step cmds) s
  | [], _ => rfl
  | st :: rest, s => run_eq_foldl cmds rest (step cmds s st)

theorem run_append (cmds : List Cmd) (a b : List Step) (s : State) :
    run cmds s (a ++ b) = run cmds (run cmds s a) b := by
  simp only [run_eq_foldl, List.foldl_append]

theorem run_induction {Q : State → Prop} {sched : List Step} {s : State} (hs : Q s)
    (hstep : ∀ s, ∀ st ∈ sched, Q s → Q (step cmds s st)) : Q (run cmds s sched) := by
  rw [run_eq_foldl]
  exact List.foldlRecOn sched _ hs fun s hs st hm => hstep s st hm hs

theorem upd_same {α β} [DecidableEq α] (f : α → β) (a : α) (b : β) : upd f a b a = b := if_pos rfl

theorem upd_other {α β} [DecidableEq α] (f : α → β) (a : α) (b : β) {x : α} (h : x ≠ a) :
    upd f a b x = f x := if_neg h

theorem upd_self {α β} [DecidableEq α] (f : α → β) (a : α) : upd f a (f a) = f :=
  funext fun x => by unfold upd; split <;> simp_all

theorem upd_true {α} [DecidableEq α] {f : α → Bool} {a x : α} : upd f a true x = true ↔ x = a ∨ f x = true := by
  unfold upd; split
  · next e => exact ⟨fun _ => .inl e, fun _ => rfl⟩
  · next e => exact ⟨.inr, fun h => h.resolve_left e⟩

theorem distinctTargets_nodup : ∀ (l : List Nat), distinctTargets l = true → l.Nodup
  | [], _ => List.nodup_nil
  | a :: rest, hd => by
    simp only [distinctTargets, Bool.and_eq_true, List.all_eq_true, bne_iff_ne] at hd
    exact List.nodup_cons.mpr ⟨fun ha => hd.1 a ha rfl, distinctTargets_nodup rest hd.2⟩

theorem distinctIds_nodup : ∀ (cmds : List Cmd), distinctIds cmds = true → (cmds.map (·.id)).Nodup
  | [], _ => List.nodup_nil
  | c :: rest, hd => by
    simp only [distinctIds, Bool.and_eq_true, List.all_eq_true, bne_iff_ne] at hd
    refine List.nodup_cons.mpr ⟨fun hc => ?_, distinctIds_nodup rest hd.2⟩
    obtain ⟨d, hd', hid⟩ := List.mem_map.mp hc
    exact hd.1 d hd' hid

theorem nodup_getElem?_inj {α} {l : List α} (hn : l.Nodup) {p q : Nat} {t : α}
    (hp : l[p]? = some t) (hq : l[q]? = some t) : p = q :=
  (List.getElem?_inj (List.getElem?_eq_some_iff.mp hp).1 hn).mp (hp.trans hq.symm)

theorem wf_ids (h : wfCfg cmds = true) : (cmds.map (·.id)).Nodup := by
  simp only [wfCfg, Bool.and_eq_true] at h; exact distinctIds_nodup cmds h.1

theorem wf_targets (h : wfCfg cmds = true) {c : Nat} {cmd : Cmd}
    (hc : cmds[c]? = some cmd) : cmd.targets.Nodup := by
  simp only [wfCfg, Bool.and_eq_true, List.all_eq_true] at h
  exact distinctTargets_nodup _ (h.2 cmd (List.mem_of_getElem? hc))

theorem singleTarget_of_mem {c : Cmd} {t : Nat} (h : t ∈ c.targets) :
    singleTarget c t = some { id := c.id, targets := [t], tmo := c.tmo, args := [(t, argOf c t)] } := by
  simp [singleTarget, h]

theorem singleTarget_some {c sc : Cmd} {t : Nat} (h : singleTarget c t = some sc) :
    t ∈ c.targets ∧ sc = { id := c.id, targets := [t], tmo := c.tmo, args := [(t, argOf c t)] } := by
  unfold singleTarget at h
  split at h
  · next hc => exact ⟨by simpa using hc, (Option.some.inj h).symm⟩
  · cases h

theorem argOf_single (t a : Nat) (id tmo : Nat) :
    argOf { id := id, targets := [t], tmo := tmo, args := [(t, a)] } t = a := by
  simp [argOf, List.find?]

theorem callCmd_of {c p t : Nat} {cmd : Cmd} (hc : cmds[c]? = some cmd)
    (ht : cmd.targets[p]? = some t) :
    callCmd cmds (c, p) =
      some ({ id := cmd.id, targets := [t], tmo := cmd.tmo, args := [(t, argOf cmd t)] }, t) := by
  simp only [callCmd, hc, ht, singleTarget_of_mem (List.mem_of_getElem? ht), Option.map_some]

theorem callCmd_some {i : Ref} {x : Cmd × Nat} (h : callCmd cmds i = some x) :
    ∃ cmd t, cmds[i.1]? = some cmd ∧ cmd.targets[i.2]? = some t ∧
      x = ({ id := cmd.id, targets := [t], tmo := cmd.tmo, args := [(t, argOf cmd t)] }, t) := by
  unfold callCmd at h
  split at h
  · next cmd hc =>
    split at h
    · next t ht =>
      rw [singleTarget_of_mem (List.mem_of_getElem? ht)] at h
      exact ⟨cmd, t, hc, ht, (Option.some.inj h).symm⟩
    · cases h
  · cases h

theorem keyOf_some {i : Ref} {k : CallId} (h : keyOf? cmds i = some k) :
    ∃ cmd, cmds[i.1]? = some cmd ∧ cmd.targets[i.2]? = some k.target ∧ k.id = cmd.id := by
  obtain ⟨x, hx, rfl⟩ := Option.map_eq_some_iff.mp h
  obtain ⟨cmd, t, hc, ht, rfl⟩ := callCmd_some hx
  exact ⟨cmd, hc, ht, rfl⟩

theorem keyOf_of {c p t : Nat} {cmd : Cmd} (hc : cmds[c]? = some cmd)
    (ht : cmd.targets[p]? = some t) : keyOf? cmds (c, p) = some ⟨cmd.id, t⟩ := by
  simp only [keyOf?, callCmd_of hc ht, Option.map_some]

theorem keyOf_inj (h : wfCfg cmds = true) {i j : Ref} {k : CallId}
    (hi : keyOf? cmds i = some k) (hj : keyOf? cmds j = some k) : i = j := by
  obtain ⟨ci, hci, hti, hidi⟩ := keyOf_some hi
  obtain ⟨cj, hcj, htj, hidj⟩ := keyOf_some hj
  have h1 : i.1 = j.1 := nodup_getElem?_inj (wf_ids h) (t := k.id)
    (by rw [List.getElem?_map, hci, hidi]; rfl) (by rw [List.getElem?_map, hcj, hidj]; rfl)
  rw [h1, hcj] at hci
  cases hci
  exact Prod.ext h1 (nodup_getElem?_inj (wf_targets h hcj) hti htj)

/-- Between register and unregister. -/
def Pc.Active (pc : Pc) : Prop := pc = .registered ∨ pc = .waiting

theorem Pc.Active.ne_idle {pc : Pc} (a : pc.Active) : pc ≠ .idle :=
  fun e => a.elim (by rw [e]; nofun) (by rw [e]; nofun)

theorem Pc.Active.ne_finished {pc : Pc} (a : pc.Active) (o : Outcome) : pc ≠ .finished o :=
  fun e => a.elim (by rw [e]; nofun) (by rw [e]; nofun)

def causeStep (i : Ref) : Outcome → Step
  | .reply _ => .recv i
  | .sendErr => .sendFail i
  | .timeoutErr => .timeout i

/-- What an enabled step does, one constructor per kind of effect; the three ways in which a
    caller returns (`sendFail`, `recv`, `timeout`) are one. -/
inductive Moves (cmds : List Cmd) (s : State) : Step → State → Prop
  | start {c} : c < cmds.length → s.started c = false →
      Moves cmds s (.start c) { s with started := upd s.started c true }
  | register {i k} : keyOf? cmds i = some k → s.started i.1 = true → (s.call i).pc = .idle →
      Moves cmds s (.register i)
        { s with pending := upd s.pending k (some i), call := upd s.call i ⟨.registered, (s.call i).mailbox⟩ }
  | sendOk {i} : (s.call i).pc = .registered →
      Moves cmds s (.sendOk i) { s with call := upd s.call i ⟨.waiting, (s.call i).mailbox⟩ }
  | deliver {r j} : s.pending r.key = some j →
      Moves cmds s (.deliver r)
        { s with pending := upd s.pending r.key none, call := upd s.call j ⟨(s.call j).pc, some r⟩ }
  | ret {st i k o u} : st = causeStep i o → keyOf? cmds i = some k → (s.call i).pc.Active →
      (∀ r, o = .reply r → (s.call i).mailbox = some r) → (u = false → (s.call i).mailbox ≠ none) →
      Moves cmds s st (finish s i k o u)
  | complete {c cmd} : cmds[c]? = some cmd → s.started c = true → s.completed c = false →
      (s.sem c).length = cmd.targets.length →
      Moves cmds s (.complete c)
        { s with completed := upd s.completed c true, callbacks := s.callbacks ++ [(c, commit cmd (s.sem c))] }

theorem step_moves (cmds : List Cmd) (s : State) (st : Step) :
    step cmds s st = s ∨ Moves cmds s st (step cmds s st) := by
  fun_cases step cmds s st with
  | case2 | case3 | case5 | case7 | case8 | case10 | case11 | case13 | case15 | case16 | case17 | case19 | case20
  | case22 => exact .inl rfl
  | case1 c h => exact .inr (.start h.1 h.2)
  | case4 i k hk h => exact .inr (.register hk h.1 h.2)
  | case6 i h => exact .inr (.sendOk h)
  | case9 i k hk h => exact .inr (.ret (o := .sendErr) rfl hk (.inl h) nofun nofun)
  | case12 r j hj => exact .inr (.deliver hj)
  | case14 i k hk h r hr =>
    exact .inr (.ret (o := .reply r) rfl hk (.inr h) (fun _ e => by cases e; exact hr) fun _ => by rw [hr]; nofun)
  | case18 i k hk h => exact .inr (.ret (o := .timeoutErr) rfl hk (.inr h) nofun nofun)
  | case21 c cmd hc h => exact .inr (.complete hc h.1 h.2.1 h.2.2)

theorem pc_step (cmds : List Cmd) (s : State) (st : Step) (i : Ref) :
    ((step cmds s st).call i).pc = (s.call i).pc ∨
    (st = .register i ∧ (s.call i).pc = .idle ∧ ((step cmds s st).call i).pc = .registered) ∨
    (st = .sendOk i ∧ (s.call i).pc = .registered ∧ ((step cmds s st).call i).pc = .waiting) ∨
    ∃ o, st = causeStep i o ∧ (s.call i).pc.Active ∧ ((step cmds s st).call i).pc = .finished o ∧
      ∀ r, o = .reply r → (s.call i).mailbox = some r := by
  rcases step_moves cmds s st with e | m
  · exact .inl (by rw [e])
  generalize step cmds s st = s' at m
  have other : ∀ {j : Ref} {c : CallSt}, i ≠ j → (upd s.call j c i).pc = (s.call i).pc :=
    fun hj => by rw [upd_other _ _ _ hj]
  cases m with
  | start | complete => exact .inl rfl
  | @register j _ _ _ hpc =>
    by_cases hj : i = j
    · subst hj; exact .inr (.inl ⟨rfl, hpc, by simp only [upd_same]⟩)
    · exact .inl (other hj)
  | @sendOk j hpc =>
    by_cases hj : i = j
    · subst hj; exact .inr (.inr (.inl ⟨rfl, hpc, by simp only [upd_same]⟩))
    · exact .inl (other hj)
  | @deliver _ j _ =>
    by_cases hj : i = j
    · subst hj; exact .inl (by simp only [upd_same])
    · exact .inl (other hj)
  | @ret _ j _ o _ hst _ ha hr _ =>
    by_cases hj : i = j
    · subst hj; exact .inr (.inr (.inr ⟨o, hst, ha, by simp only [finish, upd_same], hr⟩))
    · exact .inl (other hj)

theorem mailbox_step (cmds : List Cmd) (s : State) (st : Step) (i : Ref) :
    ((step cmds s st).call i).mailbox = (s.call i).mailbox ∨
    ∃ r, st = .deliver r ∧ s.pending r.key = some i ∧ ((step cmds s st).call i).mailbox = some r := by
  rcases step_moves cmds s st with e | m
  · exact .inl (by rw [e])
  generalize step cmds s st = s' at m
  have upd_mb : ∀ {j : Ref} {pc : Pc}, (upd s.call j ⟨pc, (s.call j).mailbox⟩ i).mailbox = (s.call i).mailbox := by
    intro j pc; unfold upd; split
    · next e => rw [e]
    · rfl
  cases m with
  | start | complete => exact .inl rfl
  | register | sendOk | ret => exact .inl upd_mb
  | @deliver r j hj =>
    by_cases hij : i = j
    · subst hij; exact .inr ⟨r, rfl, hj, by simp only [upd_same]⟩
    · exact .inl (by simp only [upd_other _ _ _ hij])

theorem finished_step (cmds : List Cmd) (s : State) (st : Step) {i : Ref} {o : Outcome}
    (hf : (s.call i).pc = .finished o) : ((step cmds s st).call i).pc = .finished o := by
  rcases pc_step cmds s st i with e | ⟨_, e, _⟩ | ⟨_, e, _⟩ | ⟨_, _, a, _⟩
  · rw [e, hf]
  · rw [hf] at e; cases e
  · rw [hf] at e; cases e
  · exact absurd hf (a.ne_finished o)

theorem finished_cause (cmds : List Cmd) (s : State) (st : Step) {i : Ref} {o : Outcome}
    (hf : ((step cmds s st).call i).pc = .finished o) : (s.call i).pc = .finished o ∨ st = causeStep i o := by
  rcases pc_step cmds s st i with e | ⟨_, _, e⟩ | ⟨_, _, e⟩ | ⟨o', e, _, e', _⟩
  · exact .inl (e ▸ hf)
  · rw [hf] at e; cases e
  · rw [hf] at e; cases e
  · rw [hf] at e'; cases e'; exact .inr e

theorem finished_run (sched : List Step) {s : State} {i : Ref} {o : Outcome}
    (hf : (s.call i).pc = .finished o) : ((run cmds s sched).call i).pc = .finished o :=
  run_induction hf fun s st _ => finished_step cmds s st

theorem outcome_run_cause (sched : List Step) (s : State) {i : Ref} {o : Outcome}
    (hf : ((run cmds s sched).call i).pc = .finished o) : (s.call i).pc = .finished o ∨ causeStep i o ∈ sched := by
  rw [run_eq_foldl] at hf
  exact foldl_cause (X := fun s => (s.call i).pc = .finished o) (fun s st => finished_cause cmds s st) sched s hf

theorem mailbox_run_cause (sched : List Step) (s : State) {i : Ref} {r : Resp}
    (hm : ((run cmds s sched).call i).mailbox = some r) : (s.call i).mailbox = some r ∨ .deliver r ∈ sched := by
  rw [run_eq_foldl] at hm
  refine foldl_cause (X := fun s => (s.call i).mailbox = some r) (fun s st hm => ?_) sched s hm
  rcases mailbox_step cmds s st i with e | ⟨r', e, _, e'⟩
  · exact .inl (e ▸ hm)
  · rw [hm] at e'; cases e'; exact .inr e

theorem callbacks_step (cmds : List Cmd) (s : State) (st : Step) :
    ∃ extra, (step cmds s st).callbacks = s.callbacks ++ extra := by
  rcases step_moves cmds s st with e | m
  · exact ⟨[], by rw [e, List.append_nil]⟩
  generalize step cmds s st = s' at m
  cases m with
  | complete _ _ _ _ => exact ⟨_, rfl⟩
  | _ => exact ⟨[], (List.append_nil _).symm⟩

theorem callbacks_run (sched : List Step) (s : State) :
    ∃ extra, (run cmds s sched).callbacks = s.callbacks ++ extra :=
  run_induction (Q := fun s' => ∃ extra, s'.callbacks = s.callbacks ++ extra) ⟨[], (List.append_nil _).symm⟩
    fun s' st _ ⟨e1, h1⟩ => by
      obtain ⟨e2, h2⟩ := callbacks_step cmds s' st
      exact ⟨e1 ++ e2, by rw [h2, h1, List.append_assoc]⟩

theorem started_step (cmds : List Cmd) (s : State) (st : Step) :
    (step cmds s st).started = s.started ∨
    ∃ c, st = .start c ∧ (step cmds s st).started = upd s.started c true := by
  rcases step_moves cmds s st with e | m
  · exact .inl (by rw [e])
  generalize step cmds s st = s' at m
  cases m with
  | start _ _ => exact .inr ⟨_, rfl, rfl⟩
  | _ => exact .inl rfl

theorem started_mono (cmds : List Cmd) (s : State) (st : Step) {c : Nat} (h : s.started c = true) :
    (step cmds s st).started c = true := by
  rcases started_step cmds s st with e | ⟨c', _, e⟩ <;> rw [e]
  · exact h
  · exact upd_true.mpr (.inr h)

theorem started_run (sched : List Step) {s : State} {c : Nat} (h : s.started c = true) :
    (run cmds s sched).started c = true :=
  run_induction h fun s st _ => started_mono cmds s st

/-- What holds of one caller's `Call` object (`key`: its key; `started`: whether its command
    has been dequeued):
    * `addressed`: a response sitting in it is addressed to this caller, which has registered;
    * `replyHeld`: a reply returned by `RunCommand` is the response sitting in it;
    * `noKeyIdle`: a reference that names no goroutine never moves;
    * `dequeued`: a caller that has left `idle` belongs to a dequeued command. -/
structure CallOk (key : Option CallId) (c : CallSt) (started : Bool) : Prop where
  addressed : ∀ r, c.mailbox = some r → key = some r.key ∧ c.pc ≠ .idle
  replyHeld : ∀ r, c.pc = .finished (.reply r) → c.mailbox = some r
  noKeyIdle : key = none → c = ⟨.idle, none⟩
  dequeued : c.pc ≠ .idle → started = true

theorem CallOk.setPc {k : CallId} {c : CallSt} {b : Bool} (ok : CallOk (some k) c b) (pc : Pc) (hb : b = true)
    (hi : pc ≠ .idle) (hg : ∀ r, pc = .finished (.reply r) → c.mailbox = some r) : CallOk (some k) ⟨pc, c.mailbox⟩ b :=
  ⟨fun r hm => ⟨(ok.addressed r hm).1, hi⟩, hg, nofun, fun _ => hb⟩

/-- `pending` holds exactly the callers between register and unregister that have no response
    yet, each at its own key; every `Call` object is `CallOk`. -/
structure Inv (cmds : List Cmd) (s : State) : Prop where
  pending_iff : ∀ k j, s.pending k = some j ↔ keyOf? cmds j = some k ∧ (s.call j).pc.Active ∧ (s.call j).mailbox = none
  callOk : ∀ i, CallOk (keyOf? cmds i) (s.call i) (s.started i.1)

theorem inv_init (cmds : List Cmd) : Inv cmds init :=
  ⟨fun _ _ => ⟨nofun, fun h => h.2.1.elim nofun nofun⟩, fun _ => ⟨nofun, nofun, fun _ => rfl, fun h => absurd rfl h⟩⟩

theorem Inv.reply_own {s : State} (inv : Inv cmds s) {i : Ref} {r : Resp}
    (hf : (s.call i).pc = .finished (.reply r)) : keyOf? cmds i = some r.key :=
  ((inv.callOk i).addressed r ((inv.callOk i).replyHeld r hf)).1

theorem Inv.key_of_active {s : State} (inv : Inv cmds s) {i : Ref}
    (hpc : (s.call i).pc ≠ .idle) : ∃ k, keyOf? cmds i = some k :=
  Option.ne_none_iff_exists'.mp fun e => hpc (by rw [(inv.callOk i).noKeyIdle e])

theorem Inv.pending_at (h : wfCfg cmds = true) {s : State} (inv : Inv cmds s) {i : Ref} {k : CallId}
    (hk : keyOf? cmds i = some k) (j : Ref) :
    s.pending k = some j ↔ j = i ∧ (s.call i).pc.Active ∧ (s.call i).mailbox = none :=
  (inv.pending_iff k j).trans
    ⟨fun ⟨e, a⟩ => by cases keyOf_inj h e hk; exact ⟨rfl, a⟩, fun ⟨e, a⟩ => e ▸ ⟨hk, a⟩⟩

/-- Locality: keys are distinct (`keyOf_inj`), so a move at caller `i` and `i`'s key has to be
    checked there only. -/
theorem Inv.of_local (h : wfCfg cmds = true) {s s' : State} (inv : Inv cmds s) {i : Ref} {k : CallId}
    (hk : keyOf? cmds i = some k) {c : CallSt} {p : Option Ref}
    (hcall : s'.call = upd s.call i c) (hpend : s'.pending = upd s.pending k p) (hst : s'.started = s.started)
    (hP : ∀ j, p = some j ↔ j = i ∧ c.pc.Active ∧ c.mailbox = none)
    (hC : CallOk (some k) c (s.started i.1)) : Inv cmds s' := by
  refine ⟨fun k' j => ?_, fun j => ?_⟩
  · rw [hpend, hcall]
    by_cases hk' : k' = k
    · subst hk'
      rw [upd_same, hP j]
      exact ⟨fun ⟨e, a⟩ => by subst e; rw [upd_same]; exact ⟨hk, a⟩,
        fun ⟨e, a⟩ => by cases keyOf_inj h e hk; rw [upd_same] at a; exact ⟨rfl, a⟩⟩
    · rw [upd_other _ _ _ hk', inv.pending_iff k' j]
      by_cases hj : j = i
      · have hne : keyOf? cmds i ≠ some k' := fun e => hk' (Option.some.inj (e.symm.trans hk))
        subst hj
        exact ⟨fun ⟨e, _⟩ => absurd e hne, fun ⟨e, _⟩ => absurd e hne⟩
      · rw [upd_other _ _ _ hj]
  · rw [hcall, hst]
    by_cases hj : j = i
    · subst hj; rw [hk, upd_same]; exact hC
    · rw [upd_other _ _ _ hj]; exact inv.callOk j

theorem Inv.congr {s s' : State} (inv : Inv cmds s) (hc : s'.call = s.call)
    (hp : s'.pending = s.pending) (hs : ∀ c, s.started c = true → s'.started c = true) : Inv cmds s' :=
  ⟨fun k j => by rw [hp, hc]; exact inv.pending_iff k j,
   fun i => by
    have ok := inv.callOk i
    rw [hc]; exact ⟨ok.addressed, ok.replyHeld, ok.noKeyIdle, fun a => hs _ (ok.dequeued a)⟩⟩

theorem inv_step (h : wfCfg cmds = true) {s : State} (inv : Inv cmds s) (st : Step) :
    Inv cmds (step cmds s st) := by
  rcases step_moves cmds s st with e | m
  · rw [e]; exact inv
  generalize hs' : step cmds s st = s' at m
  cases m with
  | start _ _ => exact inv.congr rfl rfl fun c hc => hs' ▸ started_mono cmds s _ hc
  | complete _ _ _ _ => exact inv.congr rfl rfl fun _ hc => hc
  | @register i k hk hst hpc =>
    -- the new entry is `i`'s own; a caller that is still `idle` holds no response
    have ok := hk ▸ inv.callOk i
    have hm : (s.call i).mailbox = none := by
      cases hm : (s.call i).mailbox with
      | none => rfl
      | some r => exact absurd hpc (ok.addressed r hm).2
    exact inv.of_local h hk rfl rfl rfl
      (fun j => ⟨fun e => ⟨(Option.some.inj e).symm, .inl rfl, hm⟩, fun e => e.1 ▸ rfl⟩) (ok.setPc _ hst nofun nofun)
  | @sendOk i hpc =>
    -- the entry stays as it is, and `i` stays between register and unregister
    have ha : (s.call i).pc.Active := .inl hpc
    obtain ⟨k, hk⟩ := inv.key_of_active ha.ne_idle
    have ok := hk ▸ inv.callOk i
    exact inv.of_local h hk rfl (upd_self _ _).symm rfl
      (fun j => (inv.pending_at h hk j).trans ⟨fun ⟨e, _, m⟩ => ⟨e, .inr rfl, m⟩, fun ⟨e, _, m⟩ => ⟨e, ha, m⟩⟩)
      (ok.setPc _ (ok.dequeued ha.ne_idle) nofun nofun)
  | @deliver r j hj =>
    -- the entry goes and the response sits in the `Call` object of its owner
    obtain ⟨hk, ha, _⟩ := (inv.pending_iff _ _).mp hj
    have ok := hk ▸ inv.callOk j
    exact inv.of_local h hk rfl rfl rfl (fun _ => ⟨nofun, fun e => nomatch e.2.2⟩)
      ⟨fun _ e => ⟨by cases e; rfl, ha.ne_idle⟩, fun r' e => absurd e (ha.ne_finished _), nofun, ok.dequeued⟩
  | @ret _ i k o u _ hk ha hr hu =>
    have ok := hk ▸ inv.callOk i
    have hC := ok.setPc (.finished o) (ok.dequeued ha.ne_idle) nofun fun r e => hr r (by cases e; rfl)
    cases u with
    | true => exact inv.of_local h hk rfl rfl rfl (fun _ => ⟨nofun, fun e => e.2.1.elim nofun nofun⟩) hC
    | false =>
      -- `recv` does not unregister: the response it returns took the entry when it arrived
      exact inv.of_local h hk rfl (upd_self _ _).symm rfl
        (fun j => (inv.pending_at h hk j).trans ⟨fun e => absurd e.2.2 (hu rfl), fun e => e.2.1.elim nofun nofun⟩) hC

theorem inv_run (h : wfCfg cmds = true) (sched : List Step) {s : State} (inv : Inv cmds s) :
    Inv cmds (run cmds s sched) :=
  run_induction inv fun _ st _ inv => inv_step h inv st

theorem covers_of_nodup {l m : List Nat} (hn : l.Nodup) (hsub : ∀ x ∈ l, x ∈ m) (hlen : m.length ≤ l.length) :
    ∀ x ∈ m, x ∈ l := by
  intro x hx
  by_cases hxl : x ∈ l
  · exact hxl
  · have := List.Nodup.length_le_of_subset (List.nodup_cons.mpr ⟨hxl, hn⟩)
      fun y hy => (List.mem_cons.mp hy).elim (· ▸ hx) (hsub y)
    rw [List.length_cons] at this; omega

theorem mget_mem : ∀ {m : List (Nat × TResp)} {t : Nat} {e : TResp}, mget m t = some e → (t, e) ∈ m
  | (t', e') :: rest, t, e, h => by
    unfold mget at h
    split at h
    · next ht => cases h; exact ht ▸ List.mem_cons_self
    · exact List.mem_cons_of_mem _ (mget_mem h)

theorem mget_of_key : ∀ {m : List (Nat × TResp)} {t : Nat}, t ∈ m.map (·.1) → ∃ e, mget m t = some e
  | (t', e') :: rest, t, h => by
    unfold mget
    split
    · exact ⟨e', rfl⟩
    · next ht => exact mget_of_key ((List.mem_cons.mp h).resolve_left fun e => ht e.symm)

theorem mset_fresh : ∀ (m : List (Nat × TResp)) (k : Nat) (v : TResp), k ∉ m.map (·.1) → mset m k v = m ++ [(k, v)]
  | [], _, _, _ => rfl
  | (k', v') :: rest, k, v, hk => by
    simp only [List.map_cons, List.mem_cons, not_or] at hk
    simp only [mset, if_neg (Ne.symm hk.1), List.cons_append, mset_fresh rest k v hk.2]

/-- The `responses` map when no entry is overwritten. -/
def entryMap (c : Cmd) (sem : List (Nat × Outcome)) : List (Nat × TResp) :=
  sem.map (fun e => (e.1, tresp c e.2))

theorem collect_nodup (c : Cmd) : ∀ (sem : List (Nat × Outcome)) (m : List (Nat × TResp)),
    (m.map (·.1) ++ sem.map (·.1)).Nodup → collect c sem m = m ++ entryMap c sem
  | [], m, _ => (List.append_nil m).symm
  | (t, o) :: rest, m, hnd => by
    have hfresh : t ∉ m.map (·.1) := fun hm => (List.nodup_append.mp hnd).2.2 t hm t List.mem_cons_self rfl
    rw [collect, mset_fresh m t _ hfresh, collect_nodup c rest]
    · simp only [entryMap, List.map_cons, List.append_assoc, List.cons_append, List.nil_append]
    · simpa only [List.map_append, List.map_cons, List.map_nil, List.append_assoc, List.cons_append, List.nil_append] using hnd

theorem mget_entryMap {c : Cmd} {sem : List (Nat × Outcome)} {t : Nat} {e : TResp}
    (h : mget (entryMap c sem) t = some e) : ∃ o, (t, o) ∈ sem ∧ e = tresp c o := by
  obtain ⟨⟨t', o⟩, hm, heq⟩ := List.mem_map.mp (mget_mem h)
  cases heq
  exact ⟨o, hm, rfl⟩

theorem commit_ok (c : Cmd) (sem : List (Nat × Outcome))
    (hnd : (sem.map (·.1)).Nodup)
    (hin : ∀ t o, (t, o) ∈ sem → t ∈ c.targets ∧ ownOrError c t (tresp c o) = true)
    (hlen : sem.length = c.targets.length) :
    shapeOk c (commit c sem) = true ∧
      ∀ t e, entryOf c (commit c sem) t = some e → ∃ o, (t, o) ∈ sem ∧ e = tresp c o := by
  rw [commit, collect_nodup c sem [] hnd, List.nil_append]
  match sem, hnd, hin, hlen with
  | [], _, _, hlen =>
    have : c.targets = [] := List.eq_nil_of_length_eq_zero hlen.symm
    simp [entryMap, consolidate, shapeOk, entryOf, this]
  | [(t, o)], _, hin, hlen =>
    have h1 := hin t o List.mem_cons_self
    match hc : c.targets, hlen with
    | [t'], _ =>
      have htt : t = t' := by simpa [hc] using h1.1
      subst htt
      refine ⟨by simp [entryMap, consolidate, shapeOk, hc, h1.2], ?_⟩
      intro t'' e he
      simp only [entryMap, List.map_cons, List.map_nil, consolidate, entryOf, hc] at he
      split at he
      · next heq =>
        cases heq; cases he
        exact ⟨o, List.mem_cons_self, rfl⟩
      · cases he
  | (t1, o1) :: (t2, o2) :: rest, hnd, hin, hlen =>
    have hcons : consolidate c (entryMap c ((t1, o1) :: (t2, o2) :: rest)) =
        .multi c.id (entryMap c ((t1, o1) :: (t2, o2) :: rest)) := rfl
    rw [hcons]
    refine ⟨?_, fun t e he => mget_entryMap he⟩
    simp only [shapeOk, Bool.and_eq_true, beq_self_eq_true, true_and, decide_eq_true_eq, List.all_eq_true]
    refine ⟨⟨by rw [← hlen]; simp, by simp [entryMap, ← hlen]⟩, ?_⟩
    intro t ht
    have hcov := covers_of_nodup hnd
      (by intro x hx; obtain ⟨⟨a, b⟩, hab, rfl⟩ := List.mem_map.mp hx; exact (hin a b hab).1)
      (by simp [← hlen]) t ht
    obtain ⟨e, he⟩ := mget_of_key (m := entryMap c _) (t := t) (by rw [entryMap, List.map_map]; exact hcov)
    rw [he]
    obtain ⟨o, ho, heo⟩ := mget_entryMap he
    rw [heo]; exact (hin t o ho).2

theorem shapeOk_entry {cmd : Cmd} {res : Result} (h : shapeOk cmd res = true) {t : Nat} (ht : t ∈ cmd.targets) :
    ∃ e, entryOf cmd res t = some e := by
  cases res with
  | nil =>
    rw [shapeOk, List.isEmpty_iff] at h
    rw [h] at ht; cases ht
  | single v =>
    simp only [shapeOk] at h
    split at h
    · next t' ht' =>
      rw [ht', List.mem_singleton] at ht
      exact ⟨v, by rw [entryOf, ht', ht, if_pos rfl]⟩
    · cases h
  | multi id m =>
    simp only [shapeOk, Bool.and_eq_true, List.all_eq_true] at h
    have := h.2 t ht
    cases hm : mget m t with
    | none => rw [hm] at this; cases this
    | some v => exact ⟨v, hm⟩

theorem shapeOk_length {cmd : Cmd} {res : Result} (h : shapeOk cmd res = true) :
    (cmd.targets.length = 0 → res = .nil) ∧ (cmd.targets.length = 1 → ∃ v, res = .single v) ∧
      (2 ≤ cmd.targets.length → ∃ m, res = .multi cmd.id m ∧ m.length = cmd.targets.length) := by
  cases res with
  | nil =>
    have h0 : cmd.targets.length = 0 := by rw [List.isEmpty_iff.mp h]; rfl
    exact ⟨fun _ => rfl, fun _ => by omega, fun _ => by omega⟩
  | single v =>
    have h1 : cmd.targets.length = 1 := by
      simp only [shapeOk] at h
      split at h
      · next t ht => rw [ht]; rfl
      · cases h
    exact ⟨fun _ => by omega, fun _ => ⟨v, rfl⟩, fun _ => by omega⟩
  | multi id m =>
    simp only [shapeOk, Bool.and_eq_true, beq_iff_eq, decide_eq_true_eq] at h
    obtain ⟨⟨⟨hid, h2⟩, hlen⟩, _⟩ := h
    exact ⟨fun _ => by omega, fun _ => by omega, fun _ => ⟨m, by rw [hid], hlen⟩⟩

/-- * `sem_returned`/`returned_sem`: the semaphore entries of a command are exactly the returns of its callers;
    * `sem_nodup`: at most one entry per target;
    * `callback_ok`: every delivered callback is well-shaped and its entries are its callers' outcomes;
    * `callbacks_nodup`/`completed_iff`: exactly one callback per completed command, none before completion;
    * `completed_started`/`started_lt`: only dequeued commands complete, only commands of the configuration are dequeued. -/
structure Inv2 (cmds : List Cmd) (s : State) : Prop where
  sem_returned : ∀ {c cmd}, cmds[c]? = some cmd → ∀ t o, (t, o) ∈ s.sem c →
        ∃ p, cmd.targets[p]? = some t ∧ (s.call (c, p)).pc = .finished o
  sem_nodup : ∀ c, ((s.sem c).map (·.1)).Nodup
  returned_sem : ∀ {c cmd p t}, cmds[c]? = some cmd → cmd.targets[p]? = some t → ∀ o,
        (s.call (c, p)).pc = .finished o → (t, o) ∈ s.sem c
  callback_ok : ∀ c res, (c, res) ∈ s.callbacks → ∃ cmd, cmds[c]? = some cmd ∧ shapeOk cmd res = true ∧
        ∀ t e, entryOf cmd res t = some e → ∃ o, (t, o) ∈ s.sem c ∧ e = tresp cmd o
  callbacks_nodup : (s.callbacks.map (·.1)).Nodup
  completed_iff : ∀ c, s.completed c = true ↔ c ∈ s.callbacks.map (·.1)
  completed_started : ∀ c, s.completed c = true → s.started c = true
  started_lt : ∀ c, s.started c = true → c < cmds.length

theorem inv2_init (cmds : List Cmd) : Inv2 cmds init :=
  ⟨nofun, fun _ => List.nodup_nil, nofun, nofun, List.nodup_nil, fun _ => ⟨nofun, nofun⟩, nofun, nofun⟩

theorem Inv2.congr {s s' : State} (inv2 : Inv2 cmds s) (hsem : s'.sem = s.sem)
    (hcb : s'.callbacks = s.callbacks) (hco : s'.completed = s.completed) (hst : s'.started = s.started)
    (hfin : ∀ i o, (s'.call i).pc = .finished o ↔ (s.call i).pc = .finished o) : Inv2 cmds s' := by
  refine ⟨fun hc t o hm => ?_, ?_, fun hc ht o hp => ?_, ?_, ?_, ?_, ?_, ?_⟩
  · obtain ⟨p, h2, h3⟩ := inv2.sem_returned hc t o (hsem ▸ hm)
    exact ⟨p, h2, (hfin _ o).mpr h3⟩
  · rw [hsem]; exact inv2.sem_nodup
  · rw [hsem]; exact inv2.returned_sem hc ht o ((hfin _ o).mp hp)
  · rw [hcb, hsem]; exact inv2.callback_ok
  · rw [hcb]; exact inv2.callbacks_nodup
  · rw [hcb, hco]; exact inv2.completed_iff
  · rw [hco, hst]; exact inv2.completed_started
  · rw [hst]; exact inv2.started_lt

theorem finished_upd {call : Ref → CallSt} {j : Ref} {c : CallSt} (h0 : ∀ o, (call j).pc ≠ .finished o)
    (h1 : ∀ o, c.pc ≠ .finished o) (i : Ref) (o : Outcome) :
    (upd call j c i).pc = .finished o ↔ (call i).pc = .finished o := by
  unfold upd; split
  · next e => subst e; exact ⟨fun hf => absurd hf (h1 o), fun hf => absurd hf (h0 o)⟩
  · exact .rfl

theorem ownOrError_returned {s : State} (inv : Inv cmds s) {c p t : Nat} {cmd : Cmd} {o : Outcome}
    (hc : cmds[c]? = some cmd) (ht : cmd.targets[p]? = some t) (hf : (s.call (c, p)).pc = .finished o) :
    ownOrError cmd t (tresp cmd o) = true := by
  cases o with
  | reply r =>
    have hk := (keyOf_of hc ht).symm.trans (inv.reply_own hf)
    simp only [Resp.key, Option.some.injEq, CallId.mk.injEq] at hk
    simp only [tresp, ownOrError, hk.1, hk.2, beq_self_eq_true, Bool.and_self]
  | sendErr | timeoutErr => exact beq_self_eq_true _

theorem finish_sem (s : State) (i : Ref) (k : CallId) (o : Outcome) (u : Bool) (c : Nat) :
    (finish s i k o u).sem c = if c = i.1 then s.sem c ++ [(k.target, o)] else s.sem c := by
  show upd s.sem i.1 _ c = _
  unfold upd; split
  · next e => rw [e]
  · rfl

theorem mem_finish_sem {s : State} {i : Ref} {k : CallId} {o o' : Outcome} {u : Bool} {c t : Nat} :
    (t, o') ∈ (finish s i k o u).sem c ↔ (t, o') ∈ s.sem c ∨ c = i.1 ∧ t = k.target ∧ o' = o := by
  rw [finish_sem]; split
  · next e => simp only [List.mem_append, List.mem_singleton, Prod.mk.injEq, e, true_and]
  · next e => simp only [e, false_and, or_false]

theorem finish_finished {s : State} {i j : Ref} {k : CallId} {o o' : Outcome} {u : Bool}
    (hi : ∀ o, (s.call i).pc ≠ .finished o) :
    ((finish s i k o u).call j).pc = .finished o' ↔ j = i ∧ o' = o ∨ (s.call j).pc = .finished o' := by
  show (upd s.call i _ j).pc = _ ↔ _
  unfold upd; split
  · next e => exact ⟨fun hf => .inl ⟨e, by cases hf; rfl⟩, fun hf => hf.elim (fun hf => hf.2 ▸ rfl) fun hf => absurd (e ▸ hf) (hi o')⟩
  · next e => exact ⟨.inr, fun hf => hf.resolve_left fun hf => e hf.1⟩

theorem inv2_step (h : wfCfg cmds = true) {s : State} (inv : Inv cmds s)
    (inv2 : Inv2 cmds s) (st : Step) : Inv2 cmds (step cmds s st) := by
  rcases step_moves cmds s st with e | m
  · rw [e]; exact inv2
  generalize step cmds s st = s' at m
  cases m with
  | @start c hlt _ =>
    exact { inv2 with
      completed_started := fun c' hc' => upd_true.mpr (.inr (inv2.completed_started c' hc'))
      started_lt := fun c' hc' => (upd_true.mp hc').elim (· ▸ hlt) (inv2.started_lt c') }
  | register _ _ hpc | sendOk hpc =>
    exact inv2.congr rfl rfl rfl rfl (finished_upd (fun _ => by rw [hpc]; nofun) nofun)
  | deliver hj =>
    have ha := ((inv.pending_iff _ _).mp hj).2.1
    exact inv2.congr rfl rfl rfl rfl (finished_upd ha.ne_finished ha.ne_finished)
  | @ret _ i k o u _ hk ha hr _ =>
    obtain ⟨cmd, hcmd, htgt, hid⟩ := keyOf_some hk
    have fin := fun j o' => finish_finished (k := k) (o := o) (u := u) (j := j) (o' := o') ha.ne_finished
    refine { inv2 with
      sem_returned := fun hc t o' hm => ?_, sem_nodup := fun c => ?_, returned_sem := fun hc ht o' hp => ?_
      callback_ok := fun c res hm => ?_ }
    · rcases mem_finish_sem.mp hm with hm | ⟨rfl, rfl, rfl⟩
      · obtain ⟨p, h2, h3⟩ := inv2.sem_returned hc t o' hm
        exact ⟨p, h2, (fin _ _).mpr (.inr h3)⟩
      · cases hcmd.symm.trans hc
        exact ⟨i.2, htgt, (fin _ _).mpr (.inl ⟨rfl, rfl⟩)⟩
    · rw [finish_sem]; split
      · next hci =>
        subst hci
        rw [List.map_append]
        refine (inv2.sem_nodup _).concat fun ha' => ?_
        obtain ⟨⟨t, o'⟩, hm, hta⟩ := List.mem_map.mp ha'
        obtain ⟨p, h2, h3⟩ := inv2.sem_returned hcmd t o' hm
        cases nodup_getElem?_inj (wf_targets h hcmd) h2 ((show t = k.target from hta) ▸ htgt)
        exact ha.ne_finished o' h3
      · exact inv2.sem_nodup c
    · rcases (fin _ _).mp hp with ⟨rfl, rfl⟩ | hp
      · cases hcmd.symm.trans hc
        cases htgt.symm.trans ht
        exact mem_finish_sem.mpr (.inr ⟨rfl, rfl, rfl⟩)
      · exact mem_finish_sem.mpr (.inl (inv2.returned_sem hc ht o' hp))
    · obtain ⟨cmd', h2, h3, h4⟩ := inv2.callback_ok c res hm
      exact ⟨cmd', h2, h3, fun t e he => (h4 t e he).imp fun o' ho' => ⟨mem_finish_sem.mpr (.inl ho'.1), ho'.2⟩⟩
  | @complete c cmd hc hst hnc hlen =>
    have hin : ∀ t o, (t, o) ∈ s.sem c → t ∈ cmd.targets ∧ ownOrError cmd t (tresp cmd o) = true := by
      intro t o hm
      obtain ⟨p, h2, h3⟩ := inv2.sem_returned hc t o hm
      exact ⟨List.mem_of_getElem? h2, ownOrError_returned inv hc h2 h3⟩
    obtain ⟨hshape, hent⟩ := commit_ok cmd (s.sem c) (inv2.sem_nodup c) hin hlen
    have hfresh : c ∉ s.callbacks.map (·.1) := fun hm => by rw [(inv2.completed_iff c).mpr hm] at hnc; cases hnc
    refine { inv2 with callback_ok := fun c' res hm => ?_, callbacks_nodup := ?_, completed_iff := fun c' => ?_
                       completed_started := fun c' hc' => (upd_true.mp hc').elim (· ▸ hst) (inv2.completed_started c') }
    · rcases List.mem_append.mp hm with hm | hm
      · exact inv2.callback_ok c' res hm
      · cases List.mem_singleton.mp hm
        exact ⟨cmd, hc, hshape, hent⟩
    · rw [List.map_append]
      exact inv2.callbacks_nodup.concat hfresh
    · show upd s.completed c true c' = true ↔ c' ∈ (s.callbacks ++ [(c, commit cmd (s.sem c))]).map (·.1)
      rw [upd_true, inv2.completed_iff c', List.map_append, List.mem_append, List.map_cons, List.map_nil, List.mem_singleton]
      exact or_comm

/-- The two invariants of a run taken together, `Inv` (the servent's table and the callers) and `Inv2` (the
    semaphores, the commit, the callbacks): what the proofs know of `init` and of every state a schedule leads to
    (`reach_run`), not a characterisation of those states. -/
structure Reach (cmds : List Cmd) (s : State) : Prop where
  servent : Inv cmds s
  commit : Inv2 cmds s

theorem reach_init (cmds : List Cmd) : Reach cmds init := ⟨inv_init cmds, inv2_init cmds⟩

theorem reach_step (h : wfCfg cmds = true) {s : State} (r : Reach cmds s) (st : Step) :
    Reach cmds (step cmds s st) :=
  ⟨inv_step h r.servent st, inv2_step h r.servent r.commit st⟩

theorem reach_run (h : wfCfg cmds = true) (sched : List Step) {s : State} (r : Reach cmds s) :
    Reach cmds (run cmds s sched) :=
  run_induction r fun _ st _ r => reach_step h r st

theorem no_caller_left (h : wfCfg cmds = true) {s : State} (r : Reach cmds s)
    {c : Nat} {res : Result} (hcb : (c, res) ∈ s.callbacks) (p : Nat) : ¬ (s.call (c, p)).pc.Active := by
  intro ha
  obtain ⟨cmd, hc, hshape, hent⟩ := r.commit.callback_ok c res hcb
  obtain ⟨k, hk⟩ := r.servent.key_of_active ha.ne_idle
  obtain ⟨cmd', hc', ht, _⟩ := keyOf_some hk
  cases hc.symm.trans hc'
  obtain ⟨e, he⟩ := shapeOk_entry hshape (List.mem_of_getElem? ht)
  obtain ⟨o, ho, _⟩ := hent _ e he
  obtain ⟨p', e2, e3⟩ := r.commit.sem_returned hc _ o ho
  cases nodup_getElem?_inj (wf_targets h hc) ht e2
  exact ha.ne_finished o e3

/-- The steps that can change what caller `i` sees (`view`): its own, the start of its command, the delivery of a
    response with its key. Every other step leaves its view alone (`step_frame`). -/
def concerns (cmds : List Cmd) (i : Ref) : Step → Bool
  | .start c => decide (c = i.1)
  | .register j => decide (j = i)
  | .sendOk j => decide (j = i)
  | .sendFail j => decide (j = i)
  | .recv j => decide (j = i)
  | .timeout j => decide (j = i)
  | .deliver r => decide (keyOf? cmds i = some r.key)
  | .complete _ => false

/-- What caller `i` (with key `k`) can see of a state. -/
def view (i : Ref) (k : CallId) (s : State) : CallSt × Option Ref × Bool := (s.call i, s.pending k, s.started i.1)

theorem view_ext {i : Ref} {k : CallId} {s s' : State} (h1 : s.call i = s'.call i) (h2 : s.pending k = s'.pending k)
    (h3 : s.started i.1 = s'.started i.1) : view i k s = view i k s' := by
  unfold view; rw [h1, h2, h3]

theorem step_frame (h : wfCfg cmds = true) {s : State} {i : Ref} {k : CallId}
    (hk : keyOf? cmds i = some k) (inv : Inv cmds s) (st : Step) (hc : concerns cmds i st = false) :
    view i k (step cmds s st) = view i k s := by
  rcases step_moves cmds s st with e | m
  · rw [e]
  generalize step cmds s st = s' at m
  have key : ∀ {j kj}, j ≠ i → keyOf? cmds j = some kj → k ≠ kj := fun hj hkj e => hj (keyOf_inj h hkj (e ▸ hk))
  cases m with
  | start _ _ => exact view_ext rfl rfl (upd_other _ _ _ (Ne.symm (of_decide_eq_false hc)))
  | complete _ _ _ _ => rfl
  | register hkj _ _ =>
    have hj := of_decide_eq_false hc
    exact view_ext (upd_other _ _ _ (Ne.symm hj)) (upd_other _ _ _ (key hj hkj)) rfl
  | sendOk _ => exact view_ext (upd_other _ _ _ (Ne.symm (of_decide_eq_false hc))) rfl rfl
  | @deliver r j hj =>
    have hkr : k ≠ r.key := fun e => of_decide_eq_false hc (e ▸ hk)
    have hji : i ≠ j := fun e => hkr (Option.some.inj (hk.symm.trans (e ▸ ((inv.pending_iff _ _).mp hj).1)))
    exact view_ext (upd_other _ _ _ hji) (upd_other _ _ _ hkr) rfl
  | @ret _ j kj o u hst hkj _ _ _ =>
    have hj : j ≠ i := by subst hst; cases o <;> exact of_decide_eq_false hc
    refine view_ext (upd_other _ _ _ (Ne.symm hj)) ?_ rfl
    cases u
    · rfl
    · exact upd_other _ _ _ (key hj hkj)

theorem step_congr {s s' : State} {i : Ref} {k : CallId} (hk : keyOf? cmds i = some k)
    (v : view i k s = view i k s') (st : Step) (hc : concerns cmds i st = true) :
    view i k (step cmds s st) = view i k (step cmds s' st) := by
  obtain ⟨v1, v2, v3⟩ : s.call i = s'.call i ∧ s.pending k = s'.pending k ∧ s.started i.1 = s'.started i.1 := by
    simpa only [view, Prod.mk.injEq] using v
  have returns : ∀ o u, view i k (finish s i k o u) = view i k (finish s' i k o u) := fun o u =>
    view_ext (by simp only [finish, upd_same, v1])
      (by cases u
          · exact v2
          · simp only [finish, upd_same, if_true]) v3
  cases st with
  | complete _ => cases hc
  | start c =>
    cases of_decide_eq_true hc
    simp only [step, ← v3]
    split
    · exact view_ext v1 v2 (by simp only [upd_same])
    · exact v
  | register j =>
    cases of_decide_eq_true hc
    simp only [step, hk, ← v1, ← v3]
    split
    · exact view_ext (by simp only [upd_same]) (by simp only [upd_same]) v3
    · exact v
  | sendOk j =>
    cases of_decide_eq_true hc
    simp only [step, ← v1]
    split
    · exact view_ext (by simp only [upd_same]) v2 v3
    · exact v
  | sendFail j | timeout j =>
    cases of_decide_eq_true hc
    simp only [step, hk, ← v1]
    split
    · exact returns _ _
    · exact v
  | recv j =>
    cases of_decide_eq_true hc
    simp only [step, hk, ← v1]
    split
    · split
      · exact returns _ _
      · exact v
    · exact v
  | deliver r =>
    cases Option.some.inj (hk.symm.trans (of_decide_eq_true hc))
    simp only [step, ← v2]
    split
    · exact v
    · next j _ =>
      refine view_ext ?_ (by simp only [upd_same]) v3
      show upd s.call j _ i = upd s'.call j _ i
      unfold upd; split
      · next e => rw [← e, v1]
      · exact v1

/-- A caller sees only the steps that concern it (`step_frame` for the others, `step_congr` for these). -/
theorem view_run (h : wfCfg cmds = true) {i : Ref} {k : CallId}
    (hk : keyOf? cmds i = some k) : ∀ (sched : List Step) (s s' : State), Inv cmds s → view i k s = view i k s' →
    view i k (run cmds s sched) = view i k (run cmds s' (sched.filter (concerns cmds i)))
  | [], _, _, _, v => v
  | st :: rest, s, s', inv, v => by
    cases hc : concerns cmds i st with
    | true =>
      rw [List.filter_cons_of_pos hc]
      exact view_run h hk rest _ _ (inv_step h inv st) (step_congr hk v st hc)
    | false =>
      rw [List.filter_cons_of_neg (by rw [hc]; nofun)]
      exact view_run h hk rest _ _ (inv_step h inv st) ((step_frame h hk inv st hc).trans v)

/-- register; send; time out — whatever state caller `i` of a dequeued command is in, these three
    steps (each a no-op when it does not apply) make it return. -/
def sendAndTimeOut (i : Ref) : List Step := [.register i, .sendOk i, .timeout i]

theorem sendAndTimeOut_finishes {s : State} {i : Ref} {k : CallId}
    (hk : keyOf? cmds i = some k) (hst : s.started i.1 = true) :
    ∃ o, ((run cmds s (sendAndTimeOut i)).call i).pc = .finished o := by
  simp only [sendAndTimeOut, run, step, hk, hst, true_and]
  cases hpc : (s.call i).pc <;> simp [hpc, upd, finish]

theorem sem_full (h : wfCfg cmds = true) {s : State} (inv2 : Inv2 cmds s) {c : Nat} {cmd : Cmd}
    (hc : cmds[c]? = some cmd)
    (hall : ∀ p t, cmd.targets[p]? = some t → ∃ o, (s.call (c, p)).pc = .finished o) :
    (s.sem c).length = cmd.targets.length := by
  have h1 : ((s.sem c).map (·.1)).length ≤ cmd.targets.length := by
    refine List.Nodup.length_le_of_subset (inv2.sem_nodup c) fun x hx => ?_
    obtain ⟨⟨t, o⟩, hm, rfl⟩ := List.mem_map.mp hx
    obtain ⟨p, e2, _⟩ := inv2.sem_returned hc t o hm
    exact List.mem_of_getElem? e2
  have h2 : cmd.targets.length ≤ ((s.sem c).map (·.1)).length := by
    refine List.Nodup.length_le_of_subset (wf_targets h hc) fun t ht => ?_
    obtain ⟨p, hp⟩ := List.mem_iff_getElem?.mp ht
    obtain ⟨o, ho⟩ := hall p t hp
    exact List.mem_map.mpr ⟨(t, o), inv2.returned_sem hc hp o ho, rfl⟩
  rw [List.length_map] at h1 h2
  omega

theorem complete_delivers (h : wfCfg cmds = true) {s : State} (inv2 : Inv2 cmds s) {c : Nat} {cmd : Cmd}
    (hc : cmds[c]? = some cmd) (hst : s.started c = true)
    (hall : ∀ p t, cmd.targets[p]? = some t → ∃ o, (s.call (c, p)).pc = .finished o) :
    ∃ res, (c, res) ∈ (step cmds s (.complete c)).callbacks := by
  cases hco : s.completed c with
  | true =>
    obtain ⟨⟨c', res⟩, hm, rfl⟩ := List.mem_map.mp ((inv2.completed_iff c).mp hco)
    obtain ⟨extra, he⟩ := callbacks_step cmds s (.complete c')
    exact ⟨res, by rw [he]; exact List.mem_append_left _ hm⟩
  | false => exact ⟨commit cmd (s.sem c), by simp [step, hc, hst, hco, sem_full h inv2 hc hall]⟩

/-- The schedule "every caller: register, send, time out; then complete" is made of steps the
    environment cannot disable. -/
theorem can_complete (h : wfCfg cmds = true) {s : State} (r : Reach cmds s)
    {c : Nat} {cmd : Cmd} (hc : cmds[c]? = some cmd) (hst : s.started c = true) :
    ∃ res, (c, res) ∈ (run cmds s
      ((List.range cmd.targets.length).flatMap (fun p => sendAndTimeOut (c, p)) ++ [.complete c])).callbacks := by
  rw [run_append]
  refine complete_delivers h (reach_run h _ r).commit hc (started_run _ hst) fun p t hp => ?_
  rw [run_eq_foldl]
  refine foldl_serves (f := step cmds) (J := fun s => s.started c = true) (served := fun s p => ∃ o, (s.call (c, p)).pc = .finished o)
    (fun s st hs => started_mono cmds s st hs) (fun s st p ⟨o, ho⟩ => ⟨o, finished_step cmds s st ho⟩) _
    (fun s p hp hs => ?_) s hst p (List.mem_range.mpr (List.getElem?_eq_some_iff.mp hp).1)
  obtain ⟨t, ht⟩ : ∃ t, cmd.targets[p]? = some t := ⟨_, List.getElem?_eq_getElem (List.mem_range.mp hp)⟩
  rw [← run_eq_foldl]
  exact sendAndTimeOut_finishes (keyOf_of hc ht) hs

theorem sendView_ok {i : Ref} {ok : Bool} {e : Ev} (h : sendView cmds i ok = some e) :
    sendOk1 cmds e = true := by
  obtain ⟨x, hx, rfl⟩ := Option.map_eq_some_iff.mp h
  obtain ⟨cmd, t, hc, ht, rfl⟩ := callCmd_some hx
  simp [sendOk1, hc, List.mem_of_getElem? ht, argOf_single]

theorem emitSend_some {s : State} {st : Step} {e : Ev} (h : emitSend cmds s st = some e) :
    ∃ i ok, (s.call i).pc = .registered ∧ sendView cmds i ok = some e := by
  cases st with
  | sendOk i =>
    simp only [emitSend] at h; split at h
    · next hpc => exact ⟨i, true, hpc, h⟩
    · cases h
  | sendFail i =>
    simp only [emitSend] at h; split at h
    · next hpc => exact ⟨i, false, hpc, h⟩
    · cases h
  | _ => cases h

theorem sendTrace_ok (cmds : List Cmd) : ∀ (sched : List Step) (s : State),
    sendsOk cmds (sendTrace cmds s sched) = true
  | [], _ => rfl
  | st :: rest, s => by
    rw [sendTrace, sendsOk, List.all_append, Bool.and_eq_true]
    refine ⟨?_, sendTrace_ok cmds rest _⟩
    cases he : emitSend cmds s st with
    | none => rfl
    | some e =>
      obtain ⟨i, ok, _, hv⟩ := emitSend_some he
      simp only [Option.toList, List.all_cons, List.all_nil, sendView_ok hv, Bool.and_true]

/-- `ProcessResponse` only ever writes to a call it found pending, and such a call has no response. -/
theorem mailbox_stable_step {s : State} (inv : Inv cmds s) (st : Step) {i : Ref} {r0 : Resp}
    (hm : (s.call i).mailbox = some r0) : ((step cmds s st).call i).mailbox = some r0 := by
  rcases mailbox_step cmds s st i with e | ⟨r, _, hp, _⟩
  · rw [e, hm]
  · rw [((inv.pending_iff _ _).mp hp).2.2] at hm; cases hm

theorem mailbox_stable_run (h : wfCfg cmds = true) (sched : List Step) {s : State}
    (inv : Inv cmds s) {i : Ref} {r0 : Resp} (hm : (s.call i).mailbox = some r0) :
    ((run cmds s sched).call i).mailbox = some r0 :=
  (run_induction (Q := fun s => Inv cmds s ∧ (s.call i).mailbox = some r0) ⟨inv, hm⟩
    fun _ st _ ⟨inv, hm⟩ => ⟨inv_step h inv st, mailbox_stable_step inv st hm⟩).2

/-- Caller `i` has registered and has not given up: it is between register and return, or has returned a reply. Only its
    own time-out or send failure ends that (`live_step`: a fact about the pc alone, no invariant needed); in a state with
    `Inv` a response with its key then finds the mailbox filled or fills it (`Live.fills`). -/
def Live (s : State) (i : Ref) : Prop := (s.call i).pc.Active ∨ ∃ r, (s.call i).pc = .finished (.reply r)

theorem live_step (s : State) (st : Step) {i : Ref} (hl : Live s i) (h1 : st ≠ .timeout i) (h2 : st ≠ .sendFail i) :
    Live (step cmds s st) i := by
  rcases hl with ha | ⟨r, hr⟩
  · rcases pc_step cmds s st i with e | ⟨_, _, e⟩ | ⟨_, _, e⟩ | ⟨o, e, _, e', _⟩
    · exact .inl (e ▸ ha)
    · exact .inl (.inl e)
    · exact .inl (.inr e)
    · cases o with
      | reply r => exact .inr ⟨r, e'⟩
      | sendErr => exact absurd e h2
      | timeoutErr => exact absurd e h1
  · exact .inr ⟨r, finished_step cmds s st hr⟩

theorem live_run {sched : List Step} {s : State} {i : Ref} (hl : Live s i) (h1 : Step.timeout i ∉ sched)
    (h2 : Step.sendFail i ∉ sched) : Live (run cmds s sched) i :=
  run_induction hl fun s st hm hl => live_step s st hl (fun e => h1 (e ▸ hm)) fun e => h2 (e ▸ hm)

theorem Live.fills {s : State} (inv : Inv cmds s) {i : Ref} {r : Resp} (hk : keyOf? cmds i = some r.key)
    (hl : Live s i) : ((step cmds s (.deliver r)).call i).mailbox ≠ none := by
  cases hm : (s.call i).mailbox with
  | some r0 => rw [mailbox_stable_step inv (.deliver r) hm]; nofun
  | none =>
    -- a returned reply sits in the mailbox (`replyHeld`), so with an empty mailbox the caller is still between register and return
    have ha : (s.call i).pc.Active := hl.resolve_right fun ⟨r', hr⟩ => by rw [(inv.callOk i).replyHeld r' hr] at hm; cases hm
    simp [step, (inv.pending_iff _ _).mpr ⟨hk, ha, hm⟩, upd_same]

end CmdQueue
