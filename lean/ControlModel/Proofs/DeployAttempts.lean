/-
  Proofs/DeployAttempts — lemmas behind the attempt-loop theorems of Props/C02.

  * one offers round (`roundOutcome`): complete ⇒ everything launched; incomplete ⇒ nothing launched; the verdict of
    acquireTasks on it is "no critical descriptor misses its machine's offer";
  * the loop (`acquireLoop`) of the code as it is in closed form: the first attempt within the limit that is not a
    failure decides, or there is none (`acquireLoop_code_eq`, `acquire_code_cases`); everything else about
    acquireTasks — only the last attempt launches, retries justified, the attempts clause of Spec/C02, what is kept /
    marked — is read off it; the bound on the attempts holds of every configuration (`acquireLoop_length`);
  * the hand-over of a round's verdict (`heard_of_room`);
  * from there to the DEPLOY wait (`OWorkflow.eff`) and to the workflow as offered in the last round
    (`OWorkflow.asOffered`).
-/
import ControlModel.Proofs.Transition

namespace Trans

theorem indexed_length {α} (xs : List α) : (indexed xs).length = xs.length := by
  simp [indexed]

theorem indexed_map_snd {α} (xs : List α) : (indexed xs).map (·.2) = xs := by
  unfold indexed
  exact List.map_snd_zip (by simp)

theorem indexed_getElem? {α} (xs : List α) (i : Nat) (p : Nat × α) :
    (indexed xs)[i]? = some p ↔ p.1 = i ∧ xs[i]? = some p.2 := by
  unfold indexed
  rw [List.getElem?_zip_eq_some]
  constructor
  · rintro ⟨h1, h2⟩
    refine ⟨?_, h2⟩
    rw [List.getElem?_range] at h1
    · simpa using h1.symm
    · exact (List.getElem?_eq_some_iff.1 h2).1
  · rintro ⟨h1, h2⟩
    refine ⟨?_, h2⟩
    rw [List.getElem?_range (List.getElem?_eq_some_iff.1 h2).1, h1]

theorem mem_indexed {α} (xs : List α) (p : Nat × α) : p ∈ indexed xs ↔ xs[p.1]? = some p.2 := by
  rw [List.mem_iff_getElem?]
  constructor
  · rintro ⟨i, hi⟩
    obtain ⟨h1, h2⟩ := (indexed_getElem? xs i p).1 hi
    rw [h1]; exact h2
  · intro h
    exact ⟨p.1, (indexed_getElem? xs p.1 p).2 ⟨rfl, h⟩⟩

theorem mem_indexed_lt {α} (xs : List α) (p : Nat × α) (h : p ∈ indexed xs) : p.1 < xs.length ∧ p.2 ∈ xs := by
  rw [mem_indexed] at h
  obtain ⟨hl, he⟩ := List.getElem?_eq_some_iff.1 h
  exact ⟨hl, he ▸ List.getElem_mem hl⟩

theorem indexed_any {α} (xs : List α) (f : α → Bool) : (indexed xs).any (fun p => f p.2) = xs.any f := by
  conv => rhs; rw [← indexed_map_snd xs, List.any_map]
  rfl

theorem indexed_all {α} (xs : List α) (f : α → Bool) : (indexed xs).all (fun p => f p.2) = xs.all f := by
  conv => rhs; rw [← indexed_map_snd xs, List.all_map]
  rfl

theorem indexed_map {α β} (xs : List α) (f : α → β) :
    indexed (xs.map f) = (indexed xs).map (fun p => (p.1, f p.2)) := by
  unfold indexed
  rw [List.length_map, List.zip_map_right]
  rfl

theorem critAt_of_mem (ds : List Desc) (p : Nat × Desc) (h : p ∈ indexed ds) : critAt ds p.1 = p.2.critical := by
  rw [mem_indexed] at h
  simp [critAt, h]

/-- The undeployable descriptors of a round (indices). -/
def undOf (ds : List Desc) (r : Round) : List Nat := ((indexed ds).filter (fun p => !p.2.offered r)).map (·.1)

theorem undOf_isEmpty (ds : List Desc) (r : Round) : (undOf ds r).isEmpty = complete ds r := by
  unfold undOf complete
  rw [List.isEmpty_map, ← indexed_all ds (fun d => d.offered r)]
  rw [Bool.eq_iff_iff, List.isEmpty_iff, List.filter_eq_nil_iff, List.all_eq_true]
  constructor
  · intro h p hp; have := h p hp; simpa using this
  · intro h p hp; have := h p hp; simpa using this

theorem roundOutcome_eq (ds : List Desc) (r : Round) :
    roundOutcome ds r = if complete ds r then { deployed := List.range ds.length, undeployable := [] }
                        else { deployed := [], undeployable := undOf ds r } := by
  unfold roundOutcome
  simp only
  rw [show ((indexed ds).filter (fun p => !p.2.offered r)).map (·.1) = undOf ds r from rfl, undOf_isEmpty]

theorem roundOutcome_incomplete (ds : List Desc) (r : Round) (h : complete ds r = false) :
    (roundOutcome ds r).deployed = [] := by
  rw [roundOutcome_eq, h]; rfl

theorem roundOutcome_complete (ds : List Desc) (r : Round) (h : complete ds r = true) :
    (roundOutcome ds r).deployed = List.range ds.length := by
  rw [roundOutcome_eq, h]; rfl

theorem critMissing_incomplete (ds : List Desc) (r : Round) (h : critMissing ds r = true) : complete ds r = false := by
  simp only [critMissing, List.any_eq_true, Bool.and_eq_true, Bool.not_eq_true'] at h
  obtain ⟨d, hd, _, ho⟩ := h
  cases hc : complete ds r
  · rfl
  · simp only [complete, List.all_eq_true] at hc
    rw [hc d hd] at ho; cases ho

theorem complete_not_missing (ds : List Desc) (r : Round) (h : complete ds r = true) : critMissing ds r = false := by
  cases hm : critMissing ds r
  · rfl
  · rw [critMissing_incomplete ds r hm] at h; cases h

theorem undOf_any_crit (ds : List Desc) (r : Round) : (undOf ds r).any (critAt ds) = critMissing ds r := by
  unfold undOf critMissing
  rw [List.any_map, List.any_filter, ← indexed_any ds (fun d => d.critical && !d.offered r)]
  rw [Bool.eq_iff_iff]
  simp only [List.any_eq_true]
  constructor <;> rintro ⟨p, hp, h⟩ <;> refine ⟨p, hp, ?_⟩ <;>
    simpa [critAt_of_mem ds p hp, Bool.and_comm] using h

theorem roundOutcome_undeployable_any (ds : List Desc) (r : Round) :
    (roundOutcome ds r).undeployable.any (critAt ds) = critMissing ds r := by
  rw [roundOutcome_eq]
  cases hc : complete ds r
  · simp only [Bool.false_eq_true, ↓reduceIte, undOf_any_crit]
  · simp only [↓reduceIte, List.any_nil, complete_not_missing ds r hc]

theorem attemptVerdict_round (ds : List Desc) (r : Round) :
    attemptVerdict ds (roundOutcome ds r) = !critMissing ds r := by
  cases hc : complete ds r
  · -- nothing was launched although there is a descriptor: the undeployable ones are looked through
    have hlen : (roundOutcome ds r).deployed.length ≠ ds.length := by
      rw [roundOutcome_incomplete ds r hc]
      intro h
      rw [List.length_eq_zero_iff.1 h.symm] at hc; cases hc
    rw [attemptVerdict, if_pos hlen, roundOutcome_undeployable_any]
  · rw [attemptVerdict, roundOutcome_complete ds r hc, List.length_range, if_neg (fun h => h rfl),
      complete_not_missing ds r hc]
    rfl

theorem marked_nil (ds : List Desc) (r : Round) (h : critMissing ds r = false) :
    (roundOutcome ds r).undeployable.filter (critAt ds) = [] := by
  rw [List.filter_eq_nil_iff]
  intro i hi hcrit
  have : (roundOutcome ds r).undeployable.any (critAt ds) = true := List.any_eq_true.2 ⟨i, hi, hcrit⟩
  rw [roundOutcome_undeployable_any, h] at this; cases this

/-- A critical descriptor exists, so an attempt that launched nothing left a critical descriptor unlaunched. -/
theorem critUnlaunched_nil (ds : List Desc) (r : Round) (h : critMissing ds r = true) : critUnlaunched ds [] = true := by
  unfold critUnlaunched
  simp only [List.contains_nil, Bool.not_false, Bool.and_true]
  rw [indexed_any ds (fun d => d.critical)]
  simp only [critMissing, List.any_eq_true, Bool.and_eq_true] at h ⊢
  obtain ⟨d, hd, hc, _⟩ := h
  exact ⟨d, hd, hc⟩

theorem acquireLoop_length (cfg : AcqCfg) (ds : List Desc) (n : Nat) :
    ∀ (flag : Bool) (rs : List Round), (acquireLoop cfg ds n flag rs).attempts.length ≤ n := by
  intro flag rs
  fun_induction acquireLoop cfg ds n flag rs with
  | case1 => exact Nat.le_refl 0
  | case2 => exact Nat.succ_le_succ (Nat.zero_le _)
  | case3 => exact Nat.succ_le_succ ‹_›

theorem acquireLoop_code_succ (m c : Nat) (ds : List Desc) (n : Nat) (flag : Bool) (rs : List Round) :
    acquireLoop ⟨m, true, c⟩ ds (n + 1) flag rs =
      if critMissing ds (rs.headD []) = false then
        { attempts := [(roundOutcome ds (rs.headD [])).deployed], ok := true,
          kept := (roundOutcome ds (rs.headD [])).deployed, marked := [] }
      else if n = 0 then
        { attempts := [[]], ok := false, kept := [],
          marked := (roundOutcome ds (rs.headD [])).undeployable.filter (critAt ds) }
      else
        { acquireLoop ⟨m, true, c⟩ ds n false rs.tail with
          attempts := [] :: (acquireLoop ⟨m, true, c⟩ ds n false rs.tail).attempts } := by
  rw [acquireLoop]
  simp only [↓reduceIte, Bool.true_and, attemptVerdict_round]
  generalize rs.headD [] = r
  cases hm : critMissing ds r
  · simp [marked_nil ds r hm]
  · have hd := roundOutcome_incomplete ds r (critMissing_incomplete ds r hm)
    by_cases hn : n = 0
    · simp [hn, hd]
    · simp [hn, hd]

theorem acquireLoop_code_flag (m c : Nat) (ds : List Desc) (n : Nat) (flag : Bool) (rs : List Round) :
    acquireLoop ⟨m, true, c⟩ ds (n + 1) flag rs = acquireLoop ⟨m, true, c⟩ ds (n + 1) true rs := by
  rw [acquireLoop_code_succ, acquireLoop_code_succ]

theorem tail_getD (rs : List Round) (j : Nat) : rs.tail.getD j [] = rs.getD (j + 1) [] := by
  cases rs <;> rfl

/-- The loop of the code as it is, is `find?` over the attempts: the first round that leaves no critical descriptor
    without its offer decides. -/
theorem acquireLoop_code_eq (m c : Nat) (ds : List Desc) : ∀ (n : Nat) (flag : Bool) (rs : List Round),
    acquireLoop ⟨m, true, c⟩ ds (n + 1) flag rs =
      match (List.range (n + 1)).find? (fun i => !critMissing ds (rs.getD i [])) with
      | some i => { attempts := List.replicate i [] ++ [(roundOutcome ds (rs.getD i [])).deployed], ok := true,
                    kept := (roundOutcome ds (rs.getD i [])).deployed, marked := [] }
      | none => { attempts := List.replicate (n + 1) [], ok := false, kept := [],
                  marked := (roundOutcome ds (rs.getD n [])).undeployable.filter (critAt ds) } := by
  intro n
  induction n with
  | zero =>
    intro flag rs
    rw [acquireLoop_code_succ, List.headD_eq_getD, show List.range (0 + 1) = [0] from rfl, List.find?_singleton]
    cases critMissing ds (rs.getD 0 []) <;> rfl
  | succ n ih =>
    intro flag rs
    rw [acquireLoop_code_succ, List.headD_eq_getD, List.range_succ_eq_map, List.find?_cons]
    cases critMissing ds (rs.getD 0 [])
    · rfl
    · rw [if_neg nofun, if_neg (Nat.succ_ne_zero n), ih false rs.tail, List.find?_map]
      simp only [Bool.not_true, Function.comp_def, tail_getD]
      cases (List.range (n + 1)).find? (fun i => !critMissing ds (rs.getD (i + 1) [])) <;> rfl

theorem retriesJustified_cons (ds : List Desc) (l : List Nat) (rest : List (List Nat))
    (h1 : critUnlaunched ds l = true) (h2 : retriesJustified ds rest = true) :
    retriesJustified ds (l :: rest) = true := by
  cases rest with
  | nil => rfl
  | cons l' rest => simp only [retriesJustified, h1, h2, Bool.and_self]

theorem lastAttempt_cons (l : List Nat) (rest : List (List Nat)) (h : rest ≠ []) :
    lastAttempt (l :: rest) = lastAttempt rest := by
  cases rest with
  | nil => exact absurd rfl h
  | cons l' rest => simp only [lastAttempt, List.getLast?_cons_cons]

theorem retriesJustified_replicate (ds : List Desc) (h : critUnlaunched ds [] = true) (l : List Nat) (i : Nat) :
    retriesJustified ds (List.replicate i [] ++ [l]) = true := by
  induction i with
  | zero => rfl
  | succ i ih => exact retriesJustified_cons ds [] _ h ih

theorem acquireLoop_cap (m : Nat) (r : Bool) (c c' : Nat) (ds : List Desc) (n : Nat) :
    ∀ (flag : Bool) (rs : List Round), acquireLoop ⟨m, r, c⟩ ds n flag rs = acquireLoop ⟨m, r, c'⟩ ds n flag rs := by
  induction n with
  | zero => intro flag rs; rfl
  | succ n ih =>
    intro flag rs
    simp only [acquireLoop, ih]

/-- acquireTasks itself — every verdict heard — is the same before and after the repair of the hand-over. -/
theorem acquire_legacy (ds : List Desc) (rs : List Round) : acquire AcqCfg.legacy ds rs = acquire AcqCfg.code ds rs := by
  unfold acquire
  split
  · rfl
  · exact acquireLoop_cap attemptLimit true 0 1 ds attemptLimit true rs

theorem acquire_nil (cfg : AcqCfg) (rs : List Round) :
    acquire cfg [] rs = { attempts := [], ok := true, kept := [], marked := [] } := rfl

theorem acquire_code_eq (ds : List Desc) (rs : List Round) (hne : ds ≠ []) :
    acquire AcqCfg.code ds rs =
      match (List.range attemptLimit).find? (fun i => !critMissing ds (rs.getD i [])) with
      | some i => { attempts := List.replicate i [] ++ [(roundOutcome ds (rs.getD i [])).deployed], ok := true,
                    kept := (roundOutcome ds (rs.getD i [])).deployed, marked := [] }
      | none => { attempts := List.replicate attemptLimit [], ok := false, kept := [],
                  marked := (roundOutcome ds (rs.getD 2 [])).undeployable.filter (critAt ds) } := by
  rw [acquire, if_neg (by rwa [List.isEmpty_iff])]
  exact acquireLoop_code_eq attemptLimit 1 ds 2 true rs

theorem acquire_code_first (ds : List Desc) (rs : List Round) (hne : ds ≠ []) (i : Nat)
    (hi : i < attemptLimit) (hfail : ∀ j, j < i → critMissing ds (rs.getD j []) = true)
    (hgood : critMissing ds (rs.getD i []) = false) :
    acquire AcqCfg.code ds rs =
      { attempts := List.replicate i [] ++ [(roundOutcome ds (rs.getD i [])).deployed], ok := true,
        kept := (roundOutcome ds (rs.getD i [])).deployed, marked := [] } := by
  rw [acquire_code_eq ds rs hne, List.find?_range_eq_some.2
    ⟨by rw [hgood]; rfl, List.mem_range.2 hi, fun j hj => by rw [hfail j hj]; rfl⟩]

theorem acquire_code_cases (ds : List Desc) (rs : List Round) (hne : ds ≠ []) :
    (∃ i, i < attemptLimit ∧ (∀ j, j < i → critMissing ds (rs.getD j []) = true) ∧
        critMissing ds (rs.getD i []) = false ∧
        acquire AcqCfg.code ds rs =
          { attempts := List.replicate i [] ++ [(roundOutcome ds (rs.getD i [])).deployed], ok := true,
            kept := (roundOutcome ds (rs.getD i [])).deployed, marked := [] }) ∨
    ((∀ j, j < attemptLimit → critMissing ds (rs.getD j []) = true) ∧
        acquire AcqCfg.code ds rs =
          { attempts := List.replicate attemptLimit [], ok := false, kept := [],
            marked := (roundOutcome ds (rs.getD 2 [])).undeployable.filter (critAt ds) }) := by
  rw [acquire_code_eq ds rs hne]
  cases h : (List.range attemptLimit).find? (fun i => !critMissing ds (rs.getD i [])) with
  | some i =>
    obtain ⟨hg, hi, hfail⟩ := List.find?_range_eq_some.1 h
    exact Or.inl ⟨i, List.mem_range.1 hi, fun j hj => (Bool.not_not _).symm.trans (hfail j hj),
      (Bool.not_eq_true' _).mp hg, rfl⟩
  | none => exact Or.inr ⟨fun j hj => (Bool.not_not _).symm.trans (List.find?_range_eq_none.1 h j hj), rfl⟩

theorem acquire_code_ok_iff (ds : List Desc) (rs : List Round) :
    (acquire AcqCfg.code ds rs).ok = true ↔ ∃ i, i < attemptLimit ∧ critMissing ds (rs.getD i []) = false := by
  by_cases hne : ds = []
  · subst hne; exact ⟨fun _ => ⟨0, by decide, rfl⟩, fun _ => rfl⟩
  · rcases acquire_code_cases ds rs hne with ⟨i, hi, _, hgood, ha⟩ | ⟨hfail, ha⟩
    · rw [ha]; exact ⟨fun _ => ⟨i, hi, hgood⟩, fun _ => rfl⟩
    · rw [ha]; exact ⟨nofun, fun ⟨i, hi, hc⟩ => by rw [hfail i hi] at hc; cases hc⟩

theorem acquire_code_dropLast (ds : List Desc) (rs : List Round) :
    ∀ l ∈ (acquire AcqCfg.code ds rs).attempts.dropLast, l = [] := by
  by_cases hne : ds = []
  · subst hne; nofun
  · rcases acquire_code_cases ds rs hne with ⟨i, _, _, _, ha⟩ | ⟨_, ha⟩
    · rw [ha, List.dropLast_concat]; exact fun l hl => List.eq_of_mem_replicate hl
    · rw [ha]; exact fun l hl => List.eq_of_mem_replicate (List.dropLast_subset _ hl)

theorem acquire_code_retries (ds : List Desc) (rs : List Round) :
    retriesJustified ds (acquire AcqCfg.code ds rs).attempts = true := by
  by_cases hne : ds = []
  · subst hne; rfl
  · rcases acquire_code_cases ds rs hne with ⟨i, _, hfail, _, ha⟩ | ⟨hfail, ha⟩
    · rw [ha]
      cases i with
      | zero => rfl
      | succ i => exact retriesJustified_replicate ds (critUnlaunched_nil ds _ (hfail 0 (Nat.succ_pos i))) _ _
    · rw [ha]
      exact retriesJustified_replicate ds (critUnlaunched_nil ds _ (hfail 0 (by decide))) [] 2

theorem acquire_code_attemptsOk (ds : List Desc) (rs : List Round) :
    attemptsOk ds rs (acquire AcqCfg.code ds rs).attempts.length = true := by
  by_cases hne : ds = []
  · subst hne; rfl
  · rcases acquire_code_cases ds rs hne with ⟨i, hi, hfail, hgood, ha⟩ | ⟨hfail, ha⟩
    · rw [ha]
      simp only [attemptsOk, List.length_append, List.length_replicate, List.length_cons, List.length_nil,
        Nat.zero_add, Nat.add_sub_cancel, lastRound, hgood, Bool.not_false, Bool.true_or, Bool.and_true,
        Bool.and_eq_true, decide_eq_true_eq]
      exact ⟨hi, List.all_eq_true.2 fun j hj => hfail j (List.mem_range.1 hj)⟩
    · rw [ha]
      simp only [attemptsOk, List.length_replicate, lastRound, Bool.and_eq_true, decide_eq_true_eq, Nat.le_refl,
        true_and, BEq.rfl, Bool.or_true, and_true]
      exact List.all_eq_true.2 fun j hj => hfail j (Nat.lt_of_lt_of_le (List.mem_range.1 hj) (Nat.sub_le _ _))

theorem heard_iff (acfg : AcqCfg) (listening : Bool) :
    acfg.heard listening = true ↔ listening = true ∨ 0 < acfg.outcomeCap := by
  simp [AcqCfg.heard, trySend]

theorem heard_of_room (acfg : AcqCfg) (hc : 0 < acfg.outcomeCap) (w : OWorkflow) :
    w.dropped acfg = none ∧ w.hung acfg = false ∧ w.acquired acfg = acquire acfg w.descs w.rounds := by
  have hd : w.dropped acfg = none := by
    unfold OWorkflow.dropped
    cases w.notListening with
    | none => rfl
    | some k => rw [(heard_iff acfg false).2 (Or.inr hc)]; rfl
  exact ⟨hd, by rw [OWorkflow.hung, hd], by rw [OWorkflow.acquired, hd]⟩

theorem dropped_legacy (w : OWorkflow) : w.dropped AcqCfg.legacy = w.notListening := by
  unfold OWorkflow.dropped
  cases w.notListening <;> rfl

theorem acquired_legacy (w : OWorkflow) (hv : w.notListening = none) :
    w.acquired AcqCfg.legacy = acquire AcqCfg.code w.descs w.rounds := by
  rw [OWorkflow.acquired, dropped_legacy, hv, acquire_legacy]

theorem hung_legacy (w : OWorkflow) (hh : w.hung AcqCfg.legacy = true) :
    lostLast w (w.acquired AcqCfg.legacy).attempts.length = true ∧ (w.acquired AcqCfg.legacy).kept = [] := by
  unfold OWorkflow.hung at hh
  unfold OWorkflow.acquired lostLast
  rw [dropped_legacy] at hh ⊢
  cases hv : w.notListening with
  | none => rw [hv] at hh; cases hh
  | some k =>
    rw [hv] at hh
    have hk := of_decide_eq_true hh
    simp only [acquireLost, hk, ↓reduceIte, List.length_take]
    exact ⟨by rw [Nat.min_eq_left hk]; exact beq_self_eq_true (k + 1), trivial⟩

/-- The workflow with every task on its machine: what the model without offers rounds starts from. -/
def OWorkflow.plain (w : OWorkflow) : Workflow :=
  { calls := w.calls, tasks := w.tasks.map (fun t => (t.critical, t.launch)), notifyLost := w.notifyLost }

theorem descs_ne (w : OWorkflow) (hne : w.tasks ≠ []) : w.descs ≠ [] :=
  fun h => hne (List.map_eq_nil_iff.1 h)

theorem eff_all (w : OWorkflow) (a : Acquired) (hk : a.kept = List.range w.tasks.length) : w.eff a = w.plain := by
  simp only [OWorkflow.eff, OWorkflow.plain]
  congr 1
  rw [← indexed_map_snd w.tasks, List.map_map]
  simp only [indexed_map_snd]
  apply List.map_congr_left
  intro p hp
  obtain ⟨hlt, _⟩ := mem_indexed_lt w.tasks p hp
  simp [effLaunch, hk, hlt]

theorem eff_tasks_ne (w : OWorkflow) (a : Acquired) (hne : w.tasks ≠ []) : (w.eff a).tasks ≠ [] := by
  intro h
  apply hne
  have : (indexed w.tasks).length = 0 := by simpa [OWorkflow.eff] using congrArg List.length h
  rw [indexed_length] at this
  exact List.length_eq_zero_iff.1 this

theorem eff_awaits (w : OWorkflow) (a : Acquired) (hne : w.tasks ≠ []) : deployAwaits (w.eff a).tasks w.calls = true := by
  cases h : (w.eff a).tasks with
  | nil => exact absurd h (eff_tasks_ne w a hne)
  | cons _ _ => rfl

theorem eff_unstarted (w : OWorkflow) (a : Acquired) (hk : a.kept = []) (hne : w.tasks ≠ []) :
    ∃ l ∈ (w.eff a).tasks, l.2.started = false := by
  obtain ⟨t, ts, ht⟩ := List.exists_cons_of_ne_nil hne
  refine ⟨(t.critical, effLaunch a 0 t.launch), List.mem_map.2 ⟨(0, t), by rw [mem_indexed, ht]; rfl, rfl⟩, ?_⟩
  simp only [effLaunch, hk, List.contains_nil, Bool.false_eq_true, ↓reduceIte]
  split <;> rfl

theorem eff_none_fails (cfg : Cfg) (w : OWorkflow) (a : Acquired) (hk : a.kept = []) (hne : w.tasks ≠ []) :
    deployBody cfg (w.eff a).tasks w.calls w.notifyLost ≠ .ok := fun h => by
  obtain ⟨l, hl, hs⟩ := eff_unstarted w a hk hne
  rw [((deployBody_ok ..).1 h).1 l hl] at hs; cases hs

theorem eff_first_complete_deploys (cfg : Cfg) (w : OWorkflow) (i : Nat) (hi : i < attemptLimit)
    (hfail : ∀ j, j < i → critMissing w.descs (w.rounds.getD j []) = true)
    (hcomplete : complete w.descs (w.rounds.getD i []) = true)
    (hscripts : ∀ t ∈ w.tasks, t.launch = .ok) (hne : w.tasks ≠ []) (hl : cfg.deployHears w.notifyLost = true) :
    deployBody cfg (w.eff (acquire AcqCfg.code w.descs w.rounds)).tasks w.calls w.notifyLost = .ok := by
  rw [deployBody_ok, eff_awaits w _ hne, if_pos rfl]
  refine ⟨?_, hl⟩
  rw [acquire_code_first _ _ (descs_ne w hne) i hi hfail (complete_not_missing _ _ hcomplete)]
  intro l hl'
  obtain ⟨p, hp, rfl⟩ := List.mem_map.1 hl'
  obtain ⟨hlt, hmem⟩ := mem_indexed_lt w.tasks p hp
  have hk : (roundOutcome w.descs (w.rounds.getD i [])).deployed.contains p.1 = true := by
    rw [roundOutcome_complete _ _ hcomplete]
    simp [OWorkflow.descs, hlt]
  simp only [effLaunch, hk, ↓reduceIte]
  exact hscripts p.2 hmem

theorem asOffered_unstarted (w : OWorkflow) (n : Nat) (hc : complete w.descs (lastRound w.rounds n) = false) :
    ∃ l ∈ (w.asOffered n).tasks, l.2.started = false := by
  simp only [complete, OWorkflow.descs, List.all_map, List.all_eq_false, Function.comp_apply] at hc
  obtain ⟨t, ht, ho⟩ := hc
  exact ⟨_, List.mem_map.2 ⟨t, ht, rfl⟩, by rw [if_neg ho]; rfl⟩

theorem asOffered_complete (w : OWorkflow) (n : Nat) (hc : complete w.descs (lastRound w.rounds n) = true) :
    w.asOffered n = w.plain := by
  simp only [OWorkflow.asOffered, OWorkflow.plain]
  congr 1
  apply List.map_congr_left
  intro t ht
  simp only [complete, OWorkflow.descs, List.all_map, List.all_eq_true] at hc
  have := hc t ht
  simp only [Function.comp_apply] at this
  simp [this]

/-- What acquireTasks leaves for the DEPLOY wait is the workflow as offered in the last round that took place — or no role
    holds a task, and then that round was incomplete. -/
theorem eff_acquire_code (w : OWorkflow) :
    w.eff (acquire AcqCfg.code w.descs w.rounds) = w.asOffered (acquire AcqCfg.code w.descs w.rounds).attempts.length ∨
    ((acquire AcqCfg.code w.descs w.rounds).kept = [] ∧ w.tasks ≠ [] ∧
      complete w.descs (lastRound w.rounds (acquire AcqCfg.code w.descs w.rounds).attempts.length) = false) := by
  by_cases hne : w.tasks = []
  · refine Or.inl ?_
    simp only [OWorkflow.eff, OWorkflow.asOffered, hne, indexed, List.length_nil, List.range_zero, List.zip_nil_right,
      List.map_nil]
  · have hlen : w.descs.length = w.tasks.length := List.length_map ..
    rcases acquire_code_cases w.descs w.rounds (descs_ne _ hne) with ⟨i, _, _, _, ha⟩ | ⟨hfail, ha⟩
    · have hlast : lastRound w.rounds (acquire AcqCfg.code w.descs w.rounds).attempts.length = w.rounds.getD i [] := by
        rw [ha, lastRound, List.length_append, List.length_replicate]; rfl
      rw [hlast]
      cases hc : complete w.descs (w.rounds.getD i [])
      · exact Or.inr ⟨by rw [ha]; exact roundOutcome_incomplete _ _ hc, hne, rfl⟩
      · refine Or.inl ?_
        rw [eff_all w _ (by rw [ha, ← hlen]; exact roundOutcome_complete _ _ hc),
          asOffered_complete w _ (by rw [hlast]; exact hc)]
    · have hlast : lastRound w.rounds (acquire AcqCfg.code w.descs w.rounds).attempts.length = w.rounds.getD 2 [] := by
        rw [ha, lastRound, List.length_replicate]; rfl
      exact Or.inr ⟨by rw [ha], hne, by rw [hlast]; exact critMissing_incomplete _ _ (hfail 2 (by decide))⟩

end Trans
