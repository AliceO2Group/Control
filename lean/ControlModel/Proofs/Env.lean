/-
  Proofs/Env — the environment machine of Model/Env.lean: what hook handling — a pass of handleHooks, the DESTROY hooks
  of a teardown — leaves alone (`Core`), what holds of a pass because it holds of every weight (`handleWeights_forall`,
  `handleWeights_invariant`) and what each piece of bookkeeping writes (`…_frame`); the ways the callbacks, `Sm.Event`,
  a teardown and the ControlEnvironment glue can end (`…_cases`); the relations between the environment before and
  after that hold of the whole because they hold of every step (`HooksRespect`, `Respects`); and, read off these, what
  `Sm.Event` does to the state (`fsmEvent_st`) and its callbacks to the run counter (`…_counter`), how it ends when no
  pass counts a critical failure (`CalmPasses`), what a teardown and the glue do to the state and the listing flag, and
  `step` as `stepHeld` with the request's own look-up.
-/
import ControlModel.Model.Env
import ControlModel.Model.EnvBodies

namespace EnvM

/-- The part of an environment that hook handling leaves alone. -/
structure Core where
  st : St
  rn : Nat
  vars : Vars
  clock : Nat
  counter : Nat
  gone : Bool
  deriving DecidableEq

def Env.core (e : Env) : Core :=
  { st := e.st, rn := e.rn, vars := e.vars, clock := e.clock, counter := e.counter, gone := e.gone }

theorem bumpExec_core (env : Env) (id : Nat) : (bumpExec env id).core = env.core := rfl

/-- Instantiating hooks leaves in the environment only the count of their executions. -/
theorem instantiate_execs (env : Env) (hs : List Hook) :
    (instantiate env hs).1 = { env with execs := (instantiate env hs).1.execs } := by
  induction hs generalizing env with
  | nil => rfl
  | cons h hs ih => exact ih (bumpExec env h.id)

theorem instantiate_core (env : Env) (hs : List Hook) : (instantiate env hs).1.core = env.core := by
  rw [instantiate_execs]; rfl

theorem phase1_core (env : Env) (hooks : List Hook) (m : Moment) (w : Int) :
    (phase1 env hooks m w).1.core = env.core := by
  unfold phase1; simp only
  exact instantiate_core env _

theorem phase2_core (env : Env) (m : Moment) (w : Int) : (phase2 env m w).1.core = env.core := by
  unfold phase2; simp only; split <;> rfl

theorem handleWeight_core (env : Env) (hooks : List Hook) (m : Moment) (w : Int) :
    (handleWeight env hooks m w).1.core = env.core := by
  unfold handleWeight
  simp only
  rw [instantiate_core, phase2_core, phase1_core]

theorem handleWeights_core (env : Env) (hooks : List Hook) (m : Moment) (ws : List Int) :
    (handleWeights env hooks m ws).1.core = env.core := by
  fun_induction handleWeights env hooks m ws with
  | case1 => rfl
  | case2 env w => exact handleWeight_core env hooks m w
  | case3 env w ws r _ r' ih => exact ih.trans (handleWeight_core env hooks m w)

theorem handleHooks_core (env : Env) (hooks : List Hook) (m : Moment) (p : Int → Bool) :
    (handleHooks env hooks m p).1.core = env.core := handleWeights_core env hooks m _

/-- What two environments with the same core agree on — stated for variables: `congrArg Core.st (handleHooks_core ..)`
    would have Lean unfold `handleHooks` to compare the projections. -/
theorem core_fields {a b : Env} (h : a.core = b.core) :
    a.st = b.st ∧ a.gone = b.gone ∧ a.vars = b.vars ∧ a.rn = b.rn ∧ a.counter = b.counter ∧ a.clock = b.clock :=
  ⟨congrArg Core.st h, congrArg Core.gone h, congrArg Core.vars h, congrArg Core.rn h, congrArg Core.counter h,
    congrArg Core.clock h⟩

theorem handleHooks_st (env : Env) (hooks : List Hook) (m : Moment) (p : Int → Bool) :
    (handleHooks env hooks m p).1.st = env.st := (core_fields (handleHooks_core env hooks m p)).1

theorem handleHooks_gone (env : Env) (hooks : List Hook) (m : Moment) (p : Int → Bool) :
    (handleHooks env hooks m p).1.gone = env.gone := (core_fields (handleHooks_core env hooks m p)).2.1

theorem handleHooks_vars (env : Env) (hooks : List Hook) (m : Moment) (p : Int → Bool) :
    (handleHooks env hooks m p).1.vars = env.vars := (core_fields (handleHooks_core env hooks m p)).2.2.1

theorem handleHooks_rn (env : Env) (hooks : List Hook) (m : Moment) (p : Int → Bool) :
    (handleHooks env hooks m p).1.rn = env.rn := (core_fields (handleHooks_core env hooks m p)).2.2.2.1

theorem handleHooks_counter (env : Env) (hooks : List Hook) (m : Moment) (p : Int → Bool) :
    (handleHooks env hooks m p).1.counter = env.counter := (core_fields (handleHooks_core env hooks m p)).2.2.2.2.1

theorem handleHooks_clock (env : Env) (hooks : List Hook) (m : Moment) (p : Int → Bool) :
    (handleHooks env hooks m p).1.clock = env.clock := (core_fields (handleHooks_core env hooks m p)).2.2.2.2.2

/-- The DESTROY hooks are called and waited for on the spot: all they leave in the environment is the count of their
    executions. -/
theorem callAllSync_execs (env : Env) (m : Moment) (w : Int) (hs : List Hook) :
    (callAllSync env m w hs).1 = { env with execs := (callAllSync env m w hs).1.execs } := by
  induction hs generalizing env with
  | nil => rfl
  | cons h hs ih => exact ih (bumpExec env h.id)

theorem destroyWeights_execs (env : Env) (hooks : List Hook) (ws : List Int) :
    (destroyWeights env hooks ws).1 = { env with execs := (destroyWeights env hooks ws).1.execs } := by
  fun_induction destroyWeights env hooks ws with
  | case1 => rfl
  | case2 env w ws hm r r' ih =>
    have h1 := callAllSync_execs env hm.2 w (hm.1.filter (fun h => !h.isTask))
    rw [ih, h1]

theorem destroyWeights_core (env : Env) (hooks : List Hook) (ws : List Int) :
    (destroyWeights env hooks ws).1.core = env.core := by
  rw [destroyWeights_execs]; rfl

theorem destroyWeights_st (env : Env) (hooks : List Hook) (ws : List Int) :
    (destroyWeights env hooks ws).1.st = env.st := (core_fields (destroyWeights_core env hooks ws)).1

theorem destroyWeights_gone (env : Env) (hooks : List Hook) (ws : List Int) :
    (destroyWeights env hooks ws).1.gone = env.gone := (core_fields (destroyWeights_core env hooks ws)).2.1

theorem destroyWeights_vars (env : Env) (hooks : List Hook) (ws : List Int) :
    (destroyWeights env hooks ws).1.vars = env.vars := (core_fields (destroyWeights_core env hooks ws)).2.2.1

theorem destroyWeights_counter (env : Env) (hooks : List Hook) (ws : List Int) :
    (destroyWeights env hooks ws).1.counter = env.counter := (core_fields (destroyWeights_core env hooks ws)).2.2.2.2.1

/-- `env'` is whatever environment the weights before `w` have led to: all that is known of it is that hook handling
    leaves the core alone. -/
theorem handleWeights_forall (env : Env) (hooks : List Hook) (m : Moment) (ws : List Int) (P : Step → Prop)
    (h : ∀ env', env'.core = env.core → ∀ w ∈ ws, ∀ s ∈ (handleWeight env' hooks m w).2.1, P s) :
    ∀ s ∈ (handleWeights env hooks m ws).2.1, P s := by
  fun_induction handleWeights env hooks m ws with
  | case1 => intro s hs; cases hs
  | case2 env w => exact h env rfl w List.mem_cons_self
  | case3 env w ws r _ r' ih =>
    intro s hs
    rcases List.mem_append.mp hs with hs | hs
    · exact h env rfl w List.mem_cons_self s hs
    · exact ih (fun env' he w' hw' => h env' (he.trans (handleWeight_core env hooks m w)) w' (List.mem_cons_of_mem _ hw')) s hs

theorem handleWeights_invariant (P : Env → Prop) (env : Env) (hooks : List Hook) (m : Moment) (ws : List Int)
    (h : ∀ env', ∀ w ∈ ws, P env' → P (handleWeight env' hooks m w).1) (hp : P env) : P (handleWeights env hooks m ws).1 := by
  fun_induction handleWeights env hooks m ws with
  | case1 => exact hp
  | case2 env w => exact h env w List.mem_cons_self hp
  | case3 env w ws r _ r' ih =>
    exact ih (fun env' w' hw' => h env' w' (List.mem_cons_of_mem _ hw')) (h env w List.mem_cons_self hp)

theorem handleHooks_nil (env : Env) (m : Moment) (p : Int → Bool) (h : env.pending = []) :
    handleHooks env [] m p = (env, [], 0) := by
  have : weightsFor env [] m p = [] := by
    simp only [weightsFor, h, List.filter_nil, List.map_nil, List.append_nil]; rfl
  rw [handleHooks, this]; rfl

/-! Each piece of bookkeeping between the hook passes writes a few fields of the environment: whatever reads none of
  them (`hf`; for a field of the environment, `fun .. => rfl`) is the same afterwards. -/

theorem tick_st (env : Env) : (tick env).1.st = env.st ∧ (tick env).1.gone = env.gone := ⟨rfl, rfl⟩

theorem setSoeor_frame {α : Type} (f : Env → α) (hf : ∀ (a : Env) v c, f { a with vars := v, clock := c } = f a)
    (env : Env) (tr : String) (p : Bool) : f (setSoeorIfEmpty env tr p).1 = f env := by
  unfold setSoeorIfEmpty; split
  · exact hf env _ _
  · rfl

theorem setEoeor_frame {α : Type} (f : Env → α) (hf : ∀ (a : Env) v c, f { a with vars := v, clock := c } = f a)
    (env : Env) (tr : String) (s : RunStatus) : f (setEoeorIfEmpty env tr s).1 = f env := by
  unfold setEoeorIfEmpty; split
  · exact hf env _ _
  · rfl

theorem bkBefore_frame {α : Type} (f : Env → α)
    (hf : ∀ (a : Env) n k v c, f { a with counter := n, rn := k, vars := v, clock := c } = f a)
    (env : Env) (e : Ev) (r : Bool) : f (bkBefore env e r).1 = f env := by
  cases e with
  | START_ACTIVITY => cases r <;> first | rfl | exact hf env _ _ _ _
  | STOP_ACTIVITY | GO_ERROR => exact setSoeor_frame f (fun a => hf a a.counter a.rn) ..
  | _ => rfl

theorem bkBefore_cancels (env : Env) (e : Ev) (r : Bool) : (bkBefore env e r).2.2 = (e == .START_ACTIVITY && r) := by
  cases e with
  | START_ACTIVITY => cases r <;> rfl
  | _ => rfl

theorem bkBefore_counter (env : Env) (e : Ev) (r : Bool) :
    (bkBefore env e r).1.counter = env.counter + (if e = .START_ACTIVITY ∧ r = false then 1 else 0) := by
  cases e with
  | START_ACTIVITY => cases r <;> rfl
  | STOP_ACTIVITY | GO_ERROR => exact setSoeor_frame Env.counter (fun _ _ _ => rfl) ..
  | _ => rfl

/-- The bookkeeping of leave_<state> between its two hook passes, which the model writes inline: out of RUNNING the end
    time is stamped if it is still empty. -/
def bkLeave (src : St) (env : Env) (e : Ev) : Env × List Step :=
  if src = .RUNNING then setSoeorIfEmpty env e.name false else (env, [])

theorem bkLeave_frame {α : Type} (f : Env → α) (hf : ∀ (a : Env) v c, f { a with vars := v, clock := c } = f a)
    (src : St) (env : Env) (e : Ev) : f (bkLeave src env e).1 = f env := by
  unfold bkLeave; split
  · exact setSoeor_frame f hf ..
  · rfl

theorem bkAfter_frame {α : Type} (f : Env → α) (hf : ∀ (a : Env) v c, f { a with vars := v, clock := c } = f a)
    (env : Env) (e : Ev) (failed : Bool) : f (bkAfter env e failed).1 = f env := by
  cases e with
  | START_ACTIVITY => exact hf env _ _
  | STOP_ACTIVITY | GO_ERROR => exact setEoeor_frame f hf ..
  | _ => rfl

theorem finAfter_frame {α : Type} (f : Env → α) (hf : ∀ (a : Env) k v, f { a with rn := k, vars := v } = f a)
    (env : Env) (e : Ev) : f (finAfter env e).1 = f env := by
  unfold finAfter; split
  · exact hf env _ _
  · rfl

theorem applyBody_eq (env : Env) (e : Ev) (b : Bool) :
    applyBody env e b = if !b ∧ e = .START_ACTIVITY then { env with rn := 0 } else env := by
  cases b <;> cases e <;> rfl

theorem applyBody_frame {α : Type} (f : Env → α) (hf : ∀ (a : Env) k, f { a with rn := k } = f a)
    (env : Env) (e : Ev) (b : Bool) : f (applyBody env e b) = f env := by
  rw [applyBody_eq]; split
  · exact hf env _
  · rfl

/-- The stamping of a teardown, which the model writes inline: a RUNNING environment gets both end stamps, each if it is
    still empty. -/
def tdStamp (env : Env) : Env × List Step :=
  if env.st = .RUNNING then
    ((setEoeorIfEmpty (setSoeorIfEmpty env "TEARDOWN" true).1 "TEARDOWN" .started).1,
      (setSoeorIfEmpty env "TEARDOWN" true).2 ++ (setEoeorIfEmpty (setSoeorIfEmpty env "TEARDOWN" true).1 "TEARDOWN" .started).2)
  else (env, [])

theorem tdStamp_frame {α : Type} (f : Env → α) (hf : ∀ (a : Env) v c, f { a with vars := v, clock := c } = f a)
    (env : Env) : f (tdStamp env).1 = f env := by
  unfold tdStamp; split
  · exact (setEoeor_frame f hf ..).trans (setSoeor_frame f hf ..)
  · rfl

/-! Each `…_cases` lemma states the ends once, one equation per end. A proof about a callback takes the cases apart
  and rewrites with `simp only [heq]`: that also reduces the projections of the triple. After `rw [heq]` the goal
  still holds `(a, b, c).1`, and closing it with a fact about `a` makes the unifier unfold the callbacks. -/

theorem beforeEvent_cases (env : Env) (hooks : List Hook) (e : Ev) (r : Bool) :
    let m := Moment.before e
    let r1 := handleHooks env hooks m negW
    let bk := bkBefore r1.1 e r
    let r2 := handleHooks bk.1 hooks m posW
    (0 < r1.2.2 ∧ beforeEvent env hooks e r =
      (r1.1, [Step.mark m.name false] ++ r1.2.1 ++ [Step.mark m.name true], some (.cancelledHooks r1.2.2 m))) ∨
    (r1.2.2 = 0 ∧ bk.2.2 = true ∧ beforeEvent env hooks e r = (bk.1, [Step.mark m.name false] ++ r1.2.1, some .cancelledRn)) ∨
    (r1.2.2 = 0 ∧ bk.2.2 = false ∧ beforeEvent env hooks e r =
      (r2.1, [Step.mark m.name false] ++ r1.2.1 ++ bk.2.1 ++ r2.2.1 ++ [Step.mark m.name true],
        if r2.2.2 > 0 then some (.cancelledHooks r2.2.2 m) else none)) := by
  intro m r1 bk r2
  by_cases h1 : 0 < r1.2.2
  · exact Or.inl ⟨h1, by simp only [beforeEvent, gt_iff_lt]; rw [if_pos h1]⟩
  · cases h2 : bk.2.2
    · exact Or.inr (Or.inr ⟨by omega, rfl, by simp only [beforeEvent, gt_iff_lt]; rw [if_neg h1, h2]; rfl⟩)
    · exact Or.inr (Or.inl ⟨by omega, rfl, by simp only [beforeEvent, gt_iff_lt]; rw [if_neg h1, if_pos h2]⟩)

/-- Which of its three ends leave_<state> takes does not depend on the body's outcome; where the body is reached,
    what it does to the environment is `applyBody`. -/
theorem leaveState_cases (env : Env) (hooks : List Hook) (e : Ev) :
    let m := Moment.leave env.st
    let r1 := handleHooks env hooks m negW
    let bk := bkLeave env.st r1.1 e
    let r2 := handleHooks bk.1 hooks m posW
    let pre := [Step.mark m.name false] ++ r1.2.1 ++ bk.2 ++ r2.2.1 ++ [Step.mark m.name true]
    (0 < r1.2.2 ∧ ∀ b, leaveState env hooks e b =
      (bk.1, [Step.mark m.name false] ++ r1.2.1 ++ bk.2 ++ [Step.mark m.name true], some (.cancelledHooks r1.2.2 m))) ∨
    (r1.2.2 = 0 ∧ 0 < r2.2.2 ∧ ∀ b, leaveState env hooks e b = (r2.1, pre, some (.cancelledHooks r2.2.2 m))) ∨
    (r1.2.2 = 0 ∧ r2.2.2 = 0 ∧ ∀ b, leaveState env hooks e b =
      (applyBody r2.1 e b, pre ++ [Step.mark ("tasks_" ++ e.name) false, Step.body e b, Step.mark ("tasks_" ++ e.name) true],
        if b then none else some .cancelledBody)) := by
  unfold bkLeave
  intro m r1 bk r2 pre
  by_cases h1 : 0 < r1.2.2
  · exact Or.inl ⟨h1, fun b => by simp only [leaveState, gt_iff_lt]; rw [if_pos h1]⟩
  · by_cases h2 : 0 < r2.2.2
    · exact Or.inr (Or.inl ⟨by omega, h2, fun b => by simp only [leaveState, gt_iff_lt]; rw [if_neg h1, if_pos h2]⟩)
    · exact Or.inr (Or.inr ⟨by omega, by omega, fun b => by
        simp only [leaveState, gt_iff_lt]; rw [if_neg h1, if_neg h2, applyBody_eq]⟩)

/-- The four ends of `Sm.Event`. The environment leave_<state> returns has a name, `left`: `{ l.1 with st := d }` would carry a local binding of
    `l.1`, which a goal being proved and a statement already stored spell differently, and telling that the two are
    the same term is slow. -/
theorem fsmEvent_cases (env : Env) (hooks : List Hook) (e : Ev) (b r : Bool) :
    (dst? e env.st = none ∧ fsmEvent env hooks e b r = (env, [], .illegal)) ∨
    ∃ d, dst? e env.st = some d ∧
      let bf := beforeEvent env hooks e r
      let l := leaveState bf.1 hooks e b
      let left := l.1
      let en := enterState { left with st := d } hooks
      let af := afterEvent en.1 hooks e en.2.2
      ((∃ res, bf.2.2 = some res ∧ fsmEvent env hooks e b r = (bf.1, bf.2.1, res)) ∨
       (bf.2.2 = none ∧ ∃ res, l.2.2 = some res ∧ fsmEvent env hooks e b r = (l.1, bf.2.1 ++ l.2.1, res)) ∨
       (bf.2.2 = none ∧ l.2.2 = none ∧ fsmEvent env hooks e b r =
          (af.1, bf.2.1 ++ l.2.1 ++ [Step.setState d] ++ en.2.1 ++ af.2.1,
            if af.2.2.isEmpty then .ok else .reported af.2.2))) := by
  cases hd : dst? e env.st with
  | none => exact Or.inl ⟨rfl, by simp only [fsmEvent, hd]⟩
  | some d =>
    refine Or.inr ⟨d, rfl, ?_⟩
    intro bf l left en af
    cases hb : bf.2.2 with
    | some res => exact Or.inl ⟨res, rfl, by simp only [fsmEvent, hd]; rw [hb]⟩
    | none =>
      cases hl : l.2.2 with
      | some res => exact Or.inr (Or.inl ⟨rfl, res, rfl, by simp only [fsmEvent, hd]; rw [hb]; simp only []; rw [hl]⟩)
      | none => exact Or.inr (Or.inr ⟨rfl, rfl, by simp only [fsmEvent, hd]; rw [hb]; simp only []; rw [hl]⟩)

theorem fsmEvent_illegal (env : Env) (hooks : List Hook) (e : Ev) (b r : Bool) (hd : dst? e env.st = none) :
    fsmEvent env hooks e b r = (env, [], .illegal) := by
  unfold fsmEvent; rw [hd]

theorem teardown_cases (env : Env) (hooks : List Hook) (f r1 r2 : Bool) (n : Nat) :
    let h := handleHooks env hooks (.leave env.st) allW
    let ts := tdStamp h.1
    let ws := sortDedup ((hooks.filter (fun h => h.trig = .destroy ∨ h.trig = .afterDestroy)).map (·.tw))
    let d := destroyWeights ts.1 hooks ws
    let fin : Env := { d.1 with cancelled := d.1.cancelled ++ allPending d.1 }
    let pre := h.2.1 ++ ts.2 ++ [Step.release n true] ++ d.2 ++ [Step.cancel (allPending d.1)]
    (teardown env hooks f r1 r2 n = (env, [], .teardownRefused)) ∨
    (teardown env hooks f r1 r2 n = (ts.1, h.2.1 ++ ts.2 ++ [Step.release n false], .releaseFailed)) ∨
    (teardown env hooks f r1 r2 n = (fin, pre ++ [Step.release 0 false], .releaseFailed)) ∨
    (env.st ≠ .DONE ∧ teardown env hooks f r1 r2 n =
      ({ fin with st := .DONE, gone := true }, pre ++ [Step.release 0 true, Step.setState .DONE],
        if h.2.2 > 0 ∧ ws.isEmpty then .reported [(h.2.2, .leave fin.st)] else .ok)) := by
  fun_cases teardown env hooks f r1 r2 n with
  | case1 | case2 => exact .inl rfl
  | case3 => exact .inr (.inl rfl)
  | case4 => exact .inr (.inr (.inl rfl))
  | case5 hd => exact .inr (.inr (.inr ⟨hd, rfl⟩))

theorem teardown_refused (env : Env) (hooks : List Hook) (f r1 r2 : Bool) (n : Nat)
    (h : env.st = .DONE ∨ (env.st ≠ .STANDBY ∧ env.st ≠ .DEPLOYED ∧ f = false)) :
    teardown env hooks f r1 r2 n = (env, [], .teardownRefused) := by
  rw [teardown]
  by_cases hd : env.st = .DONE
  · exact if_pos hd
  · rw [if_neg hd]
    rcases h with h | ⟨h1, h2, rfl⟩
    · exact absurd h hd
    · exact if_pos ⟨h1, h2, rfl⟩

/-- A transitive relation between the environment before and after that holds across every pass of handleHooks:
    it holds across a callback as soon as it holds across that callback's own bookkeeping. -/
structure HooksRespect (hooks : List Hook) (R : Env → Env → Prop) : Prop where
  trans : ∀ {a b c}, R a b → R b c → R a c
  pass : ∀ a m p, R a (handleHooks a hooks m p).1

namespace HooksRespect
variable {hooks : List Hook} {R : Env → Env → Prop} (h : HooksRespect hooks R)
include h

theorem beforeEvent {e : Ev} {r : Bool} (bk : ∀ a, R a (bkBefore a e r).1) (env : Env) :
    R env (beforeEvent env hooks e r).1 := by
  have h1 := h.pass env (.before e) negW
  have h2 := h.trans h1 (bk _)
  obtain ⟨_, heq⟩ | ⟨_, _, heq⟩ | ⟨_, _, heq⟩ := beforeEvent_cases env hooks e r <;> simp only [heq]
  · exact h1
  · exact h2
  · exact h.trans h2 (h.pass _ _ _)

theorem leaveState {e : Ev} {b : Bool} (stamp : ∀ a, R a (setSoeorIfEmpty a e.name false).1)
    (body : ∀ a, R a (applyBody a e b)) (env : Env) : R env (leaveState env hooks e b).1 := by
  have h1 := h.pass env (.leave env.st) negW
  have h2 : R env (bkLeave env.st (handleHooks env hooks (.leave env.st) negW).1 e).1 := by
    unfold bkLeave; split
    · exact h.trans h1 (stamp _)
    · exact h1
  obtain ⟨_, heq⟩ | ⟨_, _, heq⟩ | ⟨_, _, heq⟩ := leaveState_cases env hooks e <;> simp only [heq]
  · exact h2
  · exact h.trans h2 (h.pass _ _ _)
  · exact h.trans (h.trans h2 (h.pass _ _ _)) (body _)

theorem enterState (env : Env) : R env (enterState env hooks).1 :=
  h.trans (h.pass env _ negW) (h.pass _ _ posW)

theorem afterEvent {e : Ev} (bk : ∀ a failed, R a (bkAfter a e failed).1) (fin : ∀ a, R a (finAfter a e).1)
    (env : Env) (errs : List (Nat × Moment)) : R env (afterEvent env hooks e errs).1 :=
  h.trans (h.trans (h.trans (h.pass env _ negW) (bk _ _)) (h.pass _ _ posW)) (fin _)

end HooksRespect

/-- A `HooksRespect` relation that is reflexive too and holds across each of the other elementary steps `Sm.Event e`
    is made of: the bookkeeping of the four callbacks, the body, the state write. -/
structure Respects (hooks : List Hook) (e : Ev) (R : Env → Env → Prop) : Prop extends HooksRespect hooks R where
  refl : ∀ a, R a a
  bkBefore : ∀ a r, R a (bkBefore a e r).1
  leaveStamp : ∀ a, R a (setSoeorIfEmpty a e.name false).1
  body : ∀ a b, R a (applyBody a e b)
  setState : ∀ a d, R a { a with st := d }
  bkAfter : ∀ a failed, R a (bkAfter a e failed).1
  finAfter : ∀ a, R a (finAfter a e).1

theorem Respects.fsmEvent {hooks : List Hook} {e : Ev} {R : Env → Env → Prop} (h : Respects hooks e R)
    (env : Env) (b r : Bool) : R env (fsmEvent env hooks e b r).1 := by
  have hb := h.beforeEvent (h.bkBefore · r) env
  have hl := h.trans hb (h.leaveState h.leaveStamp (h.body · b) _)
  obtain ⟨_, heq⟩ | ⟨d, _, ⟨_, _, heq⟩ | ⟨_, _, _, heq⟩ | ⟨_, _, heq⟩⟩ := fsmEvent_cases env hooks e b r <;> simp only [heq]
  · exact h.refl env
  · exact hb
  · exact hl
  · exact h.trans (h.trans (h.trans hl (h.setState _ d)) (h.enterState _)) (h.afterEvent h.bkAfter h.finAfter _ _)

/-- A relation on the workflow variables: the passes, the body and the state write leave them alone, so only the
    bookkeeping has to respect it. -/
theorem Respects.ofVars {hooks : List Hook} {e : Ev} {P : Vars → Vars → Prop} (refl : ∀ v, P v v)
    (trans : ∀ {a b c}, P a b → P b c → P a c)
    (bkBefore : ∀ a r, P a.vars (EnvM.bkBefore a e r).1.vars) (leaveStamp : ∀ a, P a.vars (setSoeorIfEmpty a e.name false).1.vars)
    (bkAfter : ∀ a f, P a.vars (EnvM.bkAfter a e f).1.vars) (finAfter : ∀ a, P a.vars (EnvM.finAfter a e).1.vars) :
    Respects hooks e (fun a b => P a.vars b.vars) where
  refl a := refl a.vars
  trans := trans
  pass a m p := by rw [handleHooks_vars]; exact refl _
  bkBefore := bkBefore
  leaveStamp := leaveStamp
  body a b := by rw [applyBody_frame Env.vars (fun _ _ => rfl)]; exact refl _
  setState a d := refl _
  bkAfter := bkAfter
  finAfter := finAfter

theorem fsmEvent_gone (env : Env) (hooks : List Hook) (e : Ev) (b r : Bool) : (fsmEvent env hooks e b r).1.gone = env.gone :=
  Respects.fsmEvent (R := fun a b => b.gone = a.gone)
    { refl := fun _ => rfl
      trans := fun h h' => h'.trans h
      pass := fun a => handleHooks_gone a hooks
      bkBefore := fun a => bkBefore_frame Env.gone (fun _ _ _ _ _ => rfl) a e
      leaveStamp := fun a => setSoeor_frame Env.gone (fun _ _ _ => rfl) a _ _
      body := fun a => applyBody_frame Env.gone (fun _ _ => rfl) a e
      setState := fun _ _ => rfl
      bkAfter := fun a => bkAfter_frame Env.gone (fun _ _ _ => rfl) a e
      finAfter := fun a => finAfter_frame Env.gone (fun _ _ _ => rfl) a e } env b r

theorem st_hooksRespect (hooks : List Hook) : HooksRespect hooks (fun a b => b.st = a.st) :=
  ⟨fun h h' => h'.trans h, (handleHooks_st · hooks)⟩

theorem beforeEvent_st (env : Env) (hooks : List Hook) (e : Ev) (r : Bool) : (beforeEvent env hooks e r).1.st = env.st :=
  (st_hooksRespect hooks).beforeEvent (bkBefore_frame Env.st (fun _ _ _ _ _ => rfl) · e r) env

theorem leaveState_st (env : Env) (hooks : List Hook) (e : Ev) (b : Bool) : (leaveState env hooks e b).1.st = env.st :=
  (st_hooksRespect hooks).leaveState (setSoeor_frame Env.st (fun _ _ _ => rfl) · _ _)
    (applyBody_frame Env.st (fun _ _ => rfl) · e b) env

theorem enterState_st (env : Env) (hooks : List Hook) : (enterState env hooks).1.st = env.st :=
  (st_hooksRespect hooks).enterState env

theorem afterEvent_st (env : Env) (hooks : List Hook) (e : Ev) (errs : List (Nat × Moment)) :
    (afterEvent env hooks e errs).1.st = env.st :=
  (st_hooksRespect hooks).afterEvent (bkAfter_frame Env.st (fun _ _ _ => rfl) · e) (finAfter_frame Env.st (fun _ _ _ => rfl) · e)
    env errs

theorem counter_hooksRespect (hooks : List Hook) : HooksRespect hooks (fun a b => b.counter = a.counter) :=
  ⟨fun h h' => h'.trans h, (handleHooks_counter · hooks)⟩

theorem beforeEvent_counter (env : Env) (hooks : List Hook) (e : Ev) (r : Bool) :
    (beforeEvent env hooks e r).1.counter = env.counter +
      (if e = .START_ACTIVITY ∧ (handleHooks env hooks (.before e) negW).2.2 = 0 then (if r then 0 else 1) else 0) := by
  simp only [beforeEvent, apply_ite Prod.fst, apply_ite Env.counter, handleHooks_counter, bkBefore_counter, ite_self]
  by_cases hn : (handleHooks env hooks (.before e) negW).2.2 = 0
  · simp only [hn, Nat.lt_irrefl, if_false, and_true]
    cases r <;> simp
  · rw [if_pos (Nat.pos_of_ne_zero hn), if_neg (fun h => hn h.2)]; rfl

theorem leaveState_counter (env : Env) (hooks : List Hook) (e : Ev) (b : Bool) :
    (leaveState env hooks e b).1.counter = env.counter :=
  (counter_hooksRespect hooks).leaveState (setSoeor_frame Env.counter (fun _ _ _ => rfl) · _ _)
    (applyBody_frame Env.counter (fun _ _ => rfl) · e b) env

theorem enterState_counter (env : Env) (hooks : List Hook) : (enterState env hooks).1.counter = env.counter :=
  (counter_hooksRespect hooks).enterState env

theorem afterEvent_counter (env : Env) (hooks : List Hook) (e : Ev) (errs : List (Nat × Moment)) :
    (afterEvent env hooks e errs).1.counter = env.counter :=
  (counter_hooksRespect hooks).afterEvent (bkAfter_frame Env.counter (fun _ _ _ => rfl) · e)
    (finAfter_frame Env.counter (fun _ _ _ => rfl) · e) env errs

/-- Results after which the state is the one before the request. -/
def Result.keepsState : Result → Bool
  | .illegal | .cancelledHooks .. | .cancelledBody | .cancelledRn => true
  | _ => false

/-- Results after which the state is the destination of the table. -/
def Result.moved : Result → Bool
  | .ok | .reported _ => true
  | _ => false

theorem keeps_not_moved (r : Result) (h : r.keepsState = true) : r.moved = false ∧ r.isOk = false := by
  cases r <;> first | exact ⟨rfl, rfl⟩ | cases h

theorem beforeEvent_res (env : Env) (hooks : List Hook) (e : Ev) (r : Bool) (res : Result)
    (h : (beforeEvent env hooks e r).2.2 = some res) : res.keepsState = true := by
  obtain ⟨_, heq⟩ | ⟨_, _, heq⟩ | ⟨_, _, heq⟩ := beforeEvent_cases env hooks e r <;> simp only [heq] at h
  · cases h; rfl
  · cases h; rfl
  · split at h <;> cases h; rfl

theorem beforeEvent_rnFail (env : Env) (hooks : List Hook)
    (hn : (handleHooks env hooks (.before .START_ACTIVITY) negW).2.2 = 0) :
    (beforeEvent env hooks .START_ACTIVITY true).2.2 = some .cancelledRn := by
  unfold beforeEvent
  simp only [hn, Nat.lt_irrefl, if_false]
  rfl

theorem leaveState_res (env : Env) (hooks : List Hook) (e : Ev) (b : Bool) (res : Result)
    (h : (leaveState env hooks e b).2.2 = some res) : res.keepsState = true := by
  obtain ⟨_, heq⟩ | ⟨_, _, heq⟩ | ⟨_, _, heq⟩ := leaveState_cases env hooks e <;> simp only [heq] at h
  · cases h; rfl
  · cases h; rfl
  · cases b <;> cases h; rfl

theorem fsmEvent_of_moved (env : Env) (hooks : List Hook) (e : Ev) (b r : Bool)
    (hm : (fsmEvent env hooks e b r).2.2.moved = true) :
    ∃ d, dst? e env.st = some d ∧
      let bf := beforeEvent env hooks e r
      let l := leaveState bf.1 hooks e b
      let left := l.1
      let en := enterState { left with st := d } hooks
      let af := afterEvent en.1 hooks e en.2.2
      bf.2.2 = none ∧ l.2.2 = none ∧ fsmEvent env hooks e b r =
        (af.1, bf.2.1 ++ l.2.1 ++ [Step.setState d] ++ en.2.1 ++ af.2.1, if af.2.2.isEmpty then .ok else .reported af.2.2) := by
  obtain ⟨_, heq⟩ | ⟨d, hd, ⟨res, hb, heq⟩ | ⟨_, res, hl, heq⟩ | h⟩ := fsmEvent_cases env hooks e b r
  · rw [heq] at hm; cases hm
  · rw [heq, (keeps_not_moved res (beforeEvent_res _ _ _ _ res hb)).1] at hm; cases hm
  · rw [heq, (keeps_not_moved res (leaveState_res _ _ _ _ res hl)).1] at hm; cases hm
  · exact ⟨d, hd, h⟩

theorem fsmEvent_st (env : Env) (hooks : List Hook) (e : Ev) (b r : Bool) :
    ((fsmEvent env hooks e b r).1.st = env.st ∧ (fsmEvent env hooks e b r).2.2.keepsState = true) ∨
    (∃ d, dst? e env.st = some d ∧ (fsmEvent env hooks e b r).1.st = d ∧ (fsmEvent env hooks e b r).2.2.moved = true) := by
  have hb := beforeEvent_st env hooks e r
  have hl := (leaveState_st (beforeEvent env hooks e r).1 hooks e b).trans hb
  obtain ⟨_, heq⟩ | ⟨d, hd, ⟨res, hres, heq⟩ | ⟨_, res, hres, heq⟩ | ⟨_, _, heq⟩⟩ := fsmEvent_cases env hooks e b r
  · rw [heq]; exact .inl ⟨rfl, rfl⟩
  all_goals simp only [heq]
  · exact .inl ⟨hb, beforeEvent_res _ _ _ _ _ hres⟩
  · exact .inl ⟨hl, leaveState_res _ _ _ _ _ hres⟩
  · refine .inr ⟨d, hd, ?_, ?_⟩
    · rw [afterEvent_st, enterState_st]
    · split <;> rfl

theorem leaveState_body_false (env : Env) (hooks : List Hook) (e : Ev) :
    (leaveState env hooks e false).2.2 ≠ none := by
  obtain ⟨_, heq⟩ | ⟨_, _, heq⟩ | ⟨_, _, heq⟩ := leaveState_cases env hooks e <;> simp only [heq] <;> nofun

theorem fsmEvent_body_fails (env : Env) (hooks : List Hook) (e : Ev) (r : Bool) :
    (fsmEvent env hooks e false r).2.2.isOk = false := by
  obtain ⟨_, hk⟩ | ⟨_, _, _, hm⟩ := fsmEvent_st env hooks e false r
  · exact (keeps_not_moved _ hk).2
  · -- the state moved: leave_<state> let the event go on
    obtain ⟨_, _, _, hl, _⟩ := fsmEvent_of_moved env hooks e false r hm
    exact absurd hl (leaveState_body_false _ hooks e)

theorem tryTransition_not_notFound (env : Env) (hooks : List Hook) (e : Ev) (b r : Bool) :
    (tryTransition env hooks e b r).2.2 ≠ .notFound := by
  intro h
  have := fsmEvent_st env hooks e b r
  unfold tryTransition at h
  rw [h] at this
  rcases this with ⟨_, h'⟩ | ⟨_, _, _, h'⟩ <;> cases h'

/-- All `Sm.Event` asks of a pass is how many critical failures it counted. Here every pass counts none: `P` holds of
    what is pending — which no bookkeeping touches —, and from such an environment a pass counts no critical failure
    and leaves `P` true. There are no hooks, say, or none of them is critical. -/
structure CalmPasses (hooks : List Hook) (P : List ((Moment × Int) × List Inst) → Prop) : Prop where
  pass : ∀ a m p, P a.pending → (handleHooks a hooks m p).2.2 = 0 ∧ P (handleHooks a hooks m p).1.pending

/-- How `Sm.Event` ends when no pass counts a critical failure: as it would without hooks. -/
def calmResult (e : Ev) (s : St) (b r : Bool) : Result :=
  if dst? e s = none then .illegal else if (e == .START_ACTIVITY && r) = true then .cancelledRn
  else if b = true then .ok else .cancelledBody

namespace CalmPasses
variable {hooks : List Hook} {P : List ((Moment × Int) × List Inst) → Prop} (h : CalmPasses hooks P)
include h

theorem beforeEvent (env : Env) (e : Ev) (r : Bool) (hp : P env.pending) :
    (beforeEvent env hooks e r).2.2 = (if (e == .START_ACTIVITY && r) = true then some .cancelledRn else none) ∧
    P (beforeEvent env hooks e r).1.pending := by
  have h1 := h.pass env (.before e) negW hp
  have hbk : P (bkBefore (handleHooks env hooks (.before e) negW).1 e r).1.pending := by
    rw [bkBefore_frame Env.pending (fun _ _ _ _ _ => rfl)]; exact h1.2
  have h2 := h.pass _ (.before e) posW hbk
  obtain ⟨h0, _⟩ | ⟨_, hc, heq⟩ | ⟨_, hc, heq⟩ := beforeEvent_cases env hooks e r
  · rw [h1.1] at h0; cases h0
  · rw [bkBefore_cancels] at hc; simp only [heq, hc, if_true]; exact ⟨trivial, hbk⟩
  · rw [bkBefore_cancels] at hc; simp only [heq, hc, h2.1, Nat.lt_irrefl, gt_iff_lt, Bool.false_eq_true, if_false]
    exact ⟨trivial, h2.2⟩

theorem leaveState (env : Env) (e : Ev) (b : Bool) (hp : P env.pending) :
    (leaveState env hooks e b).2.2 = (if b = true then none else some .cancelledBody) ∧
    P (leaveState env hooks e b).1.pending := by
  have h1 := h.pass env (.leave env.st) negW hp
  have hbk : P (bkLeave env.st (handleHooks env hooks (.leave env.st) negW).1 e).1.pending := by
    rw [bkLeave_frame Env.pending (fun _ _ _ => rfl)]; exact h1.2
  have h2 := h.pass _ (.leave env.st) posW hbk
  obtain ⟨h0, _⟩ | ⟨_, h0, _⟩ | ⟨_, _, heq⟩ := leaveState_cases env hooks e
  · rw [h1.1] at h0; cases h0
  · rw [h2.1] at h0; cases h0
  · simp only [heq]
    exact ⟨trivial, by rw [applyBody_frame Env.pending (fun _ _ => rfl)]; exact h2.2⟩

theorem enterState (env : Env) (hp : P env.pending) :
    (enterState env hooks).2.2 = [] ∧ P (enterState env hooks).1.pending := by
  have h1 := h.pass env (.enter env.st) negW hp
  have h2 := h.pass _ (.enter env.st) posW h1.2
  unfold EnvM.enterState
  simp only [h1.1, h2.1, gt_iff_lt, Nat.lt_irrefl, if_false, List.append_nil]
  exact ⟨trivial, h2.2⟩

theorem afterEvent (env : Env) (e : Ev) (errs : List (Nat × Moment)) (hp : P env.pending) :
    (afterEvent env hooks e errs).2.2 = errs ∧ P (afterEvent env hooks e errs).1.pending := by
  have h1 := h.pass env (.after e) negW hp
  have hbk : ∀ f, P (bkAfter (handleHooks env hooks (.after e) negW).1 e f).1.pending := by
    intro f; rw [bkAfter_frame Env.pending (fun _ _ _ => rfl)]; exact h1.2
  have h2 := fun f => h.pass _ (.after e) posW (hbk f)
  unfold EnvM.afterEvent
  simp only [h1.1, (h2 _).1, gt_iff_lt, Nat.lt_irrefl, if_false, List.nil_append, List.isEmpty_nil, if_true]
  exact ⟨trivial, by rw [finAfter_frame Env.pending (fun _ _ _ => rfl)]; exact (h2 _).2⟩

theorem fsmEvent (env : Env) (e : Ev) (b r : Bool) (hp : P env.pending) :
    (fsmEvent env hooks e b r).2.2 = calmResult e env.st b r ∧ P (fsmEvent env hooks e b r).1.pending := by
  have hb := h.beforeEvent env e r hp
  have hl := h.leaveState (EnvM.beforeEvent env hooks e r).1 e b hb.2
  unfold calmResult
  obtain ⟨hd, heq⟩ | ⟨d, hd, ⟨res, hres, heq⟩ | ⟨hnone, res, hres, heq⟩ | ⟨hnone, hlnone, heq⟩⟩ := fsmEvent_cases env hooks e b r
  · rw [heq, if_pos hd]; exact ⟨rfl, hp⟩
  · simp only [heq, hd, reduceCtorEq, if_false]
    refine ⟨?_, hb.2⟩
    rw [hb.1] at hres; split at hres <;> cases hres
    rw [if_pos ‹_›]
  · simp only [heq, hd, reduceCtorEq, if_false]
    refine ⟨?_, hl.2⟩
    rw [hb.1] at hnone; rw [hl.1] at hres
    split at hnone
    · cases hnone
    · rw [if_neg ‹_›]; split at hres <;> cases hres
      rw [if_neg ‹_›]
  · have hen := h.enterState { (EnvM.leaveState (EnvM.beforeEvent env hooks e r).1 hooks e b).1 with st := d } hl.2
    have haf := h.afterEvent _ e
      (EnvM.enterState { (EnvM.leaveState (EnvM.beforeEvent env hooks e r).1 hooks e b).1 with st := d } hooks).2.2 hen.2
    simp only [heq, hd, reduceCtorEq, if_false]
    refine ⟨?_, haf.2⟩
    rw [hb.1] at hnone; rw [hl.1] at hlnone
    rw [haf.1, hen.1, List.isEmpty_nil, if_pos rfl]
    split at hnone
    · cases hnone
    · rw [if_neg ‹_›]; split at hlnone
      · rw [if_pos ‹_›]
      · cases hlnone

end CalmPasses

theorem calm_nil : CalmPasses [] (· = []) :=
  ⟨fun a m p h => by rw [handleHooks_nil a m p h]; exact ⟨rfl, h⟩⟩

theorem teardown_st (env : Env) (hooks : List Hook) (f r1 r2 : Bool) (n : Nat) :
    ((teardown env hooks f r1 r2 n).1.st = env.st ∧ (teardown env hooks f r1 r2 n).1.gone = env.gone ∧
        (teardown env hooks f r1 r2 n).2.2 ≠ .ok) ∨
    ((teardown env hooks f r1 r2 n).1.st = .DONE ∧ (teardown env hooks f r1 r2 n).1.gone = true) := by
  obtain heq | heq | heq | ⟨_, heq⟩ := teardown_cases env hooks f r1 r2 n
  · rw [heq]; exact .inl ⟨rfl, rfl, nofun⟩
  -- let in: the leave hooks, the stamps of a running environment and the DESTROY hooks keep state and listing
  · refine .inl (and_assoc.mp ⟨?_, by rw [heq]; nofun⟩)
    simp only [heq, tdStamp_frame Env.st (fun _ _ _ => rfl), tdStamp_frame Env.gone (fun _ _ _ => rfl), handleHooks_st,
      handleHooks_gone, and_self]
  · refine .inl (and_assoc.mp ⟨?_, by rw [heq]; nofun⟩)
    simp only [heq, destroyWeights_st, destroyWeights_gone, tdStamp_frame Env.st (fun _ _ _ => rfl),
      tdStamp_frame Env.gone (fun _ _ _ => rfl), handleHooks_st, handleHooks_gone, and_self]
  · rw [heq]; exact .inr ⟨rfl, rfl⟩

theorem teardown_counter (env : Env) (hooks : List Hook) (f r1 r2 : Bool) (n : Nat) :
    (teardown env hooks f r1 r2 n).1.counter = env.counter := by
  obtain heq | heq | heq | ⟨_, heq⟩ := teardown_cases env hooks f r1 r2 n <;>
    simp only [heq, destroyWeights_counter, tdStamp_frame Env.counter (fun _ _ _ => rfl), handleHooks_counter]

theorem dst_done (e : Ev) : dst? e .DONE = none := by cases e <;> rfl

theorem goError_dst (s d : St) (h : dst? .GO_ERROR s = some d) : d = .ERROR := by
  cases s <;> cases h <;> rfl

theorem dst_from_running (e : Ev) (d : St) (h : dst? e .RUNNING = some d) : e = .STOP_ACTIVITY ∨ e = .GO_ERROR := by
  cases e <;> first | exact Or.inl rfl | exact Or.inr rfl | cases h

theorem dst_error (e : Ev) (s : St) (h : dst? e s = some .ERROR) : e = .GO_ERROR := by
  cases e <;> cases s <;> first | rfl | cases h

theorem goError_st (env : Env) (hooks : List Hook) (b r : Bool) :
    ((tryTransition env hooks .GO_ERROR b r).1.st = env.st ∧ (tryTransition env hooks .GO_ERROR b r).2.2.isOk = false) ∨
      (tryTransition env hooks .GO_ERROR b r).1.st = .ERROR := by
  unfold tryTransition
  obtain ⟨hst, hk⟩ | ⟨d, hd, hst, _⟩ := fsmEvent_st env hooks .GO_ERROR b r
  · exact .inl ⟨hst, (keeps_not_moved _ hk).2⟩
  · exact .inr (hst.trans (goError_dst _ _ hd))

/-- A GO_ERROR that gives way, where it is refused, to an environment in ERROR — the forced write of ControlEnvironment,
    of subscribeToWfState — ends in ERROR. -/
theorem goError_else_st (env : Env) (hooks : List Hook) (b r : Bool) {a : Env} (h : a.st = .ERROR) :
    (if (tryTransition env hooks .GO_ERROR b r).2.2.isOk then (tryTransition env hooks .GO_ERROR b r).1 else a).st = .ERROR := by
  split
  next hok => exact (goError_st env hooks b r).resolve_left fun hno => by rw [hno.2] at hok; cases hok
  next => exact h

theorem try_from_error (hooks : List Hook) (env : Env) (e : Ev) (b r : Bool) (h : env.st = .ERROR) (he : e ≠ .RECOVER) :
    tryTransition env hooks e b r = (env, [], .illegal) :=
  fsmEvent_illegal env hooks e b r (by rw [h]; cases e <;> first | rfl | exact absurd rfl he)

theorem controlApi_result (hooks : List Hook) (env : Env) (e : Ev) (b r : Bool) :
    (controlApi env hooks e b r).2.2 = (tryTransition env hooks e b r).2.2 := by
  fun_cases controlApi env hooks e b r <;> rfl

/-- The third end: the request failed on (or, for an event the API does not offer, into) a DONE environment, which
    the glue leaves DONE. -/
theorem controlApi_cases (hooks : List Hook) (env : Env) (e : Ev) (b r : Bool) :
    ((controlApi env hooks e b r).2.2.isOk = true ∧ controlApi env hooks e b r = tryTransition env hooks e b r) ∨
    ((controlApi env hooks e b r).2.2.isOk = false ∧ (controlApi env hooks e b r).1.st = .ERROR) ∨
    ((controlApi env hooks e b r).2.2.isOk = false ∧ (controlApi env hooks e b r).1.st = .DONE ∧
      (tryTransition env hooks e b r).1.st = .DONE) := by
  have hgs := goError_st (tryTransition env hooks e b r).1 hooks true false
  fun_cases controlApi env hooks e b r with
  | case1 t hok => exact .inl ⟨hok, rfl⟩
  | case2 t hok g gs hc =>
    have hok := Bool.eq_false_iff.mpr hok
    rcases hgs with ⟨hst, hno⟩ | hE
    · -- the fallback was refused, so the glue read DONE: the requested transition had left DONE behind
      have hD : g.1.st = .DONE := by simpa [g, t, hno] using hc
      exact .inr (.inr ⟨hok, hD, hst ▸ hD⟩)
    · exact .inr (.inl ⟨hok, hE⟩)
  | case3 t hok => exact .inr (.inl ⟨Bool.eq_false_iff.mpr hok, rfl⟩)

theorem controlApiLegacy_eq (hooks : List Hook) (env : Env) (e : Ev) (b r : Bool)
    (hnd : (tryTransition env hooks e b r).1.st ≠ .DONE) :
    controlApiLegacy env hooks e b r = controlApi env hooks e b r := by
  have hne : (tryTransition (tryTransition env hooks e b r).1 hooks .GO_ERROR true false).1.st ≠ .DONE := by
    rcases goError_st (tryTransition env hooks e b r).1 hooks true false with ⟨hst, _⟩ | hE
    · rw [hst]; exact hnd
    · rw [hE]; exact nofun
  simp only [controlApiLegacy, controlApi, beq_false_of_ne hne, Bool.or_false]

theorem control_from_error (hooks : List Hook) (env : Env) (e : Ev) (b r : Bool) (h : env.st = .ERROR) (he : e ≠ .RECOVER) :
    (controlApi env hooks e b r).1.st = .ERROR := by
  rcases controlApi_cases hooks env e b r with ⟨_, heq⟩ | ⟨_, hst⟩ | ⟨_, _, hd⟩
  · rw [heq, try_from_error hooks env e b r h he]; exact h
  · exact hst
  · -- (the glue spares a DONE environment) the refused request left ERROR, not DONE
    rw [try_from_error hooks env e b r h he, h] at hd; cases hd

theorem step_eq_stepHeld (hooks : List Hook) (n : Nat) (env : Env) (q : Req) :
    step hooks n env q = stepHeld hooks n (!env.gone) env q := by
  cases q with
  | try_ e b r => rfl
  | control e b r => rw [step, stepHeld, Bool.not_not]
  | teardown f r1 r2 => rw [step, stepHeld, Bool.not_not]

theorem runPar_one (hooks : List Hook) (n : Nat) (env : Env) (qs : List Req) :
    runPar hooks n env (qs.map .one) = runSeq hooks n env qs := by
  induction qs generalizing env with
  | nil => rfl
  | cons q qs ih => simp only [List.map_cons, runPar, runSeq, ih]

end EnvM
