/-
  Proofs/EnvConc — invariants of the concurrent-callers layer (Model/EnvConc):
  mutual exclusion, the log is a chain, every logged piece is what the piece does on its own (`ConcInv`); newcomers
  change nothing while the mutex is held (`HeldBy`); who may force the state (`ForceInv`).

  `move` is read once, as the program of a caller (`Caller.Quiet`, `Caller.Runs`, `move_cases`); every
  invariant is a walk over those steps.
-/
import ControlModel.Model.EnvConc

namespace EnvM

/-- what follows a request's own critical section: for the API glue the GO_ERROR fallback, unless the request
    succeeded or did not find the environment -/
def Req.next (q : Req) (res : Result) : Option Piece :=
  match q with
  | .control .. => if res.isOk || res == .notFound then none else some .goError
  | _ => none

def Pc.released : Option Piece → Pc
  | none => .done
  | some p => .between p

/-- A step that leaves the environment alone: the look-up, the release of the mutex, the glue's read of the
    state. -/
inductive Caller.Quiet (env : Env) (c : Caller) : Caller → Prop
  | arrive (h : c.pc = .arrive) : Quiet env c { c with pc := .start, listed := !env.gone }
  | release (next : Option Piece) (h : c.pc = .holding next) :
      Quiet env c { c with pc := .released next }
  | check (h : c.pc = .between .check) :
      Quiet env c { c with pc := if env.st = .DONE then .done else .between .force }

/-- A step of caller number `i` that carries out a piece on `env`, with the entry it logs: the request under
    the mutex, the GO_ERROR fallback under the mutex, the forced write outside it. -/
inductive Caller.Runs (hooks : List Hook) (n : Nat) (i : Nat) (env : Env) (c : Caller) : Caller → LogEntry → Prop
  | request (h : c.pc = .start) :
      Runs hooks n i env c { c with pc := .holding (c.req.next (runLocked hooks n c.listed env c.req).2) }
        { caller := i, piece := .locked c.req, before := env, after := (runLocked hooks n c.listed env c.req).1,
          result := (runLocked hooks n c.listed env c.req).2 }
  | goError (h : c.pc = .between .goError) :
      Runs hooks n i env c
        { c with pc := .holding (if (tryTransition env hooks .GO_ERROR true false).2.2.isOk then none else some .check) }
        { caller := i, piece := .goError, before := env, after := (tryTransition env hooks .GO_ERROR true false).1,
          result := (tryTransition env hooks .GO_ERROR true false).2.2 }
  | force (h : c.pc = .between .force) :
      Runs hooks n i env c { c with pc := .done }
        { caller := i, piece := .force, before := env, after := { env with st := .ERROR }, result := .ok }

theorem move_cases (hooks : List Hook) (n : Nat) (s : Sys) (i : Nat) :
    move hooks n s i = s ∨
    (∃ c c', s.callers[i]? = some c ∧ c.Quiet s.env c' ∧ move hooks n s i = { s with callers := s.callers.set i c' }) ∨
    (∃ c c' x, s.callers[i]? = some c ∧ c.Runs hooks n i s.env c' x ∧ (c'.isHolding = true → s.free = true) ∧
      move hooks n s i = { env := x.after, callers := s.callers.set i c', log := s.log ++ [x] }) := by
  fun_cases move hooks n s i with
  | case1 | case4 | case7 | case10 | case11 => exact .inl rfl
  | case2 c hc hpc => exact .inr (.inl ⟨c, _, hc, .arrive hpc, rfl⟩)
  | case3 c hc hpc hf => exact .inr (.inr ⟨c, _, _, hc, .request hpc, fun _ => hf, rfl⟩)
  | case5 c hc next hpc => exact .inr (.inl ⟨c, _, hc, .release next hpc, rfl⟩)
  | case6 c hc hpc hf => exact .inr (.inr ⟨c, _, _, hc, .goError hpc, fun _ => hf, rfl⟩)
  | case8 c hc hpc => exact .inr (.inl ⟨c, _, hc, .check hpc, rfl⟩)
  | case9 c hc hpc => exact .inr (.inr ⟨c, _, _, hc, .force hpc, nofun, rfl⟩)

theorem move_none {hooks : List Hook} {n : Nat} {s : Sys} {i : Nat} (hc : s.callers[i]? = none) :
    move hooks n s i = s := by
  simp only [move, hc]

theorem move_done {hooks : List Hook} {n : Nat} {s : Sys} {i : Nat} {c : Caller} (hc : s.callers[i]? = some c)
    (hpc : c.pc = .done) : move hooks n s i = s := by
  simp only [move, hc, hpc]

theorem runSched_induction {hooks : List Hook} {n : Nat} {P : Sys → Prop} (sched : List Nat)
    (hmove : ∀ s, ∀ i ∈ sched, P s → P (move hooks n s i)) {s : Sys} (h : P s) : P (runSched hooks n s sched) :=
  List.foldlRecOn sched _ h fun s hs i hi => hmove s i hi hs

theorem getElem?_set_cases {α : Type} {l : List α} {i j : Nat} {a b : α} (h : (l.set i a)[j]? = some b) :
    (j = i ∧ b = a) ∨ (j ≠ i ∧ l[j]? = some b) := by
  by_cases hij : i = j
  · rw [List.getElem?_set, if_pos hij] at h
    exact .inl ⟨hij.symm, by split at h <;> cases h; rfl⟩
  · exact .inr ⟨fun e => hij e.symm, List.getElem?_set_ne hij ▸ h⟩

theorem move_callers_ne (hooks : List Hook) (n : Nat) (s : Sys) (i j : Nat) (h : j ≠ i) :
    (move hooks n s i).callers[j]? = s.callers[j]? := by
  rcases move_cases hooks n s i with hm | ⟨_, _, _, _, hm⟩ | ⟨_, _, _, _, _, _, hm⟩ <;> rw [hm]
  · exact List.getElem?_set_ne (Ne.symm h)
  · exact List.getElem?_set_ne (Ne.symm h)

theorem initSys_caller {env : Env} {reqs : List Req} {i : Nat} {c : Caller}
    (h : (initSys env reqs).callers[i]? = some c) : c.pc = .arrive := by
  rw [initSys, List.getElem?_map] at h
  obtain ⟨q, _, rfl⟩ := Option.map_eq_some_iff.mp h
  rfl

def AtMostOne (cs : List Caller) : Prop :=
  ∀ (i j : Nat) (ci cj : Caller), cs[i]? = some ci → cs[j]? = some cj → ci.isHolding = true → cj.isHolding = true → i = j

theorem free_iff (s : Sys) : s.free = true ↔ ∀ (j : Nat) (cj : Caller), s.callers[j]? = some cj → cj.isHolding = false := by
  simp only [Sys.free, List.all_eq_true, Bool.not_eq_true']
  constructor
  · intro h j cj hj; exact h cj (List.mem_of_getElem? hj)
  · intro h c hc
    obtain ⟨j, hj⟩ := List.getElem?_of_mem hc
    exact h j c hj

theorem not_free_of_holding (s : Sys) (j : Nat) (cj : Caller) (hj : s.callers[j]? = some cj)
    (hh : cj.isHolding = true) : s.free = false := by
  cases hf : s.free with
  | false => rfl
  | true => rw [(free_iff s).mp hf j cj hj] at hh; cases hh

theorem atMostOne_set (s : Sys) (i : Nat) (c : Caller) (hc : c.isHolding = true → s.free = true)
    (h : AtMostOne s.callers) : AtMostOne (s.callers.set i c) := by
  intro a b ca cb ha hb hha hhb
  rcases getElem?_set_cases ha with ⟨rfl, rfl⟩ | ⟨_, ha'⟩ <;>
    rcases getElem?_set_cases hb with ⟨rfl, rfl⟩ | ⟨_, hb'⟩
  · rfl
  · rw [(free_iff s).mp (hc hha) b cb hb'] at hhb; cases hhb
  · rw [(free_iff s).mp (hc hhb) a ca ha'] at hha; cases hha
  · exact h a b ca cb ha' hb' hha hhb

theorem chained_append (e0 : Env) (log : List LogEntry) (x : LogEntry)
    (h : chained e0 log) (hx : x.before = lastEnv e0 log) : chained e0 (log ++ [x]) := by
  induction log generalizing e0 with
  | nil => exact ⟨hx, trivial⟩
  | cons y ys ih => exact ⟨h.1, ih y.after h.2 hx⟩

theorem lastEnv_append (e0 : Env) (log : List LogEntry) (x : LogEntry) : lastEnv e0 (log ++ [x]) = x.after := by
  induction log generalizing e0 with
  | nil => rfl
  | cons y ys ih => exact ih y.after

structure ConcInv (hooks : List Hook) (n : Nat) (e0 : Env) (s : Sys) : Prop where
  mutex : AtMostOne s.callers
  chain : chained e0 s.log
  last : lastEnv e0 s.log = s.env
  faithful : ∀ x ∈ s.log, x.faithful hooks n

theorem concInv_init (hooks : List Hook) (n : Nat) (env : Env) (reqs : List Req) :
    ConcInv hooks n env (initSys env reqs) := by
  refine ⟨?_, trivial, rfl, fun _ hx => nomatch hx⟩
  intro i j ci cj hi _ hhi _
  rw [Caller.isHolding, initSys_caller hi] at hhi
  cases hhi

theorem concInv_move (hooks : List Hook) (n : Nat) (e0 : Env) (s : Sys) (i : Nat)
    (h : ConcInv hooks n e0 s) : ConcInv hooks n e0 (move hooks n s i) := by
  rcases move_cases hooks n s i with hm | ⟨c, c', _, hq, hm⟩ | ⟨c, c', x, _, hr, hfree, hm⟩ <;> rw [hm]
  · exact h
  · -- a quiet step never takes the mutex
    refine ⟨atMostOne_set s i c' (fun hh => ?_) h.mutex, h.chain, h.last, h.faithful⟩
    cases hq with
    | arrive => cases hh
    | release next => cases next <;> cases hh
    | check => by_cases hd : s.env.st = .DONE <;> simp [Caller.isHolding, hd] at hh
  · -- a piece is carried out on the environment the last one left, and is what it is on its own
    have hx : x.before = s.env ∧ x.faithful hooks n := by
      cases hr with
      | request => exact ⟨rfl, c.listed, rfl⟩
      | goError => exact ⟨rfl, rfl⟩
      | force => exact ⟨rfl, rfl⟩
    refine ⟨atMostOne_set s i c' hfree h.mutex, chained_append _ _ _ h.chain (hx.1.trans h.last.symm),
      lastEnv_append _ _ _, fun y hy => ?_⟩
    rcases List.mem_append.mp hy with hy | hy
    · exact h.faithful y hy
    · cases List.mem_singleton.mp hy; exact hx.2

theorem concInv_run (hooks : List Hook) (n : Nat) (e0 : Env) (s : Sys) (sched : List Nat)
    (h : ConcInv hooks n e0 s) : ConcInv hooks n e0 (runSched hooks n s sched) :=
  runSched_induction sched (fun s i _ => concInv_move hooks n e0 s i) h

/-- caller `j` is inside the mutex and every other caller has not been inside yet -/
def HeldBy (s : Sys) (j : Nat) : Prop :=
  (∃ cj, s.callers[j]? = some cj ∧ cj.isHolding = true) ∧
  ∀ (i : Nat) (ci : Caller), i ≠ j → s.callers[i]? = some ci → ci.isNew = true

theorem heldBy_move (hooks : List Hook) (n : Nat) (s : Sys) (j i : Nat) (hij : i ≠ j) (h : HeldBy s j) :
    HeldBy (move hooks n s i) j ∧ (move hooks n s i).env = s.env ∧ (move hooks n s i).log = s.log := by
  obtain ⟨⟨cj, hj, hh⟩, hnew⟩ := h
  rcases move_cases hooks n s i with hm | ⟨c, c', hc, hq, hm⟩ | ⟨c, c', x, hc, hr, hfree, hm⟩ <;> rw [hm]
  · exact ⟨⟨⟨cj, hj, hh⟩, hnew⟩, rfl, rfl⟩
  · -- a newcomer's only quiet step is the look-up
    have hn := hnew i c hij hc
    cases hq with
    | arrive =>
      refine ⟨⟨⟨cj, (List.getElem?_set_ne hij).trans hj, hh⟩, fun k ck hkj hk => ?_⟩, rfl, rfl⟩
      rcases getElem?_set_cases hk with ⟨_, rfl⟩ | ⟨_, hk'⟩
      · rfl
      · exact hnew k ck hkj hk'
    | release next hpc => rw [Caller.isNew, hpc] at hn; cases hn
    | check hpc => rw [Caller.isNew, hpc] at hn; cases hn
  · -- and it cannot take the mutex: it is busy
    have hn := hnew i c hij hc
    have hbusy := not_free_of_holding s j cj hj hh
    cases hr with
    | request => rw [hfree rfl] at hbusy; cases hbusy
    | goError hpc => rw [Caller.isNew, hpc] at hn; cases hn
    | force hpc => rw [Caller.isNew, hpc] at hn; cases hn

theorem forcedJustified_append (seen xs : List LogEntry) (x : LogEntry) :
    forcedJustified seen (xs ++ [x]) =
      (forcedJustified seen xs && (!x.isForce || wentThrough (seen ++ xs) x.caller)) := by
  induction xs generalizing seen with
  | nil => simp [forcedJustified]
  | cons y ys ih =>
    simp only [List.cons_append, forcedJustified, ih, List.append_assoc, List.nil_append, Bool.and_assoc]

theorem forcedJustified_at (seen pre post : List LogEntry) (x : LogEntry)
    (h : forcedJustified seen (pre ++ x :: post) = true) (hx : x.isForce = true) :
    wentThrough (seen ++ pre) x.caller = true := by
  induction pre generalizing seen with
  | nil =>
    simp only [List.nil_append, forcedJustified, hx, Bool.not_true, Bool.false_or, Bool.and_eq_true] at h
    simpa using h.1
  | cons y ys ih =>
    simp only [List.cons_append, forcedJustified, Bool.and_eq_true] at h
    have := ih (seen ++ [y]) h.2
    simpa [List.append_assoc] using this

/-- the piece a caller that has been inside still has in front of it -/
def Pc.pending : Pc → Option Piece
  | .holding next => next
  | .between p => some p
  | _ => none

/-- what the log holds about caller `i`, given the piece it has in front of it: before the fallback its own
    request has failed, before the read and the forced write the fallback has failed too -/
def owes (log : List LogEntry) (i : Nat) : Option Piece → Prop
  | some .goError => log.any (·.failedOwn i) = true
  | some .check | some .force => wentThrough log i = true
  | _ => True

theorem any_append_of_left {f : LogEntry → Bool} (log : List LogEntry) (x : LogEntry) (h : log.any f = true) :
    (log ++ [x]).any f = true := by
  rw [List.any_append, h]; rfl

theorem any_append_of_last {f : LogEntry → Bool} (log : List LogEntry) (x : LogEntry) (h : f x = true) :
    (log ++ [x]).any f = true := by
  rw [List.any_append, List.any_cons, h, Bool.true_or, Bool.or_true]

theorem wentThrough_mono (log : List LogEntry) (x : LogEntry) (i : Nat) (h : wentThrough log i = true) :
    wentThrough (log ++ [x]) i = true :=
  have h' := Bool.and_eq_true_iff.mp h
  Bool.and_eq_true_iff.mpr ⟨any_append_of_left _ _ h'.1, any_append_of_left _ _ h'.2⟩

theorem owes_mono (log : List LogEntry) (x : LogEntry) (i : Nat) (p : Option Piece) (h : owes log i p) :
    owes (log ++ [x]) i p := by
  unfold owes at h ⊢
  split at h
  · exact any_append_of_left _ _ h
  · exact wentThrough_mono _ _ _ h
  · exact wentThrough_mono _ _ _ h
  · trivial

/-- `wit` makes `just` inductive: the log already holds the failed sections the piece in front of each caller presupposes. -/
structure ForceInv (s : Sys) : Prop where
  just : forcedJustified [] s.log = true
  wit : ∀ (i : Nat) (c : Caller), s.callers[i]? = some c → owes s.log i c.pc.pending

theorem forceInv_init (env : Env) (reqs : List Req) : ForceInv (initSys env reqs) := by
  refine ⟨rfl, fun i c hi => ?_⟩
  rw [initSys_caller hi]
  trivial

theorem forceInv_move (hooks : List Hook) (n : Nat) (s : Sys) (i : Nat) (h : ForceInv s) :
    ForceInv (move hooks n s i) := by
  rcases move_cases hooks n s i with hm | ⟨c, c', hc, hq, hm⟩ | ⟨c, c', x, hc, hr, _, hm⟩ <;> rw [hm]
  · exact h
  · -- a quiet step leaves the caller with the piece it had in front of it, or with none
    have hw := h.wit i c hc
    refine ⟨h.just, fun k ck hk => ?_⟩
    rcases getElem?_set_cases hk with ⟨rfl, rfl⟩ | ⟨_, hk'⟩
    · cases hq with
      | arrive => trivial
      | release next hpc => rw [hpc] at hw; cases next <;> exact hw
      | check hpc =>
        rw [hpc] at hw; dsimp only
        split
        · trivial
        · exact hw
    · exact h.wit k ck hk'
  · -- a piece under the mutex that fails is the witness for what follows it; the forced write has its own
    have hw := h.wit i c hc
    have hx : (x.isForce = true → wentThrough s.log x.caller = true) ∧ owes (s.log ++ [x]) i c'.pc.pending := by
      cases hr with
      | request hpc =>
        refine ⟨nofun, ?_⟩
        show owes _ i (c.req.next _)
        generalize c.req = q
        cases q with
        | control e b r =>
          show owes _ i (if _ then none else some .goError)
          split
          · trivial
          · rename_i hres
            simp only [Bool.or_eq_true, not_or, Bool.not_eq_true] at hres
            exact any_append_of_last _ _ (by simp [LogEntry.failedOwn, hres.1])
        | _ => trivial
      | goError hpc =>
        rw [hpc] at hw
        refine ⟨nofun, ?_⟩
        show owes _ i (if _ then none else some .check)
        split
        · trivial
        · rename_i hres
          exact Bool.and_eq_true_iff.mpr
            ⟨any_append_of_left _ _ hw, any_append_of_last _ _ (by simp [LogEntry.failedGoError, hres])⟩
      | force hpc => rw [hpc] at hw; exact ⟨fun _ => hw, trivial⟩
    refine ⟨?_, fun k ck hk => ?_⟩
    · show forcedJustified [] (s.log ++ [x]) = true
      rw [forcedJustified_append, h.just, List.nil_append, Bool.true_and, Bool.or_eq_true, Bool.not_eq_true']
      cases hf : x.isForce with
      | false => exact .inl rfl
      | true => exact .inr (hx.1 hf)
    · rcases getElem?_set_cases hk with ⟨rfl, rfl⟩ | ⟨_, hk'⟩
      · exact hx.2
      · exact owes_mono _ _ _ _ (h.wit k ck hk')

theorem forceInv_run (hooks : List Hook) (n : Nat) (s : Sys) (sched : List Nat) (h : ForceInv s) :
    ForceInv (runSched hooks n s sched) :=
  runSched_induction sched (fun s i _ => forceInv_move hooks n s i) h

end EnvM
