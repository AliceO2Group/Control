/-
  Proofs/EnvEvent — the configurable chain of Model/EnvLegacy.lean with both switches on (`codeRunCfg`) is, link by
  link, the chain of Model/Env.lean; each legacy configuration leaves alone what its one switch does not reach.
-/
import ControlModel.Proofs.Env
import ControlModel.Model.EnvLegacy

namespace EnvM

theorem bkAfterOf_code : bkAfterOf codeRunCfg = bkAfter := by
  funext env e f; simp [bkAfterOf, codeRunCfg]

theorem weightsForOf_code : weightsForOf codeRunCfg = weightsFor := by
  funext env hooks m p; simp [weightsForOf, codeRunCfg]

theorem handleHooksOf_code : handleHooksOf codeRunCfg = handleHooks := by
  funext env hooks m p; unfold handleHooksOf handleHooks; rw [weightsForOf_code]

theorem beforeEventOf_code : beforeEventOf codeRunCfg = beforeEvent := by
  funext env hooks e r; unfold beforeEventOf beforeEvent; rw [handleHooksOf_code]

theorem leaveStateOf_code : leaveStateOf codeRunCfg = leaveState := by
  funext env hooks e b; unfold leaveStateOf leaveState; rw [handleHooksOf_code]

theorem enterStateOf_code : enterStateOf codeRunCfg = enterState := by
  funext env hooks; unfold enterStateOf enterState; rw [handleHooksOf_code]

theorem afterEventOf_code : afterEventOf codeRunCfg = afterEvent := by
  funext env hooks e errs; unfold afterEventOf afterEvent; rw [bkAfterOf_code, handleHooksOf_code]

theorem fsmEventOf_code : fsmEventOf codeRunCfg = fsmEvent := by
  funext env hooks e b r; unfold fsmEventOf fsmEvent
  rw [afterEventOf_code, beforeEventOf_code, leaveStateOf_code, enterStateOf_code]; rfl

theorem controlApiOf_code : controlApiOf codeRunCfg = controlApi := by
  funext env hooks e b r; unfold controlApiOf controlApi tryTransition; rw [fsmEventOf_code]; rfl

theorem teardownOf_code : teardownOf codeRunCfg = teardown := by
  funext env hooks f r1 r2 n; unfold teardownOf teardown; rw [handleHooksOf_code]

theorem stepOf_code : stepOf codeRunCfg = step := by
  funext hooks n env q
  cases q <;> simp only [stepOf, step, tryTransition, fsmEventOf_code, controlApiOf_code, teardownOf_code]

theorem finalEnvOf_code : finalEnvOf codeRunCfg = finalEnv := by
  funext hooks n env qs; unfold finalEnvOf finalEnv; rw [stepOf_code]

/-- `legacyRunCfg` switches the guard of after_STOP_ACTIVITY's stamp off and leaves the passes alone. -/
theorem handleHooksOf_legacyRun : handleHooksOf legacyRunCfg = handleHooks := by
  funext env hooks m p; simp [handleHooksOf, handleHooks, weightsForOf, legacyRunCfg]

theorem bkAfterOf_legacy_other (env : Env) (e : Ev) (f : Bool) (he : e ≠ .STOP_ACTIVITY) :
    bkAfterOf legacyRunCfg env e f = bkAfter env e f := by
  cases e <;> first | exact absurd rfl he | rfl

end EnvM
