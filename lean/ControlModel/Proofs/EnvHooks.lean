/-
  Proofs/EnvHooks — the weights a pass visits, the steps handleHooks and the callbacks emit (markers, effects), and what
  hook handling does to the calls that are pending an await; over these: hook sets without a critical hook
  (`fsmEvent_noncrit`), results collected late, teardown, a call awaiting at its own trigger moment (`StartedAfter`).
-/
import ControlModel.Proofs.EnvEvent
import ControlModel.Proofs.Lists
import ControlModel.Spec.EnvTrace

namespace EnvM

def Ascending : List Int → Prop
  | [] => True
  | [_] => True
  | a :: b :: rest => a < b ∧ Ascending (b :: rest)

/-- A list whose neighbours are in the transitive relation `R` (`C`: `Ascending`, `Weakly`) is pairwise in it. -/
theorem chain_iff_pairwise {R : Int → Int → Prop} (tr : ∀ {a b c}, R a b → R b c → R a c) {C : List Int → Prop}
    (h0 : C []) (h1 : ∀ a, C [a]) (h2 : ∀ a b l, C (a :: b :: l) ↔ R a b ∧ C (b :: l)) (l : List Int) :
    C l ↔ l.Pairwise R := by
  induction l with
  | nil => exact ⟨fun _ => .nil, fun _ => h0⟩
  | cons a l ih =>
    cases l with
    | nil => exact ⟨fun _ => List.pairwise_singleton R a, fun _ => h1 a⟩
    | cons b rest =>
      rw [h2, List.pairwise_cons, ih]
      exact ⟨fun h => ⟨fun x hx => (List.mem_cons.mp hx).elim (· ▸ h.1) fun hx' => tr h.1 (List.rel_of_pairwise_cons h.2 hx'), h.2⟩,
        fun h => ⟨h.1 b List.mem_cons_self, h.2⟩⟩

theorem ascending_iff_pairwise (l : List Int) : Ascending l ↔ l.Pairwise (· < ·) :=
  chain_iff_pairwise (R := (· < ·)) (C := Ascending) Int.lt_trans trivial (fun _ => trivial) (fun _ _ _ => Iff.rfl) l

/-- In an ascending list the smaller of two members stands before the greater. -/
theorem split_of_pairwise_lt (ws : List Int) (h : ws.Pairwise (· < ·)) (a b : Int) (ha : a ∈ ws) (hb : b ∈ ws) (hab : a < b) :
    ∃ l1 l2 l3, ws = l1 ++ a :: (l2 ++ b :: l3) := by
  obtain ⟨l1, l', rfl⟩ := List.append_of_mem ha
  rcases List.mem_append.mp hb with hb | hb
  · have := (List.pairwise_append.mp h).2.2 b hb a List.mem_cons_self
    omega
  · rcases List.mem_cons.mp hb with rfl | hb
    · omega
    · obtain ⟨l2, l3, rfl⟩ := List.append_of_mem hb
      exact ⟨l1, l2, l3, rfl⟩

theorem mem_insertSorted (w : Int) (l : List Int) (x : Int) : x ∈ insertSorted w l ↔ x = w ∨ x ∈ l := by
  fun_induction insertSorted w l with
  | case1 => simp
  | case2 a rest h => simp
  | case3 rest _ => simp
  | case4 a rest _ _ ih => simp only [List.mem_cons, ih]; exact or_left_comm

theorem insertSorted_pairwise (w : Int) (l : List Int) (h : l.Pairwise (· < ·)) : (insertSorted w l).Pairwise (· < ·) := by
  fun_induction insertSorted w l with
  | case1 => exact List.pairwise_singleton _ w
  | case2 a rest hlt =>
    exact List.pairwise_cons.mpr ⟨fun x hx => (List.mem_cons.mp hx).elim (· ▸ hlt)
      fun hx' => Int.lt_trans hlt (List.rel_of_pairwise_cons h hx'), h⟩
  | case3 => exact h
  | case4 a rest _ _ ih =>
    refine List.pairwise_cons.mpr ⟨fun x hx => ?_, ih h.of_cons⟩
    rcases (mem_insertSorted w rest x).mp hx with rfl | hx
    · omega
    · exact List.rel_of_pairwise_cons h hx

/-- `sortDedup` folds `insertSorted` over the weights: what it keeps of any accumulator. -/
theorem foldl_insertSorted (ws acc : List Int) :
    (acc.Pairwise (· < ·) → (ws.foldl (fun acc w => insertSorted w acc) acc).Pairwise (· < ·)) ∧
    ∀ x, x ∈ ws.foldl (fun acc w => insertSorted w acc) acc ↔ x ∈ acc ∨ x ∈ ws := by
  induction ws generalizing acc with
  | nil => simp
  | cons w ws ih =>
    obtain ⟨h1, h2⟩ := ih (insertSorted w acc)
    refine ⟨fun h => h1 (insertSorted_pairwise w acc h), fun x => ?_⟩
    rw [List.foldl_cons, h2, mem_insertSorted, List.mem_cons, or_assoc, or_left_comm]

theorem sortDedup_pairwise (ws : List Int) : (sortDedup ws).Pairwise (· < ·) :=
  (foldl_insertSorted ws []).1 .nil

theorem mem_sortDedup (ws : List Int) (x : Int) : x ∈ sortDedup ws ↔ x ∈ ws := by
  unfold sortDedup; rw [(foldl_insertSorted ws []).2]; simp

theorem weightsFor_pairwise (env : Env) (hooks : List Hook) (m : Moment) (p : Int → Bool) :
    (weightsFor env hooks m p).Pairwise (· < ·) :=
  (sortDedup_pairwise _).filter p

theorem weightsFor_pred (env : Env) (hooks : List Hook) (m : Moment) (p : Int → Bool) :
    ∀ w ∈ weightsFor env hooks m p, p w = true :=
  fun _ hw => (List.mem_filter.mp hw).2

theorem mem_weightsFor (env : Env) (hooks : List Hook) (m : Moment) (p : Int → Bool) (w : Int) :
    w ∈ weightsFor env hooks m p ↔ p w = true ∧
      ((∃ h ∈ hooks, h.trig = m ∧ h.tw = w) ∨
       (∃ h ∈ hooks, (h.trig = m ∧ h.isTask = false ∧ h.await = m) ∧ h.aw = w) ∨
       (∃ q ∈ env.pending, (q.1.1 = m ∧ q.2.isEmpty = false) ∧ q.1.2 = w)) := by
  simp only [weightsFor, List.mem_filter, mem_sortDedup, List.mem_append, List.mem_map, decide_eq_true_eq,
    Bool.decide_and, Bool.and_eq_true, Bool.not_eq_eq_eq_not, Bool.not_true, and_assoc, or_assoc]
  exact and_comm

theorem mem_weightsForLegacy (env : Env) (hooks : List Hook) (m : Moment) (p : Int → Bool) (w : Int) :
    w ∈ weightsForLegacy env hooks m p ↔ p w = true ∧
      ((∃ h ∈ hooks, h.trig = m ∧ h.tw = w) ∨ (∃ q ∈ env.pending, (q.1.1 = m ∧ q.2.isEmpty = false) ∧ q.1.2 = w)) := by
  simp only [weightsForLegacy, List.mem_filter, mem_sortDedup, List.mem_append, List.mem_map, decide_eq_true_eq,
    Bool.decide_and, Bool.and_eq_true, Bool.not_eq_eq_eq_not, Bool.not_true, and_assoc]
  exact and_comm

theorem mem_weightsFor_of_trig (env : Env) (hooks : List Hook) (m : Moment) (p : Int → Bool) (h : Hook)
    (hmem : h ∈ hooks) (ht : h.trig = m) (hp : p h.tw = true) : h.tw ∈ weightsFor env hooks m p :=
  (mem_weightsFor env hooks m p _).mpr ⟨hp, Or.inl ⟨h, hmem, ht, rfl⟩⟩

theorem mem_weightsFor_of_await (env : Env) (hooks : List Hook) (m : Moment) (p : Int → Bool) (h : Hook)
    (hmem : h ∈ hooks) (hcall : h.isTask = false) (htrig : h.trig = m) (hawait : h.await = m) (hp : p h.aw = true) :
    h.aw ∈ weightsFor env hooks m p :=
  (mem_weightsFor env hooks m p _).mpr ⟨hp, Or.inr (Or.inl ⟨h, hmem, ⟨htrig, hcall, hawait⟩, rfl⟩)⟩

def Step.isHookStep : Step → Bool
  | .start .. | .await .. | .tasks .. => true
  | _ => false

/-- moment and weight a hook step belongs to -/
def Step.point? : Step → Option (Moment × Int)
  | .start m w _ | .await m w _ | .tasks m w _ | .callSync m w _ => some (m, w)
  | _ => none

theorem instantiate_insts (env : Env) (hs : List Hook) :
    (instantiate env hs).2.map (·.hook) = hs.map (·.id) ∧
    (instantiate env hs).2.map (·.critical) = hs.map (·.critical) := by
  fun_induction instantiate env hs with
  | case1 => exact ⟨rfl, rfl⟩
  | case2 env h hs i r ih => exact ⟨congrArg (h.id :: ·) ih.1, congrArg (h.critical :: ·) ih.2⟩

theorem phase1_insts (env : Env) (hooks : List Hook) (m : Moment) (w : Int) :
    (phase1 env hooks m w).2.map (·.hook) =
      ((hooks.filter (fun h => h.trig = m ∧ h.tw = w)).filter (fun h => !h.isTask)).map (·.id) :=
  (instantiate_insts _ _).1

theorem handleWeight_steps (env : Env) (hooks : List Hook) (m : Moment) (w : Int) :
    ∃ s1 s2 s3 : List Step,
      (handleWeight env hooks m w).2.1 = s1 ++ s2 ++ s3 ∧
      (s1 = [] ∨ ∃ is, s1 = [Step.start m w is] ∧
          is.map (·.hook) = ((hooks.filter (fun h => h.trig = m ∧ h.tw = w)).filter (fun h => !h.isTask)).map (·.id)) ∧
      (s2 = [] ∨ ∃ is, s2 = [Step.await m w is]) ∧
      (s3 = [] ∨ ∃ is, s3 = [Step.tasks m w is] ∧
          is.map (·.hook) = ((hooks.filter (fun h => h.trig = m ∧ h.tw = w)).filter (fun h => h.isTask)).map (·.id)) := by
  unfold handleWeight
  simp only
  refine ⟨_, _, _, rfl, ?_, ?_, ?_⟩
  · split
    · exact Or.inl rfl
    · exact Or.inr ⟨_, rfl, phase1_insts env hooks m w⟩
  · split
    · exact Or.inl rfl
    · exact Or.inr ⟨_, rfl⟩
  · split
    · exact Or.inl rfl
    · exact Or.inr ⟨_, rfl, (instantiate_insts _ _).1⟩

theorem handleWeight_hookSteps (env : Env) (hooks : List Hook) (m : Moment) (w : Int) :
    ∀ s ∈ (handleWeight env hooks m w).2.1, s.isHookStep = true ∧ s.point? = some (m, w) := by
  obtain ⟨s1, s2, s3, heq, h1, h2, h3⟩ := handleWeight_steps env hooks m w
  intro s hs
  rw [heq, List.mem_append, List.mem_append] at hs
  rcases hs with (hs | hs) | hs
  · rcases h1 with rfl | ⟨_, rfl, _⟩
    · cases hs
    · rw [List.mem_singleton.mp hs]; exact ⟨rfl, rfl⟩
  · rcases h2 with rfl | ⟨_, rfl⟩
    · cases hs
    · rw [List.mem_singleton.mp hs]; exact ⟨rfl, rfl⟩
  · rcases h3 with rfl | ⟨_, rfl, _⟩
    · cases hs
    · rw [List.mem_singleton.mp hs]; exact ⟨rfl, rfl⟩

theorem handleWeights_hookSteps (env : Env) (hooks : List Hook) (m : Moment) (ws : List Int) :
    ∀ s ∈ (handleWeights env hooks m ws).2.1, s.isHookStep = true :=
  handleWeights_forall env hooks m ws _ fun env' _ w _ s hs => (handleWeight_hookSteps env' hooks m w s hs).1

def stepWeights (ss : List Step) : List Int := ss.filterMap (fun s => s.point?.map (·.2))

def Weakly : List Int → Prop
  | [] => True
  | [_] => True
  | a :: b :: rest => a ≤ b ∧ Weakly (b :: rest)

theorem stepWeights_append (a b : List Step) : stepWeights (a ++ b) = stepWeights a ++ stepWeights b :=
  List.filterMap_append

theorem handleWeight_stepWeights (env : Env) (hooks : List Hook) (m : Moment) (w : Int) :
    ∀ x ∈ stepWeights (handleWeight env hooks m w).2.1, x = w := by
  intro x hx
  obtain ⟨s, hs, hsx⟩ := List.mem_filterMap.mp hx
  rw [(handleWeight_hookSteps env hooks m w s hs).2] at hsx
  exact (Option.some.inj hsx).symm

theorem weakly_iff_pairwise (l : List Int) : Weakly l ↔ l.Pairwise (· ≤ ·) :=
  chain_iff_pairwise (R := (· ≤ ·)) (C := Weakly) Int.le_trans trivial (fun _ => trivial) (fun _ _ _ => Iff.rfl) l

/-- Order and membership in one induction: the order of the whole needs the membership of the tail. -/
theorem handleWeights_stepWeights (env : Env) (hooks : List Hook) (m : Moment) (ws : List Int) (hasc : ws.Pairwise (· < ·)) :
    (stepWeights (handleWeights env hooks m ws).2.1).Pairwise (· ≤ ·) ∧
    ∀ x ∈ stepWeights (handleWeights env hooks m ws).2.1, x ∈ ws := by
  induction ws generalizing env with
  | nil => exact ⟨.nil, fun x hx => by cases hx⟩
  | cons w ws ih =>
    simp only [handleWeights]
    have hw := handleWeight_stepWeights env hooks m w
    have hconst : (stepWeights (handleWeight env hooks m w).2.1).Pairwise (· ≤ ·) :=
      List.pairwise_of_forall_mem_list fun x hx y hy => by rw [hw x hx, hw y hy]; exact Int.le_refl _
    split
    · exact ⟨hconst, fun x hx => by rw [hw x hx]; exact List.mem_cons_self ..⟩
    · simp only
      obtain ⟨ih1, ih2⟩ := ih (handleWeight env hooks m w).1 hasc.of_cons
      rw [stepWeights_append]
      refine ⟨List.pairwise_append.mpr ⟨hconst, ih1, fun x hx y hy => ?_⟩, fun x hx => ?_⟩
      · rw [hw x hx]; exact Int.le_of_lt (List.rel_of_pairwise_cons hasc (ih2 y hy))
      · rcases List.mem_append.mp hx with hx | hx
        · rw [hw x hx]; exact List.mem_cons_self ..
        · exact List.mem_cons_of_mem _ (ih2 x hx)

def getAt (pend : List ((Moment × Int) × List Inst)) (m : Moment) (w : Int) : List Inst :=
  ((pend.find? (fun p => p.1.1 = m ∧ p.1.2 = w)).map (·.2)).getD []

theorem pendingAt_eq_getAt (env : Env) (m : Moment) (w : Int) : pendingAt env m w = getAt env.pending m w := rfl

theorem getAt_cons (p : (Moment × Int) × List Inst) (ps : List ((Moment × Int) × List Inst)) (m : Moment) (w : Int) :
    getAt (p :: ps) m w = if p.1.1 = m ∧ p.1.2 = w then p.2 else getAt ps m w := by
  unfold getAt
  rw [List.find?_cons]
  by_cases h : p.1.1 = m ∧ p.1.2 = w
  · rw [decide_eq_true h, if_pos h]; rfl
  · rw [decide_eq_false h, if_neg h]

theorem exists_of_mem_getAt {pend : List ((Moment × Int) × List Inst)} {m : Moment} {w : Int} {i : Inst}
    (hi : i ∈ getAt pend m w) : ∃ q ∈ pend, (q.1.1 = m ∧ q.1.2 = w) ∧ i ∈ q.2 := by
  unfold getAt at hi
  cases hf : pend.find? (fun p => p.1.1 = m ∧ p.1.2 = w) with
  | none => rw [hf] at hi; cases hi
  | some q =>
    rw [hf] at hi
    have hq := List.find?_some hf
    exact ⟨q, List.mem_of_find?_eq_some hf, of_decide_eq_true hq, hi⟩

theorem getAt_addPending (pend : List ((Moment × Int) × List Inst)) (m m' : Moment) (w w' : Int) (i : Inst) :
    getAt (addPending pend m' w' i) m w = if m' = m ∧ w' = w then getAt pend m w ++ [i] else getAt pend m w := by
  fun_induction addPending pend m' w' i with
  | case1 => simp only [getAt_cons]; rfl
  | case2 p ps h =>
    obtain ⟨rfl, rfl⟩ := h
    simp only [getAt_cons]
    split <;> rfl
  | case3 p ps h ih =>
    rw [getAt_cons, getAt_cons, ih]
    by_cases hp : p.1.1 = m ∧ p.1.2 = w
    · rw [if_pos hp, if_pos hp, if_neg (fun hh => h ⟨hp.1.trans hh.1.symm, hp.2.trans hh.2.symm⟩)]
    · rw [if_neg hp, if_neg hp]

theorem getAt_removePending (pend : List ((Moment × Int) × List Inst)) (m m' : Moment) (w w' : Int) :
    getAt (removePending pend m' w') m w = if m' = m ∧ w' = w then [] else getAt pend m w := by
  induction pend with
  | nil => simp only [removePending, List.filter_nil]; split <;> rfl
  | cons p ps ih =>
    unfold removePending at ih ⊢
    rw [List.filter_cons]
    by_cases hp' : p.1.1 = m' ∧ p.1.2 = w'
    · rw [if_neg (fun hd => (of_decide_eq_true hd : ¬ (p.1.1 = m' ∧ p.1.2 = w')) hp'), ih, getAt_cons]
      split
      · rfl
      · rename_i h; rw [if_neg (fun hp => h ⟨hp'.1.symm.trans hp.1, hp'.2.symm.trans hp.2⟩)]
    · rw [if_pos (decide_eq_true hp'), getAt_cons, getAt_cons, ih]
      split
      · rename_i h; rw [if_neg (fun hh => hp' ⟨h.1.trans hh.1.symm, h.2.trans hh.2.symm⟩)]
      · rfl

def awaitingAt (l : List (Hook × Inst)) (m : Moment) (w : Int) : List Inst :=
  (l.filter (fun hi => hi.1.await = m ∧ hi.1.aw = w)).map (·.2)

theorem getAt_registerAwaits (pend : List ((Moment × Int) × List Inst)) (l : List (Hook × Inst)) (m : Moment) (w : Int) :
    getAt (registerAwaits pend l) m w = getAt pend m w ++ awaitingAt l m w := by
  fun_induction registerAwaits pend l with
  | case1 => simp [awaitingAt]
  | case2 pend h i rest ih =>
    rw [ih, getAt_addPending]
    unfold awaitingAt
    rw [List.filter_cons]
    by_cases hh : h.await = m ∧ h.aw = w
    · rw [if_pos hh, if_pos (by simpa using hh), List.map_cons, List.append_assoc]; rfl
    · rw [if_neg hh, if_neg (by simpa using hh)]

theorem instantiate_pending (env : Env) (hs : List Hook) : (instantiate env hs).1.pending = env.pending := by
  rw [instantiate_execs]

theorem zip_instantiate_id (env : Env) (hs : List Hook) (h : Hook) (x : Inst)
    (hm : (h, x) ∈ hs.zip (instantiate env hs).2) : h ∈ hs ∧ x.hook = h.id := by
  fun_induction instantiate env hs with
  | case1 => cases hm
  | case2 env g gs i r ih =>
    rcases List.mem_cons.mp hm with hm | hm
    · obtain ⟨rfl, rfl⟩ := Prod.mk.inj hm
      exact ⟨List.mem_cons_self, rfl⟩
    · exact ⟨List.mem_cons_of_mem _ (ih hm).1, (ih hm).2⟩

theorem exists_zip_instantiate (env : Env) (hs : List Hook) (h : Hook) (hm : h ∈ hs) :
    ∃ i, (h, i) ∈ hs.zip (instantiate env hs).2 :=
  List.exists_zip_of_mem (by simpa only [List.length_map] using congrArg List.length (instantiate_insts env hs).1) hm

theorem phase1_pendingAt (env : Env) (hooks : List Hook) (m m' : Moment) (w w' : Int) :
    pendingAt (phase1 env hooks m w).1 m' w' = pendingAt env m' w' ++
      awaitingAt (((hooks.filter (fun h => h.trig = m ∧ h.tw = w)).filter (fun h => !h.isTask)).zip
        (instantiate env ((hooks.filter (fun h => h.trig = m ∧ h.tw = w)).filter (fun h => !h.isTask))).2) m' w' := by
  unfold phase1
  simp only [pendingAt_eq_getAt, getAt_registerAwaits, instantiate_pending]

theorem phase1_registers (env : Env) (hooks : List Hook) (m : Moment) (w : Int) (h : Hook)
    (hmem : h ∈ hooks) (hcall : h.isTask = false) (htrig : h.trig = m ∧ h.tw = w) :
    ∃ i ∈ pendingAt (phase1 env hooks m w).1 h.await h.aw, i.hook = h.id := by
  obtain ⟨i, hzip⟩ := exists_zip_instantiate env ((hooks.filter (fun h => h.trig = m ∧ h.tw = w)).filter (fun h => !h.isTask)) h
    (List.mem_filter.mpr ⟨List.mem_filter.mpr ⟨hmem, decide_eq_true htrig⟩, by rw [hcall]; rfl⟩)
  refine ⟨i, ?_, (zip_instantiate_id env _ h i hzip).2⟩
  rw [phase1_pendingAt]
  exact List.mem_append_right _ (List.mem_map.mpr ⟨(h, i), List.mem_filter.mpr ⟨hzip, decide_eq_true ⟨rfl, rfl⟩⟩, rfl⟩)

theorem handleWeight_pendingAt (env : Env) (hooks : List Hook) (m m' : Moment) (w w' : Int) :
    pendingAt (handleWeight env hooks m w).1 m' w' =
      if m = m' ∧ w = w' then [] else pendingAt (phase1 env hooks m w).1 m' w' := by
  unfold handleWeight
  simp only
  rw [pendingAt_eq_getAt, instantiate_pending]
  unfold phase2
  simp only
  split
  · rename_i hemp
    split
    · rename_i h; obtain ⟨rfl, rfl⟩ := h; exact List.isEmpty_iff.mp hemp
    · rfl
  · exact getAt_removePending ..

theorem handleWeight_barrier (env : Env) (hooks : List Hook) (m : Moment) (w : Int) :
    pendingAt (handleWeight env hooks m w).1 m w = [] := by
  rw [handleWeight_pendingAt, if_pos ⟨rfl, rfl⟩]

theorem handleWeight_await_step (env : Env) (hooks : List Hook) (m : Moment) (w : Int) (i : Inst)
    (hi : i ∈ pendingAt (phase1 env hooks m w).1 m w) :
    Step.await m w (pendingAt (phase1 env hooks m w).1 m w) ∈ (handleWeight env hooks m w).2.1 := by
  have hne : (phase2 (phase1 env hooks m w).1 m w).2.isEmpty = false := by
    cases hg : pendingAt (phase1 env hooks m w).1 m w with
    | nil => rw [hg] at hi; cases hi
    | cons _ _ => exact congrArg List.isEmpty hg
  unfold handleWeight
  simp only [hne, Bool.false_eq_true, if_false]
  exact List.mem_append_left _ (List.mem_append_right _ (List.mem_singleton.mpr rfl))

def marksOf (ss : List Step) : List (String × Bool) := ss.filterMap fun | .mark n f => some (n, f) | _ => none

/-- the steps that change what clients see or command tasks: the task-level body and the state write -/
def effectsOf (ss : List Step) : List Step := ss.filter fun | .body .. => true | .setState _ => true | _ => false

theorem marksOf_nil : marksOf [] = [] := rfl
theorem effectsOf_nil : effectsOf [] = [] := rfl

theorem marksOf_append (a b : List Step) : marksOf (a ++ b) = marksOf a ++ marksOf b := List.filterMap_append
theorem effectsOf_append (a b : List Step) : effectsOf (a ++ b) = effectsOf a ++ effectsOf b := List.filter_append ..

theorem marksOf_cons (s : Step) (l : List Step) :
    marksOf (s :: l) = (match s with | .mark n f => [(n, f)] | _ => []) ++ marksOf l := by
  cases s <;> rfl

theorem effectsOf_cons (s : Step) (l : List Step) :
    effectsOf (s :: l) = (match s with | .body e ok => [Step.body e ok] | .setState x => [Step.setState x] | _ => []) ++ effectsOf l := by
  cases s <;> rfl

/-- neither a moment marker nor an effect: the hook steps and what the bookkeeping emits -/
def Step.isInner : Step → Bool
  | .mark .. | .body .. | .setState _ => false
  | _ => true

theorem inner_no_marks {ss : List Step} (h : ∀ s ∈ ss, s.isInner = true) : marksOf ss = [] ∧ effectsOf ss = [] := by
  induction ss with
  | nil => exact ⟨rfl, rfl⟩
  | cons s ss ih =>
    obtain ⟨h1, h2⟩ := ih (fun x hx => h x (List.mem_cons_of_mem _ hx))
    have hs := h s List.mem_cons_self
    rw [marksOf_cons, effectsOf_cons, h1, h2]
    cases s <;> first | exact ⟨rfl, rfl⟩ | cases hs

/-- what the bookkeeping between the two passes of a moment emits: run number, stamps, run events -/
def Step.isQuiet : Step → Bool
  | .rnSet _ | .rnCleared | .tsSet .. | .tsCleared | .runEvent .. => true
  | _ => false

def Quiet (ss : List Step) : Prop := ∀ s ∈ ss, s.isQuiet = true

theorem setSoeor_quiet (env : Env) (tr : String) (p : Bool) : Quiet (setSoeorIfEmpty env tr p).2 := by
  unfold setSoeorIfEmpty
  split
  · cases p <;> exact List.all_eq_true.mp rfl
  · exact List.all_eq_true.mp rfl

theorem setEoeor_quiet (env : Env) (tr : String) (s : RunStatus) : Quiet (setEoeorIfEmpty env tr s).2 := by
  unfold setEoeorIfEmpty
  split <;> exact List.all_eq_true.mp rfl

theorem bkBefore_quiet (env : Env) (e : Ev) (r : Bool) : Quiet (bkBefore env e r).2.1 := by
  cases e with
  | START_ACTIVITY => cases r <;> exact List.all_eq_true.mp rfl
  | STOP_ACTIVITY | GO_ERROR => exact setSoeor_quiet env _ true
  | _ => exact List.all_eq_true.mp rfl

theorem bkAfter_quiet (env : Env) (e : Ev) (f : Bool) : Quiet (bkAfter env e f).2 := by
  cases e with
  | STOP_ACTIVITY | GO_ERROR => exact setEoeor_quiet env _ _
  | _ => exact List.all_eq_true.mp rfl

theorem finAfter_quiet (env : Env) (e : Ev) : Quiet (finAfter env e).2 := by
  unfold finAfter
  split <;> exact List.all_eq_true.mp rfl

theorem bkLeave_quiet (src : St) (env : Env) (e : Ev) : Quiet (bkLeave src env e).2 := by
  unfold bkLeave; split
  · exact setSoeor_quiet env _ false
  · exact List.all_eq_true.mp rfl

theorem Quiet.inner {ss : List Step} (h : Quiet ss) : ∀ s ∈ ss, s.isInner = true := by
  intro s hs
  have := h s hs
  cases s <;> first | rfl | cases this

theorem handleHooks_inner (env : Env) (hooks : List Hook) (m : Moment) (p : Int → Bool) :
    ∀ s ∈ (handleHooks env hooks m p).2.1, s.isInner = true := by
  intro s hs
  have := handleWeights_hookSteps env hooks m _ s hs
  cases s <;> first | rfl | cases this

def markPattern (e : Ev) (s d : St) : List (String × Bool) :=
  [((Moment.before e).name, false), ((Moment.before e).name, true),
   ((Moment.leave s).name, false), ((Moment.leave s).name, true),
   ("tasks_" ++ e.name, false), ("tasks_" ++ e.name, true),
   ((Moment.enter d).name, false), ((Moment.enter d).name, true),
   ((Moment.after e).name, false), ((Moment.after e).name, true)]

theorem beforeEvent_marks (env : Env) (hooks : List Hook) (e : Ev) (r : Bool) :
    effectsOf (beforeEvent env hooks e r).2.1 = [] ∧
    (marksOf (beforeEvent env hooks e r).2.1 = [((Moment.before e).name, false), ((Moment.before e).name, true)] ∨
     (marksOf (beforeEvent env hooks e r).2.1 = [((Moment.before e).name, false)] ∧ (beforeEvent env hooks e r).2.2 = some .cancelledRn)) := by
  have hH := fun a p => inner_no_marks (handleHooks_inner a hooks (.before e) p)
  have hB := fun a => inner_no_marks (bkBefore_quiet a e r).inner
  obtain ⟨_, heq⟩ | ⟨_, _, heq⟩ | ⟨_, _, heq⟩ := beforeEvent_cases env hooks e r <;>
    simp only [heq, marksOf_append, effectsOf_append, marksOf_cons, effectsOf_cons, hH, hB, marksOf_nil, effectsOf_nil,
      List.append_nil, List.nil_append, List.cons_append, true_or, or_true, and_self]

theorem leaveState_marks (env : Env) (hooks : List Hook) (e : Ev) (b : Bool) :
    (marksOf (leaveState env hooks e b).2.1 = [((Moment.leave env.st).name, false), ((Moment.leave env.st).name, true)] ∧
      effectsOf (leaveState env hooks e b).2.1 = [] ∧ ∃ n m, (leaveState env hooks e b).2.2 = some (.cancelledHooks n m)) ∨
    (marksOf (leaveState env hooks e b).2.1 =
        [((Moment.leave env.st).name, false), ((Moment.leave env.st).name, true), ("tasks_" ++ e.name, false), ("tasks_" ++ e.name, true)] ∧
      effectsOf (leaveState env hooks e b).2.1 = [Step.body e b] ∧
      (leaveState env hooks e b).2.2 = if b then none else some .cancelledBody) := by
  have hH := fun a p => inner_no_marks (handleHooks_inner a hooks (.leave env.st) p)
  have hB := fun a => inner_no_marks (bkLeave_quiet env.st a e).inner
  obtain ⟨_, heq⟩ | ⟨_, _, heq⟩ | ⟨_, _, heq⟩ := leaveState_cases env hooks e <;>
    simp only [heq, marksOf_append, effectsOf_append, marksOf_cons, effectsOf_cons, hH, hB, marksOf_nil, effectsOf_nil,
      List.append_nil, List.nil_append, List.cons_append, true_and]
  · exact Or.inl ⟨_, _, rfl⟩
  · exact Or.inl ⟨_, _, rfl⟩
  · exact Or.inr (by cases b <;> simp)

theorem enterState_marks (env : Env) (hooks : List Hook) :
    marksOf (enterState env hooks).2.1 = [((Moment.enter env.st).name, false), ((Moment.enter env.st).name, true)] ∧
    effectsOf (enterState env hooks).2.1 = [] := by
  have hH := fun a p => inner_no_marks (handleHooks_inner a hooks (.enter env.st) p)
  simp only [enterState, marksOf_append, effectsOf_append, marksOf_cons, effectsOf_cons, hH, marksOf_nil, effectsOf_nil,
    List.append_nil, List.nil_append, List.cons_append, and_self]

theorem afterEvent_marks (env : Env) (hooks : List Hook) (e : Ev) (errs : List (Nat × Moment)) :
    marksOf (afterEvent env hooks e errs).2.1 = [((Moment.after e).name, false), ((Moment.after e).name, true)] ∧
    effectsOf (afterEvent env hooks e errs).2.1 = [] := by
  have hH := fun a p => inner_no_marks (handleHooks_inner a hooks (.after e) p)
  have hB := fun a f => inner_no_marks (bkAfter_quiet a e f).inner
  have hF := fun a => inner_no_marks (finAfter_quiet a e).inner
  simp only [afterEvent, marksOf_append, effectsOf_append, marksOf_cons, effectsOf_cons, hH, hB, hF, marksOf_nil, effectsOf_nil,
    List.append_nil, List.nil_append, List.cons_append, and_self]

theorem beforeEvent_marks_of_none (env : Env) (hooks : List Hook) (e : Ev) (r : Bool) (hb : (beforeEvent env hooks e r).2.2 = none) :
    marksOf (beforeEvent env hooks e r).2.1 = [((Moment.before e).name, false), ((Moment.before e).name, true)] := by
  rcases (beforeEvent_marks env hooks e r).2 with h | ⟨_, h⟩
  · exact h
  · rw [hb] at h; cases h

theorem fsmEvent_marks (env : Env) (hooks : List Hook) (e : Ev) (b r : Bool) (d : St) (hd : dst? e env.st = some d) :
    marksOf (fsmEvent env hooks e b r).2.1 <+: markPattern e env.st d := by
  have hl := leaveState_marks (beforeEvent env hooks e r).1 hooks e b
  rw [beforeEvent_st env hooks e r] at hl
  obtain ⟨hd', _⟩ | ⟨d', hd', h⟩ := fsmEvent_cases env hooks e b r
  · rw [hd] at hd'; cases hd'
  · obtain rfl : d' = d := Option.some.inj (hd'.symm.trans hd)
    obtain ⟨_, _, heq⟩ | ⟨hb, _, _, heq⟩ | ⟨hb, hln, heq⟩ := h <;>
      simp only [heq, marksOf_append, marksOf_cons, marksOf_nil, (enterState_marks _ hooks).1, (afterEvent_marks _ hooks e _).1]
    · rcases (beforeEvent_marks env hooks e r).2 with h | ⟨h, _⟩ <;> rw [h] <;> exact ⟨_, rfl⟩
    · rw [beforeEvent_marks_of_none env hooks e r hb]
      rcases hl with ⟨h, _⟩ | ⟨h, _⟩ <;> rw [h] <;> exact ⟨_, rfl⟩
    · rw [beforeEvent_marks_of_none env hooks e r hb]
      rcases hl with ⟨_, _, _, _, h⟩ | ⟨h, _⟩
      · rw [hln] at h; cases h
      · rw [h]; exact ⟨[], rfl⟩

theorem fsmEvent_moved_marks (env : Env) (hooks : List Hook) (e : Ev) (b r : Bool) (d : St) (hd : dst? e env.st = some d)
    (hm : (fsmEvent env hooks e b r).2.2.moved = true) :
    marksOf (fsmEvent env hooks e b r).2.1 = markPattern e env.st d ∧
    effectsOf (fsmEvent env hooks e b r).2.1 = [Step.body e b, Step.setState d] ∧ b = true := by
  obtain ⟨d', hd', hb, hln, heq⟩ := fsmEvent_of_moved env hooks e b r hm
  obtain rfl : d' = d := Option.some.inj (hd'.symm.trans hd)
  have hl := leaveState_marks (beforeEvent env hooks e r).1 hooks e b
  rw [beforeEvent_st env hooks e r, hln] at hl
  rcases hl with ⟨_, _, _, _, h⟩ | ⟨hlm, hle, hb'⟩
  · cases h
  · simp only [heq, marksOf_append, effectsOf_append, marksOf_cons, effectsOf_cons, marksOf_nil, effectsOf_nil,
      enterState_marks _ hooks, afterEvent_marks _ hooks e _, beforeEvent_marks_of_none env hooks e r hb,
      (beforeEvent_marks env hooks e r).1, hlm, hle]
    cases b
    · cases hb'
    · exact ⟨rfl, rfl, rfl⟩

theorem fsmEvent_cancelled_no_effects (env : Env) (hooks : List Hook) (e : Ev) (b r : Bool) (n : Nat) (m : Moment)
    (h : (fsmEvent env hooks e b r).2.2 = .cancelledHooks n m) :
    (fsmEvent env hooks e b r).1.st = env.st ∧ effectsOf (fsmEvent env hooks e b r).2.1 = [] := by
  refine ⟨?_, ?_⟩
  · obtain hk | ⟨d, _, _, hm⟩ := fsmEvent_st env hooks e b r
    · exact hk.1
    · rw [h] at hm; cases hm
  · obtain ⟨_, heq⟩ | ⟨d, _, ⟨_, _, heq⟩ | ⟨_, res, hl, heq⟩ | ⟨_, _, heq⟩⟩ := fsmEvent_cases env hooks e b r <;>
      simp only [heq] at h ⊢
    · rfl
    · exact (beforeEvent_marks env hooks e r).1
    · subst h
      rw [effectsOf_append, (beforeEvent_marks env hooks e r).1, List.nil_append]
      rcases leaveState_marks (beforeEvent env hooks e r).1 hooks e b with ⟨_, he, _⟩ | ⟨_, _, hres⟩
      · exact he
      · rw [hl] at hres; cases b <;> cases hres
    · split at h <;> cases h

def NoCritPending (pend : List ((Moment × Int) × List Inst)) : Prop := ∀ p ∈ pend, ∀ i ∈ p.2, i.critical = false

theorem instantiate_noncrit (env : Env) (hs : List Hook) (h : ∀ x ∈ hs, x.critical = false) :
    ∀ i ∈ (instantiate env hs).2, i.critical = false := by
  intro i hi
  have hm : i.critical ∈ (instantiate env hs).2.map (·.critical) := List.mem_map_of_mem hi
  rw [(instantiate_insts env hs).2] at hm
  obtain ⟨x, hx, hxe⟩ := List.mem_map.mp hm
  rw [← hxe]; exact h x hx

theorem addPending_noncrit (pend : List ((Moment × Int) × List Inst)) (m : Moment) (w : Int) (i : Inst)
    (hp : NoCritPending pend) (hi : i.critical = false) : NoCritPending (addPending pend m w i) := by
  fun_induction addPending pend m w i with
  | case1 => intro p hp' j hj; simp at hp'; subst hp'; simp at hj; subst hj; exact hi
  | case2 q qs _ =>
    intro p hp' j hj
    rcases List.mem_cons.mp hp' with rfl | hp'
    · simp only [List.mem_append, List.mem_singleton] at hj
      rcases hj with hj | rfl
      · exact hp q (List.mem_cons_self ..) j hj
      · exact hi
    · exact hp p (List.mem_cons_of_mem _ hp') j hj
  | case3 q qs _ ih =>
    intro p hp' j hj
    rcases List.mem_cons.mp hp' with rfl | hp'
    · exact hp _ (List.mem_cons_self ..) j hj
    · exact ih (fun p hp'' => hp p (List.mem_cons_of_mem _ hp'')) p hp' j hj

theorem registerAwaits_noncrit (pend : List ((Moment × Int) × List Inst)) (l : List (Hook × Inst))
    (hp : NoCritPending pend) (hl : ∀ x ∈ l, x.2.critical = false) : NoCritPending (registerAwaits pend l) := by
  induction l generalizing pend with
  | nil => exact hp
  | cons hi rest ih =>
    obtain ⟨h, i⟩ := hi
    exact ih _ (addPending_noncrit pend h.await h.aw i hp (hl (h, i) (List.mem_cons_self ..)))
      (fun x hx => hl x (List.mem_cons_of_mem _ hx))

theorem getAt_noncrit (pend : List ((Moment × Int) × List Inst)) (m : Moment) (w : Int) (hp : NoCritPending pend) :
    ∀ i ∈ getAt pend m w, i.critical = false := by
  intro i hi
  obtain ⟨q, hq, _, hiq⟩ := exists_of_mem_getAt hi
  exact hp q hq i hiq

theorem handleWeight_noncrit (env : Env) (hooks : List Hook) (m : Moment) (w : Int)
    (hh : ∀ x ∈ hooks, x.critical = false) (hp : NoCritPending env.pending) :
    (handleWeight env hooks m w).2.2 = 0 ∧ NoCritPending (handleWeight env hooks m w).1.pending := by
  have hsel : ∀ (q : Hook → Bool), ∀ y ∈ (hooks.filter (fun h => h.trig = m ∧ h.tw = w)).filter q, y.critical = false :=
    fun q y hy => hh y (List.mem_filter.mp (List.mem_filter.mp hy).1).1
  have h1 : NoCritPending (phase1 env hooks m w).1.pending := by
    unfold phase1; simp only
    rw [instantiate_pending]
    exact registerAwaits_noncrit _ _ hp (fun x hx => instantiate_noncrit env _ (hsel _) x.2 (List.of_mem_zip hx).2)
  have h2a : ∀ i ∈ (phase2 (phase1 env hooks m w).1 m w).2, i.critical = false := getAt_noncrit _ m w h1
  have h2 : NoCritPending (phase2 (phase1 env hooks m w).1 m w).1.pending := by
    unfold phase2; simp only
    split
    · exact h1
    · exact fun p hp' i hi => h1 p (List.mem_filter.mp hp').1 i hi
  unfold handleWeight
  simp only
  refine ⟨?_, by rw [instantiate_pending]; exact h2⟩
  rw [List.length_eq_zero_iff, List.filter_eq_nil_iff]
  intro i hi
  have hc : i.critical = false := by
    rcases List.mem_append.mp hi with hi | hi
    · exact h2a i (List.mem_filter.mp hi).1
    · exact instantiate_noncrit _ _ (hsel _) i hi
  rw [hc, Bool.and_false]; exact Bool.false_ne_true

theorem handleWeights_noncrit (env : Env) (hooks : List Hook) (m : Moment) (ws : List Int)
    (hh : ∀ x ∈ hooks, x.critical = false) (hp : NoCritPending env.pending) :
    (handleWeights env hooks m ws).2.2 = 0 ∧ NoCritPending (handleWeights env hooks m ws).1.pending := by
  induction ws generalizing env with
  | nil => exact ⟨rfl, hp⟩
  | cons w ws ih =>
    simp only [handleWeights]
    have hw := handleWeight_noncrit env hooks m w hh hp
    split
    · rename_i hpos; rw [hw.1] at hpos; cases hpos
    · exact ih _ hw.2

theorem handleHooks_noncrit (env : Env) (hooks : List Hook) (m : Moment) (p : Int → Bool)
    (hh : ∀ x ∈ hooks, x.critical = false) (hp : NoCritPending env.pending) :
    (handleHooks env hooks m p).2.2 = 0 ∧ NoCritPending (handleHooks env hooks m p).1.pending :=
  handleWeights_noncrit env hooks m _ hh hp

theorem setEoeor_pending (env : Env) (tr : String) (s : RunStatus) : (setEoeorIfEmpty env tr s).1.pending = env.pending :=
  setEoeor_frame Env.pending (fun _ _ _ => rfl) env tr s

def Result.noHookBlame : Result → Bool
  | .cancelledHooks .. | .reported _ => false
  | _ => true

theorem fsmEvent_noncrit (env : Env) (hooks : List Hook) (e : Ev) (b r : Bool)
    (hh : ∀ x ∈ hooks, x.critical = false) (hp : NoCritPending env.pending) :
    (fsmEvent env hooks e b r).2.2.noHookBlame = true ∧ NoCritPending (fsmEvent env hooks e b r).1.pending := by
  obtain ⟨hres, hp'⟩ := CalmPasses.fsmEvent ⟨fun a m p => handleHooks_noncrit a hooks m p hh⟩ env e b r hp
  refine ⟨?_, hp'⟩
  rw [hres, calmResult]
  split
  · rfl
  · split
    · rfl
    · split <;> rfl

theorem handleWeight_keeps_other (env : Env) (hooks : List Hook) (m m' : Moment) (w w' : Int) (i : Inst)
    (hne : ¬ (m' = m ∧ w' = w)) (hi : i ∈ pendingAt env m w) : i ∈ pendingAt (handleWeight env hooks m' w').1 m w := by
  rw [handleWeight_pendingAt, if_neg hne, phase1_pendingAt]
  exact List.mem_append_left _ hi

theorem instantiate_cancelled (env : Env) (hs : List Hook) : (instantiate env hs).1.cancelled = env.cancelled := by
  rw [instantiate_execs]

theorem handleWeight_cancelled (env : Env) (hooks : List Hook) (m : Moment) (w : Int) :
    (handleWeight env hooks m w).1.cancelled = env.cancelled := by
  have h1 : (phase1 env hooks m w).1.cancelled = env.cancelled := instantiate_cancelled env _
  have h2 : (phase2 (phase1 env hooks m w).1 m w).1.cancelled = env.cancelled := by
    unfold phase2; simp only
    split <;> exact h1
  exact (instantiate_cancelled _ _).trans h2

theorem handleWeight_counts_pending (env : Env) (hooks : List Hook) (m : Moment) (w : Int) (i : Inst)
    (hi : i ∈ pendingAt env m w) (hf : i.fails = true) (hc : i.critical = true) (hnc : isCancelled env i = false) :
    (handleWeight env hooks m w).2.2 > 0 := by
  have h1 : i ∈ pendingAt (phase1 env hooks m w).1 m w := by
    rw [phase1_pendingAt]; exact List.mem_append_left _ hi
  unfold handleWeight
  simp only
  apply List.length_pos_of_mem (a := i)
  rw [List.mem_filter, hf, hc]
  exact ⟨List.mem_append_left _ (List.mem_filter.mpr ⟨h1, by rw [hnc]; rfl⟩), rfl⟩

theorem handleWeights_counts_pending (env : Env) (hooks : List Hook) (m : Moment) (ws : List Int) (w : Int) (i : Inst)
    (hw : w ∈ ws) (hi : i ∈ pendingAt env m w) (hf : i.fails = true) (hc : i.critical = true) (hnc : isCancelled env i = false) :
    (handleWeights env hooks m ws).2.2 > 0 := by
  fun_induction handleWeights env hooks m ws with
  | case1 => cases hw
  | case2 env w' ws r h => exact h
  | case3 env w' ws r h r' ih =>
    by_cases heq : w' = w
    · subst heq; exact absurd (handleWeight_counts_pending env hooks m w' i hi hf hc hnc) h
    · have hw' : w ∈ ws := (List.mem_cons.mp hw).resolve_left (fun hh => heq hh.symm)
      exact ih hw' (handleWeight_keeps_other env hooks m m w w' i (fun hh => heq hh.2) hi)
        (by unfold isCancelled at hnc ⊢; rw [handleWeight_cancelled]; exact hnc)

theorem mem_weightsFor_of_pending (env : Env) (hooks : List Hook) (m : Moment) (p : Int → Bool) (w : Int) (i : Inst)
    (hi : i ∈ pendingAt env m w) (hp : p w = true) : w ∈ weightsFor env hooks m p := by
  obtain ⟨q, hq, hpt, hiq⟩ := exists_of_mem_getAt hi
  exact (mem_weightsFor env hooks m p w).mpr
    ⟨hp, .inr (.inr ⟨q, hq, ⟨hpt.1, List.isEmpty_eq_false_iff_exists_mem.mpr ⟨i, hiq⟩⟩, hpt.2⟩)⟩

theorem handleHooks_counts_pending (env : Env) (hooks : List Hook) (m : Moment) (p : Int → Bool) (w : Int) (i : Inst)
    (hi : i ∈ pendingAt env m w) (hp : p w = true) (hf : i.fails = true) (hc : i.critical = true) (hnc : isCancelled env i = false) :
    (handleHooks env hooks m p).2.2 > 0 :=
  handleWeights_counts_pending env hooks m _ w i (mem_weightsFor_of_pending env hooks m p w i hi hp) hi hf hc hnc

theorem handleHooks_keeps_elsewhere (env : Env) (hooks : List Hook) (m m' : Moment) (p : Int → Bool) (w : Int) (i : Inst)
    (hne : m' ≠ m) (hi : i ∈ pendingAt env m w) : i ∈ pendingAt (handleHooks env hooks m' p).1 m w :=
  handleWeights_invariant (fun env => i ∈ pendingAt env m w) env hooks m' _
    (fun env' w' _ h => handleWeight_keeps_other env' hooks m m' w w' i (fun hh => hne hh.1) h) hi

theorem destroyWeights_pending (env : Env) (hooks : List Hook) (ws : List Int) :
    (destroyWeights env hooks ws).1.pending = env.pending ∧ (destroyWeights env hooks ws).1.cancelled = env.cancelled := by
  rw [destroyWeights_execs]; exact ⟨rfl, rfl⟩

theorem uncollected_nil_of_cancelled (env : Env) (h : ∀ i ∈ allPending env, i ∈ env.cancelled) : uncollected env = [] := by
  unfold uncollected isCancelled
  rw [List.filter_eq_nil_iff]
  intro i hi
  simp only [Bool.not_eq_true, Bool.not_eq_false', List.any_eq_true]
  exact ⟨i, h i hi, by simp⟩

theorem teardown_uncollected (env : Env) (hooks : List Hook) (f r1 r2 : Bool) (n : Nat)
    (h : (teardown env hooks f r1 r2 n).2.2.moved = true) : uncollected (teardown env hooks f r1 r2 n).1 = [] := by
  obtain heq | heq | heq | ⟨_, heq⟩ := teardown_cases env hooks f r1 r2 n <;> simp only [heq] at h ⊢
  · cases h
  · cases h
  · cases h
  · exact uncollected_nil_of_cancelled _ (fun i hi => List.mem_append_right _ hi)

/-- Instance `i` comes from a call hook triggered at `m` ABOVE the weight `a` at which it awaits at `m`: it was
    started after its own await point had been handled ("awaits backwards"). -/
def StartedAfter (hooks : List Hook) (m : Moment) (a : Int) (i : Inst) : Prop :=
  ∃ g ∈ hooks, g.id = i.hook ∧ g.isTask = false ∧ g.trig = m ∧ g.await = m ∧ g.aw = a ∧ a < g.tw

instance (hooks : List Hook) (m : Moment) (a : Int) (i : Inst) : Decidable (StartedAfter hooks m a i) := by
  unfold StartedAfter; infer_instance

theorem handleWeight_pending_cases (env : Env) (hooks : List Hook) (m : Moment) (w a : Int) (x : Inst)
    (hx : x ∈ pendingAt (handleWeight env hooks m w).1 m a) :
    x ∈ pendingAt env m a ∨
      ∃ g ∈ hooks, g.id = x.hook ∧ g.isTask = false ∧ g.trig = m ∧ g.tw = w ∧ g.await = m ∧ g.aw = a := by
  rw [handleWeight_pendingAt] at hx
  split at hx
  · cases hx
  · rw [phase1_pendingAt] at hx
    rcases List.mem_append.mp hx with h | h
    · exact Or.inl h
    · obtain ⟨⟨g, i⟩, hgi, rfl⟩ := List.mem_map.mp h
      obtain ⟨hzip, haw⟩ := List.mem_filter.mp hgi
      obtain ⟨hmem, hid⟩ := zip_instantiate_id env _ g i hzip
      obtain ⟨hsel, hcall⟩ := List.mem_filter.mp hmem
      obtain ⟨hg, htr⟩ := List.mem_filter.mp hsel
      have htr' := of_decide_eq_true htr
      have haw' := of_decide_eq_true haw
      exact Or.inr ⟨g, hg, hid.symm, by simpa using hcall, htr'.1, htr'.2, haw'.1, haw'.2⟩

theorem handleWeights_startedAfter (env : Env) (hooks : List Hook) (m : Moment) (a : Int) (ws : List Int)
    (hws : ∀ w ∈ ws, a < w) (hP : ∀ i ∈ pendingAt env m a, StartedAfter hooks m a i) :
    ∀ i ∈ pendingAt (handleWeights env hooks m ws).1 m a, StartedAfter hooks m a i := by
  refine handleWeights_invariant (fun env => ∀ i ∈ pendingAt env m a, StartedAfter hooks m a i) env hooks m ws ?_ hP
  intro env' w hw hP' i hi
  rcases handleWeight_pending_cases env' hooks m w a i hi with h | ⟨g, hg, hid, hcall, htr, htw, haw, haa⟩
  · exact hP' i h
  · exact ⟨g, hg, hid, hcall, htr, haw, haa, by rw [htw]; exact hws w hw⟩

/-- Visiting `a` empties it; the weights left are above `a`, and a weight registers at `a` only calls it starts itself. -/
theorem handleWeights_visits (env : Env) (hooks : List Hook) (m : Moment) (a : Int) (ws : List Int)
    (hasc : ws.Pairwise (· < ·)) (ha : a ∈ ws) (h0 : (handleWeights env hooks m ws).2.2 = 0) :
    ∀ i ∈ pendingAt (handleWeights env hooks m ws).1 m a, StartedAfter hooks m a i := by
  fun_induction handleWeights env hooks m ws with
  | case1 => cases ha
  | case2 env w ws r hc => omega
  | case3 env w ws r hc r' ih =>
    by_cases hwa : w = a
    · subst hwa
      apply handleWeights_startedAfter _ hooks m w ws (fun _ => List.rel_of_pairwise_cons hasc)
      intro i hi; rw [handleWeight_barrier] at hi; cases hi
    · exact ih hasc.of_cons ((List.mem_cons.mp ha).resolve_left (fun h => hwa h.symm)) h0

theorem handleHooks_await_same_moment (env : Env) (hooks : List Hook) (m : Moment) (p : Int → Bool) (h : Hook)
    (hmem : h ∈ hooks) (hcall : h.isTask = false) (htrig : h.trig = m) (hawait : h.await = m) (hp : p h.aw = true)
    (h0 : (handleHooks env hooks m p).2.2 = 0) :
    ∀ i ∈ pendingAt (handleHooks env hooks m p).1 m h.aw, StartedAfter hooks m h.aw i :=
  handleWeights_visits env hooks m h.aw _ (weightsFor_pairwise env hooks m p)
    (mem_weightsFor_of_await env hooks m p h hmem hcall htrig hawait hp) h0

end EnvM
