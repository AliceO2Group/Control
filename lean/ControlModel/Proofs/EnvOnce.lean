/-
  Proofs/EnvOnce — HOW OFTEN a hook is begun.

  `begunCount id ss` counts the executions of hook `id` that the steps `ss` begin (a call started, a task hook
  run). With pairwise different hook ids: one weight of handleHooks begins a hook exactly once if that weight is
  the hook's trigger point and not at all otherwise; a pass visits strictly ascending weights, all of its own
  sign, so it begins a hook at most once — exactly once when the hook's weight belongs to the pass and no
  critical failure stopped it; the negative and the non-negative pass of a moment never both begin it; what a
  callback begins is a prefix of what its two passes begin; the four moments of one transition are different moments.
-/
import ControlModel.Proofs.EnvRun
import ControlModel.Proofs.EnvHooks
import ControlModel.Proofs.Lists

namespace EnvM

def begunIds (ss : List Step) : List Nat := (ss.flatMap Step.begun).map (·.hook)

def begunCount (id : Nat) (ss : List Step) : Nat := (begunIds ss).count id

theorem begunIds_append (a b : List Step) : begunIds (a ++ b) = begunIds a ++ begunIds b := by
  simp [begunIds]

theorem begunCount_append (id : Nat) (a b : List Step) : begunCount id (a ++ b) = begunCount id a + begunCount id b := by
  simp [begunCount, begunIds_append]

theorem begunCount_nil (id : Nat) : begunCount id [] = 0 := rfl

theorem Quiet.flatMap_begun {ss : List Step} (h : Quiet ss) : ss.flatMap Step.begun = [] :=
  List.flatMap_eq_nil_iff.mpr fun s hs => by
    have := h s hs
    cases s <;> first | rfl | cases this

theorem Quiet.begunCount {ss : List Step} (h : Quiet ss) (id : Nat) : begunCount id ss = 0 := by
  unfold EnvM.begunCount begunIds
  rw [h.flatMap_begun]; rfl

theorem handleWeight_begunIds (env : Env) (hooks : List Hook) (m : Moment) (w : Int) :
    begunIds (handleWeight env hooks m w).2.1 =
      ((hooks.filter (fun h => h.trig = m ∧ h.tw = w)).filter (fun h => !h.isTask)).map (·.id) ++
      ((hooks.filter (fun h => h.trig = m ∧ h.tw = w)).filter (fun h => h.isTask)).map (·.id) := by
  unfold begunIds
  rw [handleWeight_begun, List.map_append, phase1_insts, (instantiate_insts _ _).1]

theorem count_id_filter (hooks : List Hook) (h : Hook) (hmem : h ∈ hooks) (hU : (hooks.map (·.id)).Nodup) (P : Hook → Bool) :
    ((hooks.filter P).map (·.id)).count h.id = if P h then 1 else 0 := by
  rw [List.Nodup.count (List.Nodup.sublist (List.filter_sublist.map _) hU)]
  -- among the hooks that pass `P`, only `h` itself has `h`'s id
  have : h.id ∈ (hooks.filter P).map (·.id) ↔ P h = true := by
    refine ⟨fun hm => ?_, fun hp => List.mem_map_of_mem (List.mem_filter.mpr ⟨hmem, hp⟩)⟩
    obtain ⟨g, hg, hid⟩ := List.mem_map.mp hm
    exact List.inj_of_nodup_map hU (List.mem_filter.mp hg).1 hmem hid ▸ (List.mem_filter.mp hg).2
  simp only [this]

theorem handleWeight_begunCount (env : Env) (hooks : List Hook) (m : Moment) (w : Int) (h : Hook)
    (hmem : h ∈ hooks) (hU : (hooks.map (·.id)).Nodup) :
    begunCount h.id (handleWeight env hooks m w).2.1 = if h.trig = m ∧ h.tw = w then 1 else 0 := by
  unfold begunCount
  rw [handleWeight_begunIds, List.count_append, List.filter_filter, List.filter_filter,
    count_id_filter hooks h hmem hU, count_id_filter hooks h hmem hU]
  by_cases hp : h.trig = m ∧ h.tw = w <;> cases h.isTask <;> simp [hp]

theorem handleWeights_begunCount (env : Env) (hooks : List Hook) (m : Moment) (ws : List Int) (hasc : ws.Pairwise (· < ·)) (h : Hook)
    (hmem : h ∈ hooks) (hU : (hooks.map (·.id)).Nodup) :
    begunCount h.id (handleWeights env hooks m ws).2.1 ≤ (if h.trig = m ∧ h.tw ∈ ws then 1 else 0) ∧
    ((handleWeights env hooks m ws).2.2 = 0 →
      begunCount h.id (handleWeights env hooks m ws).2.1 = if h.trig = m ∧ h.tw ∈ ws then 1 else 0) := by
  induction ws generalizing env with
  | nil => simp [handleWeights, begunCount_nil]
  | cons w ws ih =>
    have hw := handleWeight_begunCount env hooks m w h hmem hU
    obtain ⟨ih1, ih2⟩ := ih (handleWeight env hooks m w).1 hasc.of_cons
    -- `w` is not among the weights after it: the trigger weight of `h` is `w` or one of those, not both
    have hsum : (if h.trig = m ∧ h.tw ∈ w :: ws then 1 else 0) =
        (if h.trig = m ∧ h.tw = w then 1 else 0) + (if h.trig = m ∧ h.tw ∈ ws then 1 else 0) := by
      have hnot : w ∉ ws := fun hin => Int.lt_irrefl w (List.rel_of_pairwise_cons hasc hin)
      by_cases h1 : h.tw = w
      · simp [h1, hnot]
      · simp [h1]
    simp only [handleWeights]
    split
    · rw [hsum, hw]
      exact ⟨Nat.le_add_right _ _, fun h0 => by omega⟩
    · simp only [begunCount_append, hw, hsum]
      exact ⟨by omega, fun h0 => by have := ih2 h0; omega⟩

theorem handleHooks_begunCount (env : Env) (hooks : List Hook) (m : Moment) (p : Int → Bool) (h : Hook)
    (hmem : h ∈ hooks) (hU : (hooks.map (·.id)).Nodup) :
    begunCount h.id (handleHooks env hooks m p).2.1 ≤ (if h.trig = m ∧ p h.tw = true then 1 else 0) ∧
    ((handleHooks env hooks m p).2.2 = 0 →
      begunCount h.id (handleHooks env hooks m p).2.1 = if h.trig = m ∧ p h.tw = true then 1 else 0) := by
  have hiff : (h.trig = m ∧ h.tw ∈ weightsFor env hooks m p) ↔ (h.trig = m ∧ p h.tw = true) :=
    and_congr_right fun ht => ⟨weightsFor_pred env hooks m p _, mem_weightsFor_of_trig env hooks m p h hmem ht⟩
  have := handleWeights_begunCount env hooks m _ (weightsFor_pairwise env hooks m p) h hmem hU
  simp only [hiff] at this
  exact this

theorem mem_begunIds {ss : List Step} {s : Step} {i : Inst} (hs : s ∈ ss) (hi : i ∈ s.begun) : i.hook ∈ begunIds ss :=
  List.mem_map.mpr ⟨i, List.mem_flatMap.mpr ⟨s, hs, hi⟩, rfl⟩

theorem handleHooks_begun_hook (env : Env) (hooks : List Hook) (m : Moment) (p : Int → Bool) :
    ∀ s ∈ (handleHooks env hooks m p).2.1, ∀ i ∈ s.begun, ∃ g ∈ hooks, g.id = i.hook ∧ g.trig = m ∧ p g.tw = true := by
  refine handleWeights_forall env hooks m _ _ fun env' _ w hw s hs i hi => ?_
  have hin := mem_begunIds hs hi
  rw [handleWeight_begunIds, List.mem_append] at hin
  rcases hin with hin | hin <;>
  · obtain ⟨g, hg, hgid⟩ := List.mem_map.mp hin
    obtain ⟨hg', hg3⟩ := List.mem_filter.mp (List.mem_filter.mp hg).1
    replace hg3 : g.trig = m ∧ g.tw = w := of_decide_eq_true hg3
    exact ⟨g, hg', hgid, hg3.1, by rw [hg3.2]; exact weightsFor_pred env hooks m p w hw⟩

theorem begunCount_mark (id : Nat) (n : String) (f : Bool) : begunCount id [Step.mark n f] = 0 := rfl

theorem neg_pos_exclusive (w : Int) : ¬ (negW w = true ∧ posW w = true) := by
  simp only [negW, posW, decide_eq_true_eq]; omega

theorem neg_or_pos (w : Int) : negW w = true ∨ posW w = true := by
  simp only [negW, posW, decide_eq_true_eq]; omega

theorem twoPass_begunCount (env1 env2 : Env) (hooks : List Hook) (m : Moment) (h : Hook)
    (hmem : h ∈ hooks) (hU : (hooks.map (·.id)).Nodup) :
    begunCount h.id (handleHooks env1 hooks m negW).2.1 + begunCount h.id (handleHooks env2 hooks m posW).2.1 ≤
      (if h.trig = m then 1 else 0) ∧
    ((handleHooks env1 hooks m negW).2.2 = 0 → (handleHooks env2 hooks m posW).2.2 = 0 →
      begunCount h.id (handleHooks env1 hooks m negW).2.1 + begunCount h.id (handleHooks env2 hooks m posW).2.1 =
        if h.trig = m then 1 else 0) := by
  obtain ⟨a1, a2⟩ := handleHooks_begunCount env1 hooks m negW h hmem hU
  obtain ⟨b1, b2⟩ := handleHooks_begunCount env2 hooks m posW h hmem hU
  -- the trigger weight of `h` belongs to exactly one of the two passes
  have hsum : (if h.trig = m ∧ negW h.tw = true then 1 else 0) + (if h.trig = m ∧ posW h.tw = true then 1 else 0) =
      if h.trig = m then 1 else 0 := by
    rcases neg_or_pos h.tw with hn | hp
    · have hp : ¬ posW h.tw = true := fun hp => neg_pos_exclusive h.tw ⟨hn, hp⟩
      simp [hn, hp]
    · have hn : ¬ negW h.tw = true := fun hn => neg_pos_exclusive h.tw ⟨hn, hp⟩
      simp [hn, hp]
  exact ⟨by omega, fun h1 h2 => by have := a2 h1; have := b2 h2; omega⟩

/-! What a callback begins is what its two passes begin, or — where it ends early — the beginning of that. -/

theorem beforeEvent_begun (env : Env) (hooks : List Hook) (e : Ev) (r : Bool) :
    (beforeEvent env hooks e r).2.1.flatMap Step.begun <+:
      (handleHooks env hooks (.before e) negW).2.1.flatMap Step.begun ++
      (handleHooks (bkBefore (handleHooks env hooks (.before e) negW).1 e r).1 hooks (.before e) posW).2.1.flatMap Step.begun := by
  have hb := (bkBefore_quiet (handleHooks env hooks (.before e) negW).1 e r).flatMap_begun
  obtain ⟨_, heq⟩ | ⟨_, _, heq⟩ | ⟨_, _, heq⟩ := beforeEvent_cases env hooks e r <;>
    simp only [heq, List.flatMap_append, List.flatMap_cons, List.flatMap_nil, Step.begun, hb, List.nil_append, List.append_nil]
  · exact List.prefix_append _ _
  · exact List.prefix_append _ _
  · exact List.prefix_refl _

theorem leaveState_begun (env : Env) (hooks : List Hook) (e : Ev) (b : Bool) :
    (leaveState env hooks e b).2.1.flatMap Step.begun <+:
      (handleHooks env hooks (.leave env.st) negW).2.1.flatMap Step.begun ++
      (handleHooks (bkLeave env.st (handleHooks env hooks (.leave env.st) negW).1 e).1 hooks (.leave env.st) posW).2.1.flatMap
        Step.begun := by
  have hb := (bkLeave_quiet env.st (handleHooks env hooks (.leave env.st) negW).1 e).flatMap_begun
  obtain ⟨_, heq⟩ | ⟨_, _, heq⟩ | ⟨_, _, heq⟩ := leaveState_cases env hooks e <;>
    simp only [heq, List.flatMap_append, List.flatMap_cons, List.flatMap_nil, Step.begun, hb, List.nil_append, List.append_nil]
  · exact List.prefix_append _ _
  · exact List.prefix_refl _
  · exact List.prefix_refl _

theorem enterState_begun (env : Env) (hooks : List Hook) :
    (enterState env hooks).2.1.flatMap Step.begun <+:
      (handleHooks env hooks (.enter env.st) negW).2.1.flatMap Step.begun ++
      (handleHooks (handleHooks env hooks (.enter env.st) negW).1 hooks (.enter env.st) posW).2.1.flatMap Step.begun := by
  simp only [enterState, List.flatMap_append, List.flatMap_cons, List.flatMap_nil, Step.begun, List.nil_append, List.append_nil]
  exact List.prefix_refl _

/-- `f`: whether the event has failed so far -/
theorem afterEvent_begun (env : Env) (hooks : List Hook) (e : Ev) (errs : List (Nat × Moment)) :
    ∃ f, (afterEvent env hooks e errs).2.1.flatMap Step.begun <+:
      (handleHooks env hooks (.after e) negW).2.1.flatMap Step.begun ++
      (handleHooks (bkAfter (handleHooks env hooks (.after e) negW).1 e f).1 hooks (.after e) posW).2.1.flatMap Step.begun := by
  refine ⟨!(if (handleHooks env hooks (.after e) negW).2.2 > 0 then [((handleHooks env hooks (.after e) negW).2.2, Moment.after e)]
    else errs).isEmpty, ?_⟩
  simp only [afterEvent, List.flatMap_append, List.flatMap_cons, List.flatMap_nil, Step.begun, (bkAfter_quiet _ _ _).flatMap_begun,
    (finAfter_quiet _ _).flatMap_begun, List.nil_append, List.append_nil]
  exact List.prefix_refl _

theorem begunCount_le_of_prefix {ss a b : List Step}
    (h : ss.flatMap Step.begun <+: a.flatMap Step.begun ++ b.flatMap Step.begun) (id : Nat) :
    begunCount id ss ≤ begunCount id a + begunCount id b := by
  have := (h.sublist.map (·.hook)).count_le id
  rw [List.map_append, List.count_append] at this
  exact this

/-- Exactly once when before_<event> lets the event go on: both passes ran and neither counted a critical failure. -/
theorem beforeEvent_begunCount (env : Env) (hooks : List Hook) (e : Ev) (r : Bool) (h : Hook)
    (hmem : h ∈ hooks) (hU : (hooks.map (·.id)).Nodup) (hn : (beforeEvent env hooks e r).2.2 = none) :
    begunCount h.id (beforeEvent env hooks e r).2.1 = if h.trig = .before e then 1 else 0 := by
  have h2 := (twoPass_begunCount env (bkBefore (handleHooks env hooks (.before e) negW).1 e r).1 hooks (.before e) h hmem hU).2
  have hb := (bkBefore_quiet (handleHooks env hooks (.before e) negW).1 e r).begunCount h.id
  obtain ⟨_, heq⟩ | ⟨_, _, heq⟩ | ⟨h0, _, heq⟩ := beforeEvent_cases env hooks e r <;> simp only [heq] at hn ⊢
  · cases hn
  · cases hn
  · simp only [begunCount_append, begunCount_mark, hb]
    have := h2 h0 (by split at hn; cases hn; omega)
    omega

theorem moments_exclusive (t : Moment) (e : Ev) (s d : St) :
    (if t = .before e then 1 else 0) + (if t = .leave s then 1 else 0) + (if t = .enter d then 1 else 0) +
      (if t = .after e then 1 else 0) ≤ 1 := by
  cases t <;> simp <;> split <;> omega

/-- The trigger moment of a hook occurs at most once in a transition (`Sm.Event`), and the two passes of that moment
    begin it once. -/
theorem fsmEvent_begunCount (env : Env) (hooks : List Hook) (e : Ev) (b r : Bool) (h : Hook)
    (hmem : h ∈ hooks) (hU : (hooks.map (·.id)).Nodup) :
    begunCount h.id (fsmEvent env hooks e b r).2.1 ≤ 1 := by
  have hb := Nat.le_trans (begunCount_le_of_prefix (beforeEvent_begun env hooks e r) h.id)
    (twoPass_begunCount _ _ hooks _ h hmem hU).1
  have hl := Nat.le_trans (begunCount_le_of_prefix (leaveState_begun (beforeEvent env hooks e r).1 hooks e b) h.id)
    (twoPass_begunCount _ _ hooks _ h hmem hU).1
  obtain ⟨_, heq⟩ | ⟨d, _, ⟨_, _, heq⟩ | ⟨_, _, _, heq⟩ | ⟨_, _, heq⟩⟩ := fsmEvent_cases env hooks e b r <;>
    simp only [heq, begunCount_append, begunCount_nil]
  · exact Nat.zero_le 1
  · split at hb <;> omega
  · have hex := moments_exclusive h.trig e (beforeEvent env hooks e r).1.st d
    omega
  · have hen := Nat.le_trans (begunCount_le_of_prefix
      (enterState_begun { (leaveState (beforeEvent env hooks e r).1 hooks e b).1 with st := d } hooks) h.id)
      (twoPass_begunCount _ _ hooks _ h hmem hU).1
    obtain ⟨f, hf⟩ := afterEvent_begun (enterState { (leaveState (beforeEvent env hooks e r).1 hooks e b).1 with st := d } hooks).1 hooks e
      (enterState { (leaveState (beforeEvent env hooks e r).1 hooks e b).1 with st := d } hooks).2.2
    have haf := Nat.le_trans (begunCount_le_of_prefix hf h.id) (twoPass_begunCount _ _ hooks _ h hmem hU).1
    have hex := moments_exclusive h.trig e (beforeEvent env hooks e r).1.st d
    have hs : begunCount h.id [Step.setState d] = 0 := rfl
    simp only [hs] at hen haf ⊢
    omega

theorem begun_in_pass (env : Env) (hooks : List Hook) (m : Moment) (p : Int → Bool) (h : Hook)
    (hmem : h ∈ hooks) (hU : (hooks.map (·.id)).Nodup) (s : Step) (hs : s ∈ (handleHooks env hooks m p).2.1)
    (i : Inst) (hi : i ∈ s.begun) (hid : i.hook = h.id) : h.trig = m ∧ p h.tw = true := by
  obtain ⟨g, hg, hgid, hgt, hgp⟩ := handleHooks_begun_hook env hooks m p s hs i hi
  obtain rfl : g = h := List.inj_of_nodup_map hU hg hmem (hgid.trans hid)
  exact ⟨hgt, hgp⟩

/-- A hook of non-negative weight is begun by the second pass of its moment only: it is handed the variables that pass
    started from, those the bookkeeping between the passes left. `hp`: what a callback says of its steps `ss`. -/
theorem nonneg_snap {ss : List Step} {env1 env2 : Env} {hooks : List Hook} {m : Moment}
    (hp : ss.flatMap Step.begun <+: (handleHooks env1 hooks m negW).2.1.flatMap Step.begun ++
      (handleHooks env2 hooks m posW).2.1.flatMap Step.begun)
    (h : Hook) (hmem : h ∈ hooks) (hU : (hooks.map (·.id)).Nodup) (hw : h.tw ≥ 0)
    (s : Step) (hs : s ∈ ss) (i : Inst) (hi : i ∈ s.begun) (hid : i.hook = h.id) : i.snap = env2.vars := by
  rcases List.mem_append.mp (hp.subset (List.mem_flatMap.mpr ⟨s, hs, hi⟩)) with h' | h' <;>
    obtain ⟨s', hs', hi'⟩ := List.mem_flatMap.mp h'
  · have := (begun_in_pass env1 hooks m negW h hmem hU s' hs' i hi' hid).2
    simp only [negW, decide_eq_true_eq] at this
    omega
  · exact handleHooks_begun_snap env2 hooks m posW s' hs' i hi'

end EnvM
