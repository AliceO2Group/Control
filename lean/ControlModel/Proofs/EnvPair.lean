/-
  Proofs/EnvPair — the overlapping pairs the harness issues, on the concurrent layer (Model/EnvConc).

  A pair `(P a b)`: two callers; both have looked the environment up, caller 0 (`a`: a transition through
  TryTransition or a teardown — one critical section) has taken the mutex, caller 1 (`b`: any request) wants
  it. From there the only freedom a schedule has is to pick moves that are not enabled: until caller 0
  releases nothing moves, afterwards only caller 1 does, and the steps of a caller's own program do not change
  the environment it will leave when it is done (`Caller.outcome`) — which before its request is the one
  `stepHeld` computes. So `runPar` (the model the trace monitor compares the real code with) is the outcome of
  all schedules of the concurrent layer, not of a chosen one.
-/
import ControlModel.Proofs.Env
import ControlModel.Proofs.EnvConc

namespace EnvM

def Req.isControl : Req → Bool
  | .control .. => true
  | _ => false

def Pc.isDone : Pc → Bool
  | .done => true
  | _ => false

def Sys.allDone (s : Sys) : Bool := s.callers.all (·.pc.isDone)

/-- the environment left by what the glue still has in front of it after a failed request -/
def pendingOutcome (hooks : List Hook) : Option Piece → Env → Env
  | some .goError, env =>
    let g := tryTransition env hooks .GO_ERROR true false
    if g.2.2.isOk || g.1.st == .DONE then g.1 else { g.1 with st := .ERROR }
  | some .check, env => if env.st = .DONE then env else { env with st := .ERROR }
  | some .force, env => { env with st := .ERROR }
  | _, env => env

/-- The environment caller `c` leaves when it is done, if from `env` on nobody else moves. For a caller that
    has not run yet this is by definition what the sequential model says (`stepHeld`); that its own steps do not
    change it (`Caller.Quiet.outcome`, `Caller.Runs.outcome`) is the content. -/
def Caller.outcome (hooks : List Hook) (n : Nat) (c : Caller) (env : Env) : Env :=
  match c.pc with
  | .arrive => (stepHeld hooks n (!env.gone) env c.req).1
  | .start => (stepHeld hooks n c.listed env c.req).1
  | pc => pendingOutcome hooks pc.pending env

theorem Caller.Quiet.outcome {hooks : List Hook} {n : Nat} {env : Env} {c c' : Caller} (h : c.Quiet env c') :
    c'.outcome hooks n env = c.outcome hooks n env := by
  cases h with
  | arrive hpc => simp only [Caller.outcome, hpc]
  | release next hpc => cases next <;> simp only [Caller.outcome, hpc, Pc.released, Pc.pending]
  | check hpc =>
    by_cases hd : env.st = .DONE <;> simp only [Caller.outcome, hpc, hd, if_true, if_false, Pc.pending, pendingOutcome]

/-- The request's own critical section and what follows it make `stepHeld`: for a request through the glue the
    critical section is the requested transition, and `controlApi` goes on as the pending pieces do. -/
theorem runLocked_outcome (hooks : List Hook) (n : Nat) (listed : Bool) (env : Env) (q : Req) :
    pendingOutcome hooks (q.next (runLocked hooks n listed env q).2) (runLocked hooks n listed env q).1 =
      (stepHeld hooks n listed env q).1 := by
  cases q with
  | try_ e b r => rfl
  | teardown f r1 r2 => cases listed <;> rfl
  | control e b r =>
    cases listed with
    | false => rfl
    | true =>
      show pendingOutcome hooks
          (if (tryTransition env hooks e b r).2.2.isOk || (tryTransition env hooks e b r).2.2 == .notFound then none
            else some .goError)
          (tryTransition env hooks e b r).1 = (controlApi env hooks e b r).1
      rw [controlApi, beq_false_of_ne (tryTransition_not_notFound env hooks e b r), Bool.or_false]
      cases (tryTransition env hooks e b r).2.2.isOk with
      | true => rfl
      | false => simp only [Bool.false_eq_true, if_false, pendingOutcome, apply_ite Prod.fst]

theorem Caller.Runs.outcome {hooks : List Hook} {n i : Nat} {env : Env} {c c' : Caller} {x : LogEntry}
    (h : c.Runs hooks n i env c' x) : c'.outcome hooks n x.after = c.outcome hooks n env := by
  cases h with
  | request hpc => simp only [Caller.outcome, hpc, Pc.pending, runLocked_outcome]
  | goError hpc =>
    simp only [Caller.outcome, hpc, Pc.pending, pendingOutcome]
    cases (tryTransition env hooks .GO_ERROR true false).2.2.isOk with
    | true => rfl
    | false => simp only [Bool.false_eq_true, if_false, Bool.false_or, beq_iff_eq]
  | force hpc => simp only [Caller.outcome, hpc, Pc.pending, pendingOutcome]

/-- The pair as the harness arranges it: both callers look the environment up, caller 0 takes the mutex. -/
def pairStart (hooks : List Hook) (n : Nat) (env : Env) (a b : Req) : Sys :=
  runSched hooks n (initSys env [a, b]) [0, 1, 0]

theorem pairStart_eq (hooks : List Hook) (n : Nat) (env : Env) (a b : Req) (ha : a.isControl = false) :
    pairStart hooks n env a b =
      { env := (runLocked hooks n (!env.gone) env a).1,
        callers := [{ req := a, pc := .holding none, listed := !env.gone }, { req := b, pc := .start, listed := !env.gone }],
        log := [{ caller := 0, piece := .locked a, before := env, after := (runLocked hooks n (!env.gone) env a).1,
                  result := (runLocked hooks n (!env.gone) env a).2 }] } := by
  cases a with
  | control => cases ha
  | try_ => rfl
  | teardown => rfl

theorem runLocked_eq_step (hooks : List Hook) (n : Nat) (env : Env) (a : Req) (ha : a.isControl = false) :
    (runLocked hooks n (!env.gone) env a).1 = (step hooks n env a).1 := by
  cases a with
  | control => cases ha
  | try_ e b r => rfl
  | teardown f r1 r2 => rw [runLocked, step, Bool.not_not]; split <;> rfl

theorem move_pairStart (hooks : List Hook) (n : Nat) (env : Env) (a b : Req) (ha : a.isControl = false)
    (i : Nat) (hi : i ≠ 0) : move hooks n (pairStart hooks n env a b) i = pairStart hooks n env a b := by
  rw [pairStart_eq hooks n env a b ha]
  match i, hi with
  | 1, _ => rfl
  | _ + 2, _ => rfl

/-- The pair on its way: caller 0 is still inside; or it is done, and caller 1 — the only one left to move —
    will leave the environment the sequential model says. -/
def PairInv (hooks : List Hook) (n : Nat) (env : Env) (a b : Req) (s : Sys) : Prop :=
  s = pairStart hooks n env a b ∨
  ∃ c0 c1, s.callers = [c0, c1] ∧ c0.pc = .done ∧
    c1.outcome hooks n s.env = (stepHeld hooks n (!env.gone) (step hooks n env a).1 b).1

theorem pairInv_move (hooks : List Hook) (n : Nat) (env : Env) (a b : Req) (ha : a.isControl = false) (s : Sys) (i : Nat)
    (h : PairInv hooks n env a b s) : PairInv hooks n env a b (move hooks n s i) := by
  rcases h with rfl | ⟨c0, c1, hcs, hpc0, hout⟩
  · match i with
    | 0 =>
      -- caller 0 releases: caller 1 stands before its request, on what caller 0 left
      refine .inr ⟨{ req := a, pc := .done, listed := !env.gone }, { req := b, pc := .start, listed := !env.gone }, ?_, rfl, ?_⟩
      · rw [pairStart_eq hooks n env a b ha]; rfl
      · rw [pairStart_eq hooks n env a b ha]
        show (stepHeld hooks n (!env.gone) (runLocked hooks n (!env.gone) env a).1 b).1 = _
        rw [runLocked_eq_step hooks n env a ha]
    | k + 1 => exact .inl (move_pairStart hooks n env a b ha _ (Nat.succ_ne_zero k))
  · match i with
    | 0 => rw [move_done (c := c0) (by rw [hcs]; rfl) hpc0]; exact .inr ⟨c0, c1, hcs, hpc0, hout⟩
    | k + 2 => rw [move_none (by rw [hcs]; rfl)]; exact .inr ⟨c0, c1, hcs, hpc0, hout⟩
    | 1 =>
      rcases move_cases hooks n s 1 with hm | ⟨c, c', hc, hq, hm⟩ | ⟨c, c', x, hc, hr, _, hm⟩ <;> rw [hm]
      · exact .inr ⟨c0, c1, hcs, hpc0, hout⟩
      · rw [hcs] at hc; cases hc
        exact .inr ⟨c0, c', by rw [hcs]; rfl, hpc0, hq.outcome.trans hout⟩
      · rw [hcs] at hc; cases hc
        exact .inr ⟨c0, c', by rw [hcs]; rfl, hpc0, hr.outcome.trans hout⟩

end EnvM
