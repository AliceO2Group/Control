/-
  Proofs/EnvPhase — the task phase of a transition lies inside its critical section (Model/EnvPhase):
  for the code as it is (`codePhaseCfg`), under every schedule, at most one task phase is open, its
  caller holds the mutex, every answer of the tasks is received by the transition that asked, and the
  callers' system is one that Model/EnvConc reaches by a schedule of its own (so `C01_mutex`, `C01_serial`,
  `C01_pieces_atomic` speak about transitions with task phases too).
-/
import ControlModel.Model.EnvPhase
import ControlModel.Proofs.EnvConc

namespace EnvM

theorem isHoldingAt_move_ne (hooks : List Hook) (n : Nat) (s : Sys) (i j : Nat) (h : j ≠ i) :
    isHoldingAt (move hooks n s i) j = isHoldingAt s j := by
  simp only [isHoldingAt, move_callers_ne hooks n s i j h]

theorem isHoldingAt_iff (s : Sys) (i : Nat) :
    isHoldingAt s i = true ↔ ∃ c, s.callers[i]? = some c ∧ c.isHolding = true := by
  unfold isHoldingAt
  cases h : s.callers[i]? with
  | none => simp
  | some c => simp

theorem holding_unique {s : Sys} (h : AtMostOne s.callers) {i j : Nat} (hi : isHoldingAt s i = true)
    (hj : isHoldingAt s j = true) : i = j := by
  obtain ⟨ci, hci, hhi⟩ := (isHoldingAt_iff _ _).mp hi
  obtain ⟨cj, hcj, hhj⟩ := (isHoldingAt_iff _ _).mp hj
  exact h i j ci cj hci hcj hhi hhj

theorem pmove_caller_cases (cfg : PhaseCfg) (hooks : List Hook) (n : Nat) (ps : PSys) (i : Nat) :
    pmove cfg hooks n ps (.caller i) = ps ∨
    (¬(isHoldingAt ps.sys i = true ∧ i ∈ ps.waiting)) ∧
      (pmove cfg hooks n ps (.caller i) = { ps with sys := move hooks n ps.sys i } ∨
        (isHoldingAt ps.sys i = false ∧ isHoldingAt (move hooks n ps.sys i) i = true ∧
          pmove cfg hooks n ps (.caller i) =
            { ps with sys := move hooks n ps.sys i, waiting := ps.waiting ++ [i], unanswered := ps.unanswered ++ [i] })) := by
  rw [pmove, isHoldingAt]
  cases ps.sys.callers[i]? with
  | none => exact .inl rfl
  | some c =>
    by_cases hb : (c.isHolding && ps.waiting.contains i) = true
    · exact .inl (if_pos hb)
    · refine .inr ⟨fun h => hb (by simp [h.1, h.2]), ?_⟩
      dsimp only
      rw [if_neg hb]
      split
      · rename_i ht
        simp only [Bool.and_eq_true, Bool.not_eq_true'] at ht
        exact .inr ⟨ht.1.1, ht.1.2, rfl⟩
      · exact .inl rfl

/-- The open task phase's caller holds the mutex (`open_`), so it is the one `do` waiting and gets the answer. -/
structure PhaseInv (hooks : List Hook) (n : Nat) (e0 : Env) (ps : PSys) : Prop where
  conc : ConcInv hooks n e0 ps.sys
  same : ps.waiting = ps.unanswered
  open_ : ps.waiting = [] ∨ ∃ j, ps.waiting = [j] ∧ isHoldingAt ps.sys j = true
  cons : ∀ p ∈ ps.consumed, p.1 = p.2

theorem phaseInv_init (hooks : List Hook) (n : Nat) (env : Env) (reqs : List Req) :
    PhaseInv hooks n env (initPSys env reqs) :=
  ⟨concInv_init hooks n env reqs, rfl, Or.inl rfl, fun _ hp => nomatch hp⟩

theorem phaseInv_move (hooks : List Hook) (n : Nat) (e0 : Env) (ps : PSys) (m : PMove)
    (h : PhaseInv hooks n e0 ps) : PhaseInv hooks n e0 (pmove codePhaseCfg hooks n ps m) := by
  cases m with
  | caller i =>
    have hconc' := concInv_move hooks n e0 ps.sys i h.conc
    rcases pmove_caller_cases codePhaseCfg hooks n ps i with hm | ⟨hfree, hm | ⟨hnh, hnow, hm⟩⟩ <;> rw [hm]
    · exact h
    · -- a move that opens no task phase: the caller of the open one, if any, is somebody else and stays inside
      refine ⟨hconc', h.same, ?_, h.cons⟩
      rcases h.open_ with hw | ⟨j, hw, hj⟩
      · exact .inl hw
      · have hij : j ≠ i := fun hji => hfree (hji ▸ ⟨hj, hw ▸ List.mem_singleton_self j⟩)
        exact .inr ⟨j, hw, (isHoldingAt_move_ne hooks n ps.sys i j hij).trans hj⟩
    · -- the caller took the mutex for a piece with a task phase: nobody was inside, so none was open
      refine ⟨hconc', congrArg (· ++ [i]) h.same, ?_, h.cons⟩
      rcases h.open_ with hw | ⟨j, hw, hj⟩
      · exact .inr ⟨i, congrArg (· ++ [i]) hw, hnow⟩
      · have hij : j ≠ i := fun hji => by rw [hji, hnh] at hj; cases hj
        exact absurd (holding_unique hconc'.mutex ((isHoldingAt_move_ne hooks n ps.sys i j hij).trans hj) hnow) hij
  | answer i =>
    rw [pmove]
    split
    · rename_i hin
      split
      · exact h
      · rename_i w ws hws
        rcases h.open_ with hw | ⟨j, hw, hj⟩
        · rw [hw] at hws; cases hws
        · -- one command is unanswered and one `do` waits: its own
          rw [hw] at hws; cases hws
          have hu : ps.unanswered = [w] := h.same ▸ hw
          have hiw : i = w := by rw [hu] at hin; simpa using hin
          subst hiw
          refine ⟨h.conc, by rw [hu]; simp, .inl rfl, fun p hp => ?_⟩
          rcases List.mem_append.mp hp with hp | hp
          · exact h.cons p hp
          · cases List.mem_singleton.mp hp; rfl
    · exact h
  | giveUp i => exact h

theorem phaseInv_run (hooks : List Hook) (n : Nat) (e0 : Env) (ps : PSys) (sched : List PMove)
    (h : PhaseInv hooks n e0 ps) : PhaseInv hooks n e0 (runPhases codePhaseCfg hooks n ps sched) :=
  List.foldlRecOn sched _ h fun ps hps m _ => phaseInv_move hooks n e0 ps m hps

theorem pmove_sys (cfg : PhaseCfg) (hooks : List Hook) (n : Nat) (ps : PSys) (m : PMove) :
    (pmove cfg hooks n ps m).sys = ps.sys ∨ ∃ i, (pmove cfg hooks n ps m).sys = move hooks n ps.sys i := by
  fun_cases pmove cfg hooks n ps m with
  | case1 | case2 | case5 | case6 | case7 | case9 => exact .inl rfl
  | case3 i | case4 i | case8 i => exact .inr ⟨i, rfl⟩

theorem runPhases_sys (cfg : PhaseCfg) (hooks : List Hook) (n : Nat) (ps : PSys) (sched : List PMove) :
    ∃ sched' : List Nat, (runPhases cfg hooks n ps sched).sys = runSched hooks n ps.sys sched' := by
  induction sched generalizing ps with
  | nil => exact ⟨[], rfl⟩
  | cons m rest ih =>
    obtain ⟨s1, h1⟩ := ih (pmove cfg hooks n ps m)
    rcases pmove_sys cfg hooks n ps m with h | ⟨i, h⟩
    · exact ⟨s1, h1.trans (congrArg (runSched hooks n · s1) h)⟩
    · exact ⟨i :: s1, h1.trans (congrArg (runSched hooks n · s1) h)⟩

end EnvM
