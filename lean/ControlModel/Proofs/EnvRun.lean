/-
  Proofs/EnvRun — run number and run timestamps: what identifies a run to a hook (`runKey`) is left alone outside
  START_ACTIVITY and the end of STOP_ACTIVITY; a hook begun in a pass is handed the variables the pass started from;
  every writer of an end-of-run stamp but before_START_ACTIVITY only advances it (`EndAdvances`: unchanged, or from
  empty to set), none removes it (`EndPresent`), and a request that ends a run (`EndsRun`) leaves both set (`EndSet`)
  unless the glue forced the state (`forcedByGlue`); what leave_<state> does with the body's outcome, and what a
  START_ACTIVITY cancelled by its body leaves behind.
-/
import ControlModel.Proofs.Env
import ControlModel.Spec.C10

namespace EnvM

/-- the two variables that identify a run to a hook -/
def runKey (env : Env) : Option Nat × TV := (env.vars.rnVar, env.vars.sosor)

theorem handleHooks_runKey (env : Env) (hooks : List Hook) (m : Moment) (p : Int → Bool) :
    runKey (handleHooks env hooks m p).1 = runKey env := by
  unfold runKey; rw [handleHooks_vars]

theorem setSoeor_runKey (env : Env) (tr : String) (p : Bool) : runKey (setSoeorIfEmpty env tr p).1 = runKey env := by
  unfold setSoeorIfEmpty; split <;> rfl

theorem setEoeor_runKey (env : Env) (tr : String) (s : RunStatus) : runKey (setEoeorIfEmpty env tr s).1 = runKey env := by
  unfold setEoeorIfEmpty; split <;> rfl

theorem bkBefore_runKey (env : Env) (e : Ev) (r : Bool) (he : e ≠ .START_ACTIVITY) :
    runKey (bkBefore env e r).1 = runKey env := by
  cases e with
  | START_ACTIVITY => exact absurd rfl he
  | STOP_ACTIVITY | GO_ERROR => exact setSoeor_runKey ..
  | _ => rfl

theorem bkAfter_runKey (env : Env) (e : Ev) (f : Bool) : runKey (bkAfter env e f).1 = runKey env := by
  cases e with
  | STOP_ACTIVITY | GO_ERROR => exact setEoeor_runKey ..
  | _ => rfl

theorem finAfter_runKey (env : Env) (e : Ev) (he : e ≠ .STOP_ACTIVITY) : runKey (finAfter env e).1 = runKey env := by
  unfold finAfter; rw [if_neg he]

theorem fsmEvent_runKey (env : Env) (hooks : List Hook) (e : Ev) (b r : Bool)
    (h1 : e ≠ .START_ACTIVITY) (h2 : e ≠ .STOP_ACTIVITY) :
    runKey (fsmEvent env hooks e b r).1 = runKey env :=
  (Respects.ofVars (hooks := hooks) (P := fun v v' => (v'.rnVar, v'.sosor) = (v.rnVar, v.sosor))
    (fun _ => rfl) (fun h h' => h'.trans h) (fun a r => bkBefore_runKey a e r h1) (fun a => setSoeor_runKey a _ _)
    (fun a f => bkAfter_runKey a e f) (fun a => finAfter_runKey a e h2)).fsmEvent env b r

/-- Only `finAfter`, the very last thing after_STOP_ACTIVITY does, retires the number. -/
theorem stop_runKey_until_fin (env : Env) (hooks : List Hook) (errs : List (Nat × Moment)) :
    runKey (handleHooks (bkAfter (handleHooks env hooks (.after .STOP_ACTIVITY) negW).1 .STOP_ACTIVITY (!errs.isEmpty)).1
      hooks (.after .STOP_ACTIVITY) posW).1 = runKey env := by
  rw [handleHooks_runKey, bkAfter_runKey, handleHooks_runKey]

theorem instantiate_snap (env : Env) (hs : List Hook) : ∀ i ∈ (instantiate env hs).2, i.snap = env.vars := by
  fun_induction instantiate env hs with
  | case1 => intro i hi; cases hi
  | case2 env h hs i r ih =>
    intro j hj
    rcases List.mem_cons.mp hj with rfl | hj
    · rfl
    · exact ih j hj

/-- instances a step starts (calls) or runs (task hooks) -/
def Step.begun : Step → List Inst
  | .start _ _ is | .tasks _ _ is => is
  | .callSync _ _ i => [i]
  | _ => []

theorem handleWeight_begun (env : Env) (hooks : List Hook) (m : Moment) (w : Int) :
    (handleWeight env hooks m w).2.1.flatMap Step.begun =
      (phase1 env hooks m w).2 ++ (instantiate (phase2 (phase1 env hooks m w).1 m w).1
        ((hooks.filter (fun h => h.trig = m ∧ h.tw = w)).filter (fun h => h.isTask))).2 := by
  have hstart (is : List Inst) : (if is.isEmpty then [] else [Step.start m w is]).flatMap Step.begun = is := by
    cases is <;> simp [Step.begun]
  have hawait (is : List Inst) : (if is.isEmpty then [] else [Step.await m w is]).flatMap Step.begun = [] := by
    cases is <;> simp [Step.begun]
  have htasks (env' : Env) (ts : List Hook) :
      (if ts.isEmpty then [] else [Step.tasks m w (instantiate env' ts).2]).flatMap Step.begun = (instantiate env' ts).2 := by
    cases ts <;> simp [Step.begun, instantiate]
  unfold handleWeight
  simp only [List.flatMap_append, hstart, hawait, htasks, List.append_nil]

theorem handleWeight_begun_snap (env : Env) (hooks : List Hook) (m : Moment) (w : Int) :
    ∀ s ∈ (handleWeight env hooks m w).2.1, ∀ i ∈ s.begun, i.snap = env.vars := by
  intro s hs i hi
  have hmem : i ∈ (handleWeight env hooks m w).2.1.flatMap Step.begun := List.mem_flatMap.mpr ⟨s, hs, hi⟩
  rw [handleWeight_begun, List.mem_append] at hmem
  rcases hmem with h | h
  · exact instantiate_snap env _ i h
  · rw [instantiate_snap _ _ i h]
    exact (congrArg Core.vars (phase2_core _ m w)).trans (congrArg Core.vars (phase1_core env hooks m w))

theorem handleHooks_begun_snap (env : Env) (hooks : List Hook) (m : Moment) (p : Int → Bool) :
    ∀ s ∈ (handleHooks env hooks m p).2.1, ∀ i ∈ s.begun, i.snap = env.vars :=
  handleWeights_forall env hooks m _ _ fun env' he w _ s hs i hi =>
    (handleWeight_begun_snap env' hooks m w s hs i hi).trans (congrArg Core.vars he)

theorem bkBefore_START (env : Env) :
    (bkBefore env .START_ACTIVITY false).2.2 = false ∧
    (bkBefore env .START_ACTIVITY false).1.rn = env.counter + 1 ∧
    (bkBefore env .START_ACTIVITY false).1.counter = env.counter + 1 ∧
    (bkBefore env .START_ACTIVITY false).1.vars.rnVar = some (env.counter + 1) ∧
    (bkBefore env .START_ACTIVITY false).1.vars.sosor = .val (env.clock + 1) ∧
    (bkBefore env .START_ACTIVITY false).1.vars.eosor = .empty ∧
    (bkBefore env .START_ACTIVITY false).1.vars.soeor = .empty ∧
    (bkBefore env .START_ACTIVITY false).1.vars.eoeor = .empty :=
  ⟨rfl, rfl, rfl, rfl, rfl, rfl, rfl, rfl⟩

theorem finAfter_STOP (env : Env) :
    (finAfter env .STOP_ACTIVITY).1.rn = 0 ∧ (finAfter env .STOP_ACTIVITY).1.vars.rnVar = none ∧
    (finAfter env .STOP_ACTIVITY).1.vars.lastRn = some env.rn :=
  ⟨rfl, rfl, rfl⟩

def TV.keeps (a b : TV) : Prop := (a ≠ .absent → b ≠ .absent) ∧ (a.isVal = true → b.isVal = true)

def EndKeeps (v v' : Vars) : Prop := TV.keeps v.soeor v'.soeor ∧ TV.keeps v.eoeor v'.eoeor

/-- both end-of-run stamps are there (set, or present and empty), as they are from the first START_ACTIVITY on -/
def EndPresent (v : Vars) : Prop := v.soeor ≠ .absent ∧ v.eoeor ≠ .absent

def EndSet (v : Vars) : Prop := v.soeor.isVal = true ∧ v.eoeor.isVal = true

theorem EndKeeps.present {a b : Vars} (h : EndKeeps a b) (hp : EndPresent a) : EndPresent b := ⟨h.1.1 hp.1, h.2.1 hp.2⟩

theorem EndKeeps.soeor_set {a b : Vars} (h : EndKeeps a b) (hs : a.soeor.isVal = true) : b.soeor.isVal = true := h.1.2 hs
theorem EndKeeps.eoeor_present {a b : Vars} (h : EndKeeps a b) (hp : a.eoeor ≠ .absent) : b.eoeor ≠ .absent := h.2.1 hp
theorem EndKeeps.eoeor_set {a b : Vars} (h : EndKeeps a b) (hs : a.eoeor.isVal = true) : b.eoeor.isVal = true := h.2.2 hs

/-- A stamp is left as it is, or it was present and empty and is now set: what every writer of an end-of-run stamp
    other than before_START_ACTIVITY does to it. -/
def TV.advances (a b : TV) : Prop := b = a ∨ (a = .empty ∧ b.isVal = true)

theorem TV.advances.trans {a b c : TV} (h1 : TV.advances a b) (h2 : TV.advances b c) : TV.advances a c := by
  rcases h1 with rfl | ⟨ha, hb⟩
  · exact h2
  · rcases h2 with rfl | ⟨hb', _⟩
    · exact Or.inr ⟨ha, hb⟩
    · rw [hb'] at hb; cases hb

theorem TV.advances.keeps {a b : TV} (h : TV.advances a b) : TV.keeps a b := by
  rcases h with rfl | ⟨rfl, hb⟩
  · exact ⟨id, id⟩
  · exact ⟨fun _ hab => (by rw [hab] at hb; cases hb), fun _ => hb⟩

theorem TV.advances.fixed {a b : TV} (h : TV.advances a b) (t : Nat) (ha : a = .val t) : b = .val t := by
  rcases h with rfl | ⟨he, _⟩
  · exact ha
  · rw [ha] at he; cases he

def EndAdvances (v v' : Vars) : Prop := TV.advances v.soeor v'.soeor ∧ TV.advances v.eoeor v'.eoeor

theorem EndAdvances.refl (v : Vars) : EndAdvances v v := ⟨Or.inl rfl, Or.inl rfl⟩
theorem EndAdvances.trans {a b c : Vars} (h1 : EndAdvances a b) (h2 : EndAdvances b c) : EndAdvances a c :=
  ⟨h1.1.trans h2.1, h1.2.trans h2.2⟩
theorem EndAdvances.keeps {a b : Vars} (h : EndAdvances a b) : EndKeeps a b := ⟨h.1.keeps, h.2.keeps⟩

theorem TV.eq_empty_of_isEmpty {a : TV} (h : a.isEmpty = true) : a = .empty := by
  cases a <;> first | rfl | cases h

theorem setSoeor_advances (env : Env) (tr : String) (p : Bool) : EndAdvances env.vars (setSoeorIfEmpty env tr p).1.vars := by
  unfold setSoeorIfEmpty
  split
  · rename_i h; exact ⟨Or.inr ⟨TV.eq_empty_of_isEmpty h, rfl⟩, Or.inl rfl⟩
  · exact EndAdvances.refl _

theorem setEoeor_advances (env : Env) (tr : String) (s : RunStatus) : EndAdvances env.vars (setEoeorIfEmpty env tr s).1.vars := by
  unfold setEoeorIfEmpty
  split
  · rename_i h; exact ⟨Or.inl rfl, Or.inr ⟨TV.eq_empty_of_isEmpty h, rfl⟩⟩
  · exact EndAdvances.refl _

theorem bkBefore_advances (env : Env) (e : Ev) (r : Bool) (he : e ≠ .START_ACTIVITY) :
    EndAdvances env.vars (bkBefore env e r).1.vars := by
  cases e with
  | START_ACTIVITY => exact absurd rfl he
  | STOP_ACTIVITY | GO_ERROR => exact setSoeor_advances ..
  | _ => exact EndAdvances.refl _

/-- Every branch of after_event's bookkeeping advances the end stamps: START_ACTIVITY writes the start-completion
    stamp only, STOP_ACTIVITY and GO_ERROR go through the guarded writer. (False of `bkAfterLegacy`.) -/
theorem bkAfter_advances (env : Env) (e : Ev) (f : Bool) : EndAdvances env.vars (bkAfter env e f).1.vars := by
  cases e with
  | STOP_ACTIVITY | GO_ERROR => exact setEoeor_advances ..
  | _ => exact EndAdvances.refl _

theorem finAfter_advances (env : Env) (e : Ev) : EndAdvances env.vars (finAfter env e).1.vars := by
  unfold finAfter; split <;> exact EndAdvances.refl _

theorem endAdvances_respects (hooks : List Hook) {e : Ev} (he : e ≠ .START_ACTIVITY) :
    Respects hooks e (fun a b => EndAdvances a.vars b.vars) :=
  Respects.ofVars EndAdvances.refl EndAdvances.trans (fun a r => bkBefore_advances a e r he) (fun a => setSoeor_advances a _ _)
    (fun a f => bkAfter_advances a e f) (fun a => finAfter_advances a e)

theorem fsmEvent_advances (env : Env) (hooks : List Hook) (e : Ev) (b r : Bool) (he : e ≠ .START_ACTIVITY) :
    EndAdvances env.vars (fsmEvent env hooks e b r).1.vars :=
  (endAdvances_respects hooks he).fsmEvent env b r

theorem bkBefore_present (env : Env) (e : Ev) (r : Bool) (hp : EndPresent env.vars) : EndPresent (bkBefore env e r).1.vars := by
  by_cases he : e = .START_ACTIVITY
  · subst he
    cases r
    · exact ⟨TV.noConfusion, TV.noConfusion⟩
    · exact hp
  · exact (bkBefore_advances env e r he).keeps.present hp

theorem fsmEvent_present (env : Env) (hooks : List Hook) (e : Ev) (b r : Bool) (hp : EndPresent env.vars) :
    EndPresent (fsmEvent env hooks e b r).1.vars :=
  (Respects.ofVars (hooks := hooks) (P := fun v v' => EndPresent v → EndPresent v') (fun _ => id) (fun h h' => h' ∘ h)
    (fun a r => bkBefore_present a e r) (fun a => (setSoeor_advances a _ _).keeps.present)
    (fun a f => (bkAfter_advances a e f).keeps.present) (fun a => (finAfter_advances a e).keeps.present)).fsmEvent env b r hp

theorem tdStamp_advances (env : Env) : EndAdvances env.vars (tdStamp env).1.vars := by
  unfold tdStamp; split
  · exact (setSoeor_advances _ _ _).trans (setEoeor_advances _ _ _)
  · exact EndAdvances.refl _

theorem teardown_advances (env : Env) (hooks : List Hook) (f r1 r2 : Bool) (n : Nat) :
    EndAdvances env.vars (teardown env hooks f r1 r2 n).1.vars := by
  -- however far it gets, the variables are those its stamping left
  have hts : EndAdvances env.vars (tdStamp (handleHooks env hooks (.leave env.st) allW).1).1.vars := by
    rw [← handleHooks_vars env hooks (.leave env.st) allW]; exact tdStamp_advances _
  obtain heq | heq | heq | ⟨_, heq⟩ := teardown_cases env hooks f r1 r2 n <;> simp only [heq, destroyWeights_vars]
  · exact EndAdvances.refl _
  all_goals exact hts

/-- Through the API glue too: the fallback GO_ERROR is not a START_ACTIVITY, and the forced write touches the
    state only. -/
theorem controlApi_advances (env : Env) (hooks : List Hook) (e : Ev) (b r : Bool) (he : e ≠ .START_ACTIVITY) :
    EndAdvances env.vars (controlApi env hooks e b r).1.vars := by
  have h1 := fsmEvent_advances env hooks e b r he
  have h2 := h1.trans (fsmEvent_advances (fsmEvent env hooks e b r).1 hooks .GO_ERROR true false Ev.noConfusion)
  unfold controlApi tryTransition
  simp only
  split
  · exact h1
  · split <;> exact h2

def Req.notStart : Req → Bool
  | .try_ .START_ACTIVITY .. | .control .START_ACTIVITY .. => false
  | _ => true

theorem step_advances (hooks : List Hook) (n : Nat) (env : Env) (q : Req) (hq : q.notStart = true) :
    EndAdvances env.vars (step hooks n env q).1.vars := by
  fun_cases step hooks n env q with
  | case1 e b r => exact fsmEvent_advances env hooks e b r (by rintro rfl; cases hq)
  | case2 | case4 => exact EndAdvances.refl _  -- not found: the environment is gone
  | case3 e b r => exact controlApi_advances env hooks e b r (by rintro rfl; cases hq)
  | case5 f r1 r2 => exact teardown_advances env hooks f r1 r2 n

theorem finalEnv_advances (hooks : List Hook) (n : Nat) (env : Env) (qs : List Req) (hq : qs.all Req.notStart = true) :
    EndAdvances env.vars (finalEnv hooks n env qs).vars := by
  induction qs generalizing env with
  | nil => exact EndAdvances.refl _
  | cons q qs ih =>
    simp only [List.all_cons, Bool.and_eq_true] at hq
    exact (step_advances hooks n env q hq.1).trans (ih (step hooks n env q).1 hq.2)

theorem TV.isVal_of_not_isEmpty {a : TV} (hp : a ≠ .absent) (h : ¬ a.isEmpty = true) : a.isVal = true := by
  cases a <;> first | rfl | exact absurd rfl hp | exact absurd rfl h

theorem setSoeor_sets (env : Env) (tr : String) (p : Bool) (h : env.vars.soeor ≠ .absent) :
    (setSoeorIfEmpty env tr p).1.vars.soeor.isVal = true := by
  unfold setSoeorIfEmpty
  split
  · rfl
  · rename_i hne; exact TV.isVal_of_not_isEmpty h hne

theorem setEoeor_sets (env : Env) (tr : String) (s : RunStatus) (h : env.vars.eoeor ≠ .absent) :
    (setEoeorIfEmpty env tr s).1.vars.eoeor.isVal = true := by
  unfold setEoeorIfEmpty
  split
  · rfl
  · rename_i hne; exact TV.isVal_of_not_isEmpty h hne

theorem bkBefore_sets_soeor (env : Env) (e : Ev) (r : Bool) (he : e = .STOP_ACTIVITY ∨ e = .GO_ERROR)
    (hp : env.vars.soeor ≠ .absent) : (bkBefore env e r).1.vars.soeor.isVal = true := by
  rcases he with rfl | rfl <;> exact setSoeor_sets _ _ _ hp

theorem bkAfter_sets_eoeor (env : Env) (e : Ev) (f : Bool) (he : e = .STOP_ACTIVITY ∨ e = .GO_ERROR)
    (hp : env.vars.eoeor ≠ .absent) : (bkAfter env e f).1.vars.eoeor.isVal = true := by
  rcases he with rfl | rfl <;> exact setEoeor_sets _ _ _ hp

theorem beforeEvent_sets_soeor (env : Env) (hooks : List Hook) (e : Ev) (r : Bool) (he : e = .STOP_ACTIVITY ∨ e = .GO_ERROR)
    (hn : (beforeEvent env hooks e r).2.2 = none) (hp : env.vars.soeor ≠ .absent) :
    (beforeEvent env hooks e r).1.vars.soeor.isVal = true := by
  obtain ⟨_, heq⟩ | ⟨_, _, heq⟩ | ⟨_, _, heq⟩ := beforeEvent_cases env hooks e r <;> simp only [heq] at hn ⊢
  · cases hn
  · cases hn
  · rw [handleHooks_vars]
    exact bkBefore_sets_soeor _ e r he (by rw [handleHooks_vars]; exact hp)

theorem afterEvent_sets_eoeor (env : Env) (hooks : List Hook) (e : Ev) (errs : List (Nat × Moment)) (he : e = .STOP_ACTIVITY ∨ e = .GO_ERROR)
    (hp : env.vars.eoeor ≠ .absent) : (afterEvent env hooks e errs).1.vars.eoeor.isVal = true := by
  unfold afterEvent
  simp only
  refine (finAfter_advances _ e).keeps.eoeor_set ?_
  rw [handleHooks_vars]
  exact bkAfter_sets_eoeor _ e _ he (by rw [handleHooks_vars]; exact hp)

theorem fsmEvent_closes_run (env : Env) (hooks : List Hook) (e : Ev) (b r : Bool) (he : e = .STOP_ACTIVITY ∨ e = .GO_ERROR)
    (hp : EndPresent env.vars) (hm : (fsmEvent env hooks e b r).2.2.moved = true) : EndSet (fsmEvent env hooks e b r).1.vars := by
  have hA := endAdvances_respects hooks (e := e) (by rcases he with rfl | rfl <;> exact Ev.noConfusion)
  obtain ⟨d, _, hb, _, heq⟩ := fsmEvent_of_moved env hooks e b r hm
  simp only [heq]
  have hso := beforeEvent_sets_soeor env hooks e r he hb hp.1
  have heo := (hA.beforeEvent (hA.bkBefore · r) env).keeps.eoeor_present hp.2
  -- leave_<state>, the state write and enter_<state> keep what before_<event> left
  have hmid := (hA.trans (hA.trans (hA.leaveState hA.leaveStamp (hA.body · b) (beforeEvent env hooks e r).1) (hA.setState _ d))
    (hA.enterState _)).keeps
  exact ⟨(hA.afterEvent hA.bkAfter hA.finAfter _ _).keeps.soeor_set (hmid.soeor_set hso),
    afterEvent_sets_eoeor _ hooks e _ he (hmid.eoeor_present heo)⟩

/-- The request ended a run: it took the environment out of RUNNING, or to ERROR from another state — as the
    GO_ERROR does that follows a START_ACTIVITY cancelled after the number was handed out (the environment is still
    CONFIGURED then, the end stamps present and empty). -/
def EndsRun (before after : St) : Prop := (before = .RUNNING ∧ after ≠ .RUNNING) ∨ (before ≠ .ERROR ∧ after = .ERROR)

theorem not_endsRun_self (s : St) : ¬ EndsRun s s := by
  rintro (⟨h, hn⟩ | ⟨hn, h⟩) <;> exact hn h

/-- A TryTransition that ends a run is a STOP_ACTIVITY or a GO_ERROR that ran all its moments. -/
theorem fsmEvent_end_stamps (env : Env) (hooks : List Hook) (e : Ev) (b r : Bool) (hp : EndPresent env.vars)
    (h : EndsRun env.st (fsmEvent env hooks e b r).1.st) : EndSet (fsmEvent env hooks e b r).1.vars := by
  obtain hk | ⟨d, hd, hst, hm⟩ := fsmEvent_st env hooks e b r
  · exact absurd (hk.1 ▸ h) (not_endsRun_self _)
  · refine fsmEvent_closes_run env hooks e b r ?_ hp hm
    rcases h with ⟨hrun, _⟩ | ⟨_, herr⟩
    · exact dst_from_running e d (hrun ▸ hd)
    · exact Or.inr (dst_error e env.st ((hst.symm.trans herr) ▸ hd))

theorem tdStamp_sets (env : Env) (hrun : env.st = .RUNNING) (hp : EndPresent env.vars) : EndSet (tdStamp env).1.vars := by
  rw [tdStamp, if_pos hrun]
  exact ⟨(setEoeor_advances _ _ _).keeps.soeor_set (setSoeor_sets env _ _ hp.1),
    setEoeor_sets _ _ _ ((setSoeor_advances env _ _).keeps.eoeor_present hp.2)⟩

/-- A teardown ends a run only by taking the environment out of RUNNING, and then it has stamped on the way. -/
theorem teardown_end_stamps (env : Env) (hooks : List Hook) (f r1 r2 : Bool) (n : Nat) (hp : EndPresent env.vars)
    (h : EndsRun env.st (teardown env hooks f r1 r2 n).1.st) : EndSet (teardown env hooks f r1 r2 n).1.vars := by
  rcases h with ⟨hrun, hleft⟩ | ⟨hne, herr⟩
  · -- only a teardown that goes through changes the state
    obtain heq | heq | heq | ⟨_, heq⟩ := teardown_cases env hooks f r1 r2 n <;>
      simp only [heq, destroyWeights_st, destroyWeights_vars, tdStamp_frame Env.st (fun _ _ _ => rfl), handleHooks_st] at hleft ⊢
    · exact absurd hrun hleft
    · exact absurd hrun hleft
    · exact absurd hrun hleft
    · exact tdStamp_sets _ (by rw [handleHooks_st]; exact hrun) (by rw [handleHooks_vars]; exact hp)
  · rcases teardown_st env hooks f r1 r2 n with ⟨hst, _, _⟩ | ⟨hst, _⟩
    · exact absurd (hst.symm.trans herr) hne
    · rw [hst] at herr; cases herr

/-- The ControlEnvironment glue FORCED the state: the requested transition failed and the GO_ERROR that
    follows it did not go through either (cancelled by a critical hook at before_GO_ERROR / leave_<state>,
    or not allowed from the state), so `Sm.SetState("ERROR")` wrote the state without any callback — unless the
    environment is DONE, which the glue spares. (The glue also writes after a fallback that went through and reported an
    enter_/after_ failure; the state is ERROR already then, and this is `false`.) -/
def forcedByGlue (env : Env) (hooks : List Hook) (e : Ev) (b r : Bool) : Bool :=
  !(tryTransition env hooks e b r).2.2.isOk &&
    !(tryTransition (tryTransition env hooks e b r).1 hooks .GO_ERROR true false).2.2.moved

theorem controlApi_unforced (env : Env) (hooks : List Hook) (e : Ev) (b r : Bool) (hnf : forcedByGlue env hooks e b r = false) :
    controlApi env hooks e b r = fsmEvent env hooks e b r ∨
    ((controlApi env hooks e b r).1.vars = (fsmEvent (fsmEvent env hooks e b r).1 hooks .GO_ERROR true false).1.vars ∧
      (fsmEvent (fsmEvent env hooks e b r).1 hooks .GO_ERROR true false).2.2.moved = true) := by
  unfold forcedByGlue tryTransition at hnf
  unfold controlApi tryTransition
  simp only
  cases hok : (fsmEvent env hooks e b r).2.2.isOk
  · rw [hok] at hnf
    refine Or.inr ⟨?_, by simpa using hnf⟩
    simp only [Bool.false_eq_true, if_false]
    split <;> rfl
  · exact Or.inl (if_pos rfl)

/-- Through the API glue too, unless the glue forced the state: the fallback GO_ERROR that went through closes the
    run whatever the state it ends in. -/
theorem controlApi_end_stamps (env : Env) (hooks : List Hook) (e : Ev) (b r : Bool) (hp : EndPresent env.vars)
    (hnf : forcedByGlue env hooks e b r = false) (h : EndsRun env.st (controlApi env hooks e b r).1.st) :
    EndSet (controlApi env hooks e b r).1.vars := by
  rcases controlApi_unforced env hooks e b r hnf with heq | ⟨heq, hm⟩
  · rw [heq] at h ⊢; exact fsmEvent_end_stamps env hooks e b r hp h
  · unfold EndSet; rw [heq]
    exact fsmEvent_closes_run _ hooks .GO_ERROR true false (Or.inr rfl) (fsmEvent_present env hooks e b r hp) hm

theorem step_end_stamps (hooks : List Hook) (n : Nat) (env : Env) (q : Req) (hp : EndPresent env.vars)
    (hnf : match q with | .control e b r => forcedByGlue env hooks e b r = false | _ => True)
    (h : EndsRun env.st (step hooks n env q).1.st) : EndSet (step hooks n env q).1.vars := by
  revert h
  fun_cases step hooks n env q with
  | case1 e b r => exact fsmEvent_end_stamps env hooks e b r hp
  | case2 | case4 => exact fun h => absurd h (not_endsRun_self _)  -- not found
  | case3 e b r => exact controlApi_end_stamps env hooks e b r hp hnf
  | case5 f r1 r2 => exact teardown_end_stamps env hooks f r1 r2 n hp

/-- The hook passes of leave_<state> do not depend on the body's outcome, and if they let the event go on (the body
    is reached), the environment returned is the one the passes left, with the body's writes (`bodyWrites e b`)
    applied. -/
theorem leaveState_body (env : Env) (hooks : List Hook) (e : Ev) (b : Bool) :
    (leaveState env hooks e b).1 =
      (if (leaveState env hooks e true).2.2 = none then applyBody (leaveState env hooks e true).1 e b
       else (leaveState env hooks e true).1) ∧
    ((leaveState env hooks e b).2.2 = some .cancelledBody ↔ ((leaveState env hooks e true).2.2 = none ∧ b = false)) := by
  obtain ⟨_, heq⟩ | ⟨_, _, heq⟩ | ⟨_, _, heq⟩ := leaveState_cases env hooks e <;> simp only [heq]
  · simp
  · simp
  · cases b <;> simp [applyBody_eq]

/-- In terms of the environment before the negative pass, which touches neither the counter nor the clock. -/
theorem bkBefore_START_after_neg (env : Env) (hooks : List Hook) :
    (bkBefore (handleHooks env hooks (.before .START_ACTIVITY) negW).1 .START_ACTIVITY false).2.1 =
      [Step.rnSet (env.counter + 1), Step.tsSet 0 (env.clock + 1), Step.tsCleared,
        Step.runEvent "START_ACTIVITY" .started (env.counter + 1) (env.clock + 1)] ∧
    (bkBefore (handleHooks env hooks (.before .START_ACTIVITY) negW).1 .START_ACTIVITY false).1.vars.rnVar = some (env.counter + 1) ∧
    (bkBefore (handleHooks env hooks (.before .START_ACTIVITY) negW).1 .START_ACTIVITY false).1.vars.sosor = .val (env.clock + 1) ∧
    (bkBefore (handleHooks env hooks (.before .START_ACTIVITY) negW).1 .START_ACTIVITY false).1.vars.eosor = .empty ∧
    (bkBefore (handleHooks env hooks (.before .START_ACTIVITY) negW).1 .START_ACTIVITY false).1.vars.soeor = .empty ∧
    (bkBefore (handleHooks env hooks (.before .START_ACTIVITY) negW).1 .START_ACTIVITY false).1.vars.eoeor = .empty := by
  have hcounter := handleHooks_counter env hooks (.before .START_ACTIVITY) negW
  have hclock := handleHooks_clock env hooks (.before .START_ACTIVITY) negW
  have hbk := (bkBefore_START (handleHooks env hooks (.before .START_ACTIVITY) negW).1).2.2.2
  rw [hcounter, hclock] at hbk
  refine ⟨?_, hbk⟩
  simp only [bkBefore, tick, hcounter, hclock]; rfl

theorem beforeEvent_START_none (env : Env) (hooks : List Hook) (r : Bool)
    (hn : (beforeEvent env hooks .START_ACTIVITY r).2.2 = none) :
    (beforeEvent env hooks .START_ACTIVITY r).1.vars.rnVar = some (env.counter + 1) ∧
    (beforeEvent env hooks .START_ACTIVITY r).1.vars.sosor = .val (env.clock + 1) ∧
    (beforeEvent env hooks .START_ACTIVITY r).1.vars.eosor = .empty ∧
    (beforeEvent env hooks .START_ACTIVITY r).1.vars.soeor = .empty ∧
    (beforeEvent env hooks .START_ACTIVITY r).1.vars.eoeor = .empty := by
  obtain ⟨_, heq⟩ | ⟨_, _, heq⟩ | ⟨_, hr, heq⟩ := beforeEvent_cases env hooks .START_ACTIVITY r <;> simp only [heq] at hn ⊢
  · cases hn
  · cases hn
  · rw [handleHooks_vars]
    -- the run number was handed out: `r = false`
    cases r
    · exact (bkBefore_START_after_neg env hooks).2
    · cases hr

theorem leaveState_vars_of_not_running (env : Env) (hooks : List Hook) (e : Ev) (b : Bool) (h : env.st ≠ .RUNNING) :
    (leaveState env hooks e b).1.vars = env.vars := by
  obtain ⟨_, heq⟩ | ⟨_, _, heq⟩ | ⟨_, _, heq⟩ := leaveState_cases env hooks e <;>
    simp only [heq, bkLeave, if_neg h, applyBody_frame Env.vars (fun _ _ => rfl), handleHooks_vars]

theorem fsmEvent_failed_start (env : Env) (hooks : List Hook) (b r : Bool)
    (h : (fsmEvent env hooks .START_ACTIVITY b r).2.2 = .cancelledBody) :
    (fsmEvent env hooks .START_ACTIVITY b r).1.st = env.st ∧
    (fsmEvent env hooks .START_ACTIVITY b r).1.rn = 0 ∧
    (fsmEvent env hooks .START_ACTIVITY b r).1.vars.rnVar = some (env.counter + 1) ∧
    (fsmEvent env hooks .START_ACTIVITY b r).1.vars.sosor = .val (env.clock + 1) ∧
    (fsmEvent env hooks .START_ACTIVITY b r).1.vars.eosor = .empty ∧
    (fsmEvent env hooks .START_ACTIVITY b r).1.vars.soeor = .empty ∧
    (fsmEvent env hooks .START_ACTIVITY b r).1.vars.eoeor = .empty := by
  obtain ⟨_, heq⟩ | ⟨d, hd, ⟨res, hb, heq⟩ | ⟨hb, res, hl, heq⟩ | ⟨_, _, heq⟩⟩ := fsmEvent_cases env hooks .START_ACTIVITY b r <;>
    simp only [heq] at h ⊢
  · cases h
  · -- before_<event> never answers for the body
    subst h
    obtain ⟨_, heq⟩ | ⟨_, _, heq⟩ | ⟨_, _, heq⟩ := beforeEvent_cases env hooks .START_ACTIVITY r <;> simp only [heq] at hb
    · cases hb
    · cases hb
    · split at hb <;> cases hb
  · subst h
    have hbst := beforeEvent_st env hooks .START_ACTIVITY r
    have hnr : (beforeEvent env hooks .START_ACTIVITY r).1.st ≠ .RUNNING := by
      rw [hbst]; rintro hrun; rw [hrun] at hd; cases hd
    have hbody := leaveState_body (beforeEvent env hooks .START_ACTIVITY r).1 hooks .START_ACTIVITY b
    obtain ⟨hreach, rfl⟩ := hbody.2.mp hl
    refine ⟨(leaveState_st _ hooks .START_ACTIVITY false).trans hbst, ?_, ?_⟩
    · rw [hbody.1, if_pos hreach]; rfl
    · rw [leaveState_vars_of_not_running _ hooks _ _ hnr]; exact beforeEvent_START_none env hooks r hb
  · split at h <;> cases h

end EnvM
