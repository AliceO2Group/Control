/-
  Proofs/ExecGiveUp — the launch failure of a controllable task (C17): doTermIntKill over a process GROUP whose
  members have signal dispositions of their own, and the run-level invariant "once the executor has given a
  launch up, nothing of the task runs" (core only).
-/
import ControlModel.Proofs.ExecTask

namespace ExecTask

@[simp] theorem survives_kill (d : Disp) : d.survives .KILL = false := by cases d <;> rfl

@[simp] theorem filter_survives_kill (l : List Disp) : l.filter (fun d => d.survives .KILL) = [] := by
  induction l with
  | nil => rfl
  | cons d ds ih => simp [List.filter]

/-- Nobody waits for the command: as long as the leader's pid exists when the escalation begins (running, or a
    zombie) it exists at both tests. -/
theorem escalateGroup_keeps (g : Grp) (h : g.leaderSeen = true) :
    (escalateGroup true g).1 = [.TERM, .INT, .KILL] ∧ (escalateGroup true g).2.leadLive = false ∧
      (escalateGroup true g).2.members = [] := by
  have seen : ∀ (g : Grp) (sg : Sig), (g.signal true sg).leaderSeen = g.leaderSeen := fun g sg => by
    simp only [Grp.signal, Grp.leaderSeen, Bool.and_true]
    cases g.leadLive <;> cases g.leadZombie <;> cases g.lead.survives sg <;> rfl
  have h0 : ({ g with leadZombie := g.leadZombie && true } : Grp) = g := by cases g; simp
  simp only [escalateGroup, h0, Grp.any, seen, h, Bool.true_or, Bool.and_self, ↓reduceIte]
  exact ⟨rfl, by simp [Grp.signal], by simp [Grp.signal]⟩

theorem escalateGroup_kill_final (keeps : Bool) (g : Grp) (h : Sig.KILL ∈ (escalateGroup keeps g).1) :
    (escalateGroup keeps g).2.live = false := by
  revert h
  simp only [escalateGroup]
  split <;> split <;> simp [Grp.signal, Grp.live]

theorem escalateGroup_sigs (keeps : Bool) (g : Grp) :
    (escalateGroup keeps g).1 = [.TERM] ∨ (escalateGroup keeps g).1 = [.TERM, .INT] ∨
      (escalateGroup keeps g).1 = [.TERM, .KILL] ∨ (escalateGroup keeps g).1 = [.TERM, .INT, .KILL] := by
  simp only [escalateGroup]
  split <;> split <;> simp

@[simp] theorem obey_survives (sg : Sig) : Disp.obey.survives sg = false := by cases sg <;> rfl
@[simp] theorem ignTerm_term : Disp.ignTerm.survives .TERM = true := rfl
@[simp] theorem ignTerm_int : Disp.ignTerm.survives .INT = false := rfl
@[simp] theorem ignAll_term : Disp.ignAll.survives .TERM = true := rfl
@[simp] theorem ignAll_int : Disp.ignAll.survives .INT = true := rfl

theorem filter_nonempty_eq_any (l : List Disp) (p : Disp → Bool) : (!(l.filter p).isEmpty) = l.any p := by
  induction l with
  | nil => rfl
  | cons d ds ih => by_cases h : p d <;> simp [List.filter, h, ih]

/-- Not the code (`keeps = false`): the escalation stops once the leader is gone. -/
theorem escalateGroup_reaping_left (g : Grp) :
    (escalateGroup false g).2.live =
      (if g.leadLive && g.lead == .ignAll then false
       else if g.leadLive && g.lead == .ignTerm then g.members.any (fun d => d.survives .TERM && d.survives .INT)
       else g.members.any (fun d => d.survives .TERM)) := by
  obtain ⟨lead, ll, lz, ms⟩ := g
  cases lead <;> cases ll <;> cases lz <;>
    simp [escalateGroup, Grp.signal, Grp.leaderSeen, Grp.any, Grp.live, List.filter_filter, filter_nonempty_eq_any,
      Bool.and_comm]

/-! ### the launch failure of a controllable task leaves no survivors (needs: nobody reaps while the group is escalated) -/

theorem ownEnd_ne_notStarted (b : Beh) : b.ownEnd ≠ Child.notStarted := by cases b <;> decide

theorem leaderSeen_grpOf (s : St) (h : s.child ≠ .notStarted ∧ s.reaped = false) : (grpOf s).leaderSeen = true := by
  by_cases hr : s.child = .running <;> simp [grpOf, Grp.leaderSeen, hr, h.1, h.2]

theorem giveUp_alive (c : Cfg) (hc : c.launchFailKeepsLeader = true) (s : St) (ho : s.orphans = 0)
    (hd : (grpOf s).leaderSeen = true) : (giveUp c s).alive = false := by
  obtain ⟨_, h2, h3⟩ := escalateGroup_keeps (grpOf s) hd
  simp only [giveUp, St.alive, hc, h2, h3]
  by_cases hr : s.child = .running <;> simp [hr, ho]

theorem Eff.gave {c : Cfg} {s s' : St} {op : Op} (e : Eff c s op s') (hc : c.launchFailKeepsLeader = true)
    (hi : NoOrph s) (h : Gave s) : Gave s' := by
  have keep : s.gaveUp = true → Dead s' := fun hg => e.dead (h.gone hg)
  have basic : s.kind.basicLike = true → s.kind = .ctl → False := fun hb hk => by rw [hk] at hb; cases hb
  cases e with
  | same | tick | loopExit | pushed | moved => exact { h with }
  | zombie ha _ hk hr => exact ⟨fun _ _ _ => ⟨ownEnd_ne_notStarted _, (h.dial hk ha hr).2⟩, keep⟩
  | reaped _ hb => exact ⟨fun hk => (basic hb hk).elim, keep⟩
  | spawned _ _ hs => exact ⟨fun hk => (basic (basicLike_of_spawns hs) hk).elim, keep⟩
  | stopped _ _ hk => exact ⟨fun hk' => (nomatch hk.symm.trans hk'), keep⟩
  | ended | killBasic | killCtl | killNodata => exact ⟨fun _ => nofun, keep⟩
  | gaveUp ha hk hr =>
    exact ⟨fun _ => nofun, fun _ =>
      ⟨rfl, giveUp_alive c hc s (hi (by rw [hk]; rfl)) (leaderSeen_grpOf s (h.dial hk ha hr))⟩⟩

theorem Eff.gaveUp_mono {c : Cfg} {s s' : St} {op : Op} (e : Eff c s op s') : s.gaveUp = true → s'.gaveUp = true := by
  cases e with
  | gaveUp => exact fun _ => rfl
  | _ => exact id

theorem step_giveup_ok (c : Cfg) (s : St) (h : (step c s .giveup).2 = .ok) : (step c s .giveup).1.gaveUp = true := by
  revert h
  simp only [step]
  split
  · exact fun _ => rfl
  · exact fun h => nomatch h

theorem run_gaveUpOk (c : Cfg) (k : Kind) (b : Beh) (ops : List Op) (h : gaveUpOk ops (run c k b ops).res = true) :
    (init c k b).2.halts = false ∧ (runFrom c (init c k b).1 ops).st.gaveUp = true :=
  run_marked c (·.gaveUp) .giveup gaveUpFrom gaveUpOk (fun _ _ _ _ => rfl) (fun _ => rfl)
    (fun ops => by cases ops <;> rfl) (fun _ _ _ => rfl) (fun _ _ _ e => e.gaveUp_mono) (step_giveup_ok c) k b ops h

theorem runFrom_gave (c : Cfg) (hc : c.launchFailKeepsLeader = true) (s : St) (ops : List Op) (hi : NoOrph s)
    (hg : Gave s) (hk : (runFrom c s ops).st.gaveUp = true) :
    (runFrom c s ops).halted = false ∧ (runFrom c s ops).st.alive = false :=
  runFrom_dead_end c s ops
    ((runFrom_always c (fun s => NoOrph s ∧ Gave s) (fun _ _ _ e h => ⟨e.noOrph h.1, e.gave hc h.1 h.2⟩) ops s ⟨hi, hg⟩).2.gone hk)

end ExecTask
