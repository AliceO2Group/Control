/-
  Proofs/ExecOverlap — lemmas behind the overlap theorems of Props/C17 (core only).

  A behaviour of an overlap is a run along a list of choices (`mem_parOutcomes`), so what every move of a
  configuration keeps, every behaviour has (`parOutcomes_inv`), and every run of a schedule (`runI_all`). Two such
  properties carry the theorems: `Held` — at most one request holds the task, which gives the basic invariant of
  Proofs/ExecTask for every interleaving — and `Safe` — the next part of either request finds the command it needs,
  so that no part halts.
-/
import ControlModel.Model.ExecOverlap
import ControlModel.Spec.C17
import ControlModel.Proofs.ExecTask

namespace ExecTask

theorem runFromI_plain (c : Cfg) (s : St) (ops : List Op) :
    runFromI c s (plain ops) = [(runFrom c s ops).lift] := by
  induction ops generalizing s with
  | nil => simp [plain, runFromI, runFrom, Outcome.lift]
  | cons op ops ih =>
    simp only [plain, List.map_cons, runFromI, runFrom] at ih ⊢
    split
    · rw [ih s]; simp [IOutcome.push, Outcome.lift]
    · split
      · simp [Outcome.lift]
      · rw [ih]; simp [IOutcome.push, Outcome.lift]

theorem runI_plain (c : Cfg) (k : Kind) (b : Beh) (ops : List Op) :
    runI c k b (plain ops) = [(run c k b ops).lift] := by
  simp only [runI, run]
  split
  · simp [Outcome.lift]
  · rw [runFromI_plain]; simp [IOutcome.push, Outcome.lift]

/-- `H` is what is known when a move from a configuration with `G` halts (`False`: none does). -/
theorem runChoices_inv (c : Cfg) (G : Conf → Prop) (H : Prop)
    (hok : ∀ cf ch cf', G cf → cf.move c ch = .ok cf' → G cf') (herr : ∀ cf ch r, G cf → cf.move c ch = .error r → H) :
    ∀ (chs : List Bool) (cf : Conf), G cf → match runChoices c chs cf with | .ok cf' => G cf' | .error _ => H
  | [], _, h => h
  | ch :: rest, cf, h => by
    simp only [runChoices]
    cases hm : cf.move c ch with
    | error r => exact herr cf ch r h hm
    | ok cf1 => exact runChoices_inv c G H hok herr rest cf1 (hok cf ch cf1 h hm)

/-- the run behind an outcome -/
def parRun (c : Cfg) (s : St) (a b : Op) (chs : List Bool) : Except Res Conf :=
  match lookFirst c (parStart s a b) with
  | .error r => .error r
  | .ok cf1 => runChoices c chs cf1

theorem mem_allChoices {n : Nat} {l : List Bool} : l ∈ allChoices n ↔ l.length = n := by
  induction n generalizing l with
  | zero => simp [allChoices]
  | succ n ih =>
    cases l with
    | nil => simp [allChoices]
    | cons x xs => cases x <;> simp [allChoices, ih]

theorem mem_parOutcomes {c : Cfg} {s : St} {a b : Op} {o : POut} :
    o ∈ parOutcomes c s a b ↔ ∃ chs, chs.length = (partsOf s.kind a).length + (partsOf s.kind b).length ∧
      o ∈ POut.ofRun s.out.length (parRun c s a b chs) := by
  simp only [parOutcomes, List.mem_eraseDups, List.mem_flatMap, mem_allChoices, parStart]
  rfl

theorem move_cases (c : Cfg) (cf cf' : Conf) (ch : Bool) (h : cf.move c ch = .ok cf') :
    (cf.pa = [] ∧ cf.pb = [] ∧ cf' = cf) ∨
    (∃ p rest s' ans drop, cf.pa = p :: rest ∧ pstep c cf.s p = .next s' ans drop ∧
      cf' = { cf with s := s', pa := if drop then [] else rest, ra := if ans.isSome then ans else cf.ra }) ∨
    (∃ p rest s' ans drop, cf.pb = p :: rest ∧ pstep c cf.s p = .next s' ans drop ∧
      cf' = { cf with s := s', pb := if drop then [] else rest, rb := if ans.isSome then ans else cf.rb }) := by
  revert h
  fun_cases Conf.move c cf ch with
  | case1 hpick hpa => simp [Conf.pickA, hpa] at hpick
  | case2 | case5 => nofun
  | case3 _ p rest hpa s' ans drop hp => rintro ⟨⟩; exact .inr (.inl ⟨p, rest, s', ans, drop, hpa, hp, rfl⟩)
  | case4 hpick hpb =>
    rintro ⟨⟩
    cases hpa : cf.pa with
    | nil => exact .inl ⟨rfl, hpb, rfl⟩
    | cons p rest => simp [Conf.pickA, hpa, hpb] at hpick
  | case6 _ p rest hpb s' ans drop hp => rintro ⟨⟩; exact .inr (.inr ⟨p, rest, s', ans, drop, hpb, hp, rfl⟩)

theorem move_progress (c : Cfg) (cf cf' : Conf) (ch : Bool) (h : cf.move c ch = .ok cf') :
    cf'.pa.length + cf'.pb.length + 1 ≤ cf.pa.length + cf.pb.length ∨ (cf.pa = [] ∧ cf.pb = [] ∧ cf' = cf) := by
  rcases move_cases c cf cf' ch h with h | ⟨p, rest, s', ans, drop, hp, _, rfl⟩ | ⟨p, rest, s', ans, drop, hp, _, rfl⟩
  · exact .inr h
  · left; rw [hp]; cases drop <;> simp <;> omega
  · left; rw [hp]; cases drop <;> simp <;> omega

theorem move_ok_of_heads (c : Cfg) (cf : Conf) (ch : Bool)
    (ha : ∀ p rest, cf.pa = p :: rest → ∃ s' ans drop, pstep c cf.s p = .next s' ans drop)
    (hb : ∀ p rest, cf.pb = p :: rest → ∃ s' ans drop, pstep c cf.s p = .next s' ans drop) :
    ∃ cf', cf.move c ch = .ok cf' := by
  fun_cases Conf.move c cf ch with
  | case1 | case4 => exact ⟨cf, rfl⟩
  | case3 | case6 => exact ⟨_, rfl⟩
  | case2 _ p rest hpa r hp =>
    obtain ⟨_, _, _, h⟩ := ha p rest hpa
    rw [hp] at h; cases h
  | case5 _ p rest hpb r hp =>
    obtain ⟨_, _, _, h⟩ := hb p rest hpb
    rw [hp] at h; cases h

theorem runChoices_exhausts (c : Cfg) : ∀ (chs : List Bool) (cf cf' : Conf), runChoices c chs cf = .ok cf' →
    cf.pa.length + cf.pb.length ≤ chs.length → cf'.pa = [] ∧ cf'.pb = [] := by
  intro chs
  induction chs with
  | nil =>
    intro cf cf' e h
    simp only [runChoices] at e
    cases e
    simp only [List.length_nil, Nat.le_zero_eq, Nat.add_eq_zero_iff, List.length_eq_zero_iff] at h
    exact h
  | cons ch rest ih =>
    intro cf cf' e h
    simp only [runChoices] at e
    cases hm : cf.move c ch with
    | error r => rw [hm] at e; cases e
    | ok cf1 =>
      rw [hm] at e
      rcases move_progress c cf cf1 ch hm with hlt | ⟨ha, hb, rfl⟩
      · exact ih cf1 cf' e (by simp only [List.length_cons] at h; omega)
      · exact ih cf1 cf' e (by simp [ha, hb])

theorem parOutcomes_inv (c : Cfg) (G : Conf → Prop) (H : Prop) (s : St) (a b : Op)
    (hok : ∀ cf ch cf', G cf → cf.move c ch = .ok cf' → G cf') (herr : ∀ cf ch r, G cf → cf.move c ch = .error r → H)
    (h0 : G (parStart s a b)) {o : POut} (ho : o ∈ parOutcomes c s a b) :
    (H ∧ ∃ r, o = .halt r) ∨ ∃ cf, G cf ∧ cf.pa = [] ∧ cf.pb = [] ∧
      (o = .done cf.s (cf.ra.getD .none) (cf.rb.getD .none) ∨
       o = .done { cf.s with out := swapNew s.out.length cf.s.out } (cf.ra.getD .none) (cf.rb.getD .none)) := by
  obtain ⟨chs, hlen, hm⟩ := mem_parOutcomes.mp ho
  simp only [parRun, lookFirst] at hm
  cases h1 : (parStart s a b).move c true with
  | error r =>
    rw [h1] at hm
    exact .inl ⟨herr _ true r h0 h1, r, List.mem_singleton.mp hm⟩
  | ok cf1 =>
    simp only [h1] at hm
    have hle : cf1.pa.length + cf1.pb.length ≤ chs.length := by
      rcases move_progress c _ cf1 true h1 with h | ⟨_, _, rfl⟩
      · simp only [parStart] at h; omega
      · simp only [parStart]; omega
    have g2 := runChoices_inv c G H hok herr chs cf1 (hok _ true cf1 h0 h1)
    cases h2 : runChoices c chs cf1 with
    | error r =>
      rw [h2] at g2 hm
      exact .inl ⟨g2, r, List.mem_singleton.mp hm⟩
    | ok cf2 =>
      rw [h2] at g2 hm
      have hend := runChoices_exhausts c chs cf1 cf2 h2 hle
      simp only [POut.ofRun, List.mem_cons, List.mem_nil_iff, or_false] at hm
      exact .inr ⟨cf2, g2, hend.1, hend.2, hm⟩

theorem claim_of_ne (c : Cfg) (s : St) {op : Op} (h : op ≠ .kill) : claim c s op = s := by
  simp [claim, h]

theorem claim_legacy (c : Cfg) (s : St) (op : Op) (hc : c.killClaimsEntry = false) : claim c s op = s := by
  simp [claim, hc]

theorem claim_kill (c : Cfg) (s : St) (hc : c.killClaimsEntry = true) : claim c s .kill = { s with active := false } := by
  simp [claim, hc]

theorem claim_kind (c : Cfg) (s : St) (op : Op) : (claim c s op).kind = s.kind := by
  simp only [claim]; split <;> rfl

theorem claim_cmd (c : Cfg) (s : St) (op : Op) : (claim c s op).cmd = s.cmd := by
  simp only [claim]; split <;> rfl

theorem setActive_self (s : St) {b : Bool} (h : s.active = b) : { s with active := b } = s := by
  subst h; rfl

theorem serve_eq_step (c : Cfg) (s : St) (op : Op) (h : s.active = true) : serve c s op = step c s op := by
  simp only [serve, setActive_self s h, h, Bool.and_true]

/-- `Calm` also of the two states as a request that holds the task sees them (`active` forced, as `serve` does) -/
theorem Calm.forced {s s' : St} (h : Calm s s') : Calm { s with active := true } { s' with active := true } :=
  ⟨h.kind, rfl, h.rpc, h.killed, h.terms, h.failed, h.cmd⟩

/-- of the requests only KILL changes what `Inv` looks at or takes the command away; the other steps that do are the
    happenings `tick` and `await` -/
theorem Eff.calm {c : Cfg} {s s' : St} {op : Op} (e : Eff c s op s') (hr : op.isRequest = true) (hk : op ≠ .kill) :
    Calm s s' := by
  cases e with
  | same | pushed | moved => exact { Calm.refl s with }
  | tick | reaped | ended | zombie | gaveUp => cases hr
  | loopExit | killBasic | killCtl | killNodata => exact absurd rfl hk
  | spawned => exact ⟨rfl, rfl, rfl, rfl, rfl, id, fun _ => rfl⟩
  | stopped => exact ⟨rfl, rfl, rfl, rfl, terminals_snoc_btt _ _ _, by simp, id⟩

theorem serve_calm (c : Cfg) (s : St) (op : Op) (hr : op.isRequest = true) (hk : op ≠ .kill) :
    Calm s (serve c s op).1 := by
  have e := (step_eff c { s with active := true } op).calm hr hk
  refine ⟨e.kind, ?_, e.rpc, e.killed, e.terms, e.failed, e.cmd⟩
  have : (step c { s with active := true } op).1.active = true := e.active
  simp only [serve, this, Bool.true_and]

/-- parts that are not part of a KILL -/
def Part.calm : Part → Bool
  | .look op | .whole op => op.isRequest && op != .kill
  | _ => true

/-- what can be left of a KILL -/
def killThread (l : List Part) : Prop := l = [.look .kill, .whole .kill] ∨ l = [.whole .kill] ∨ l = []

/-- what is left of a request that is not a KILL -/
def calmThread (l : List Part) : Prop := ∀ p ∈ l, p.calm = true

theorem calm_partsOf (k : Kind) (op : Op) (hr : op.isRequest = true) (hk : op ≠ .kill) : calmThread (partsOf k op) := by
  intro p hp
  simp only [partsOf] at hp
  split at hp <;> simp at hp <;> rcases hp with rfl | rfl | rfl | rfl <;> simp_all [Part.calm]

theorem calm_ne_kill {l : List Part} (h : calmThread l) : l ≠ [.whole .kill] := by
  intro e; subst e; have := h (.whole .kill) (by simp); simp [Part.calm] at this

theorem pstep_calm (c : Cfg) (s s' : St) (p : Part) (ans : Option Res) (drop : Bool) (hc : p.calm = true)
    (hp : pstep c s p = .next s' ans drop) : Calm s s' := by
  revert hc hp
  fun_cases pstep c s p with
  | case4 | case8 | case11 => exact fun _ => nofun
  | case1 | case7 | case9 | case12 => rintro _ ⟨⟩; exact .refl s
  | case2 op =>
    rintro hc ⟨⟩
    simp only [Part.calm, Bool.and_eq_true, bne_iff_ne, ne_eq] at hc
    rw [claim_of_ne c s hc.2]; exact .refl s
  | case3 op _ ha _ _ x =>
    rintro hc ⟨⟩
    simp only [Part.calm, Bool.and_eq_true, bne_iff_ne, ne_eq] at hc
    rw [step_notask c s op hc.1 hc.2 (eq_false_of_ne_true ha)] at x
    cases x; exact .refl s
  | case5 op _ _ x =>
    rintro hc ⟨⟩
    simp only [Part.calm, Bool.and_eq_true, bne_iff_ne, ne_eq] at hc
    have := serve_calm c s op hc.1 hc.2
    rwa [x] at this
  | case6 => rintro _ ⟨⟩; exact ⟨rfl, rfl, rfl, rfl, rfl, id, fun _ => rfl⟩
  | case10 => rintro _ ⟨⟩; exact { Calm.refl s with }

/-! ### the order in which the emissions of an overlap reach the agent does not matter to the basic invariant -/

theorem terminals_reverse (l : List Emit) : terminals l.reverse = terminals l := by
  simp [terminals, List.filter_reverse]

theorem terminals_swapNew (n : Nat) (l : List Emit) : terminals (swapNew n l) = terminals l := by
  have : terminals (l.take n ++ l.drop n) = terminals l := by rw [List.take_append_drop]
  rw [terminals_append] at this
  simp only [swapNew, terminals_append, terminals_reverse]
  exact this

theorem mem_swapNew (n : Nat) (l : List Emit) (e : Emit) : e ∈ swapNew n l ↔ e ∈ l := by
  have : e ∈ l.take n ++ l.drop n ↔ e ∈ l := by rw [List.take_append_drop]
  simp only [List.mem_append] at this
  simp only [swapNew, List.mem_append, List.mem_reverse]
  exact this

theorem inv_swap (s : St) (n : Nat) (h : Inv s) : Inv { s with out := swapNew n s.out } :=
  Calm.inv (s := s) ⟨rfl, rfl, rfl, rfl, terminals_swapNew n s.out, (mem_swapNew n s.out _).mp, id⟩ h

section
variable (c : Cfg) (P : St → Prop) (R : IRes → Prop) (ok : Item → Bool)
  (hdead : R (.one .dead) ∧ R (.par .dead .dead))
  (hstep : ∀ s op, P s → P (step c s op).1 ∧ R (.one (step c s op).2))
  (hfin : ∀ s, P s → P (finish s))
  (hpar : ∀ s a b, P s → ok (.par a b) = true → ∀ o ∈ parOutcomes c s a b,
    match o with
    | .halt r => R (.one r)
    | .done s' ra rb => P s' ∧ R (.par ra rb))
include hdead hstep hfin hpar

theorem runFromI_all :
    ∀ items : List Item, items.all ok = true → ∀ s, P s → ∀ o ∈ runFromI c s items, P o.st ∧ ∀ r ∈ o.res, R r := by
  have halt : ∀ s r, P s → P (haltState s r) := fun s r h => by
    rcases haltState_cases s r with e | e <;> rw [e]
    · exact h
    · exact hfin s h
  have push : ∀ (r : IRes) (l : List IOutcome), R r → (∀ o ∈ l, P o.st ∧ ∀ r ∈ o.res, R r) →
      ∀ o ∈ l.map (IOutcome.push r), P o.st ∧ ∀ r ∈ o.res, R r := fun r l hr hl o ho => by
    simp only [List.mem_map] at ho
    obtain ⟨o', ho', rfl⟩ := ho
    exact ⟨(hl o' ho').1, fun r' hr' => by
      rcases List.mem_cons.mp hr' with e | e
      · exact e ▸ hr
      · exact (hl o' ho').2 r' e⟩
  have single : ∀ (st : St) (r : IRes) (o : IOutcome), P st → R r → o ∈ [{ st := st, res := [r], halted := true }] →
      P o.st ∧ ∀ r ∈ o.res, R r := fun st r o hp hr ho => by
    cases List.mem_singleton.mp ho
    exact ⟨hp, fun r' hr' => List.mem_singleton.mp hr' ▸ hr⟩
  intro items
  induction items with
  | nil =>
    intro _ s h o ho
    cases List.mem_singleton.mp ho
    exact ⟨hfin s h, fun _ hr => (List.not_mem_nil hr).elim⟩
  | cons it rest ih =>
    intro hn s h
    simp only [List.all_cons, Bool.and_eq_true] at hn
    cases it with
    | one op =>
      simp only [runFromI]
      split
      · exact push (.one .dead) (runFromI c s rest) hdead.1 (ih hn.2 s h)
      · split
        · exact fun o => single (haltState s (step c s op).2) (.one (step c s op).2) o (halt s _ h) (hstep s op h).2
        · exact push (.one (step c s op).2) (runFromI c (step c s op).1 rest) (hstep s op h).2 (ih hn.2 _ (hstep s op h).1)
    | par a b =>
      simp only [runFromI]
      split
      · exact push (.par .dead .dead) (runFromI c s rest) hdead.2 (ih hn.2 s h)
      · intro o ho
        simp only [List.mem_flatMap] at ho
        obtain ⟨po, hpo, ho⟩ := ho
        have := hpar s a b h hn.1 po hpo
        cases po with
        | halt r => exact single (haltState s r) (.one r) o (halt s _ h) this ho
        | done s' ra rb => exact push (.par ra rb) (runFromI c s' rest) this.2 (ih hn.2 s' this.1) o ho

theorem runI_all (k : Kind) (b : Beh) (h0 : P (init c k b).1 ∧ R (.one (init c k b).2)) (items : List Item)
    (hn : items.all ok = true) : ∀ o ∈ runI c k b items, P o.st ∧ ∀ r ∈ o.res, R r := by
  intro o ho
  simp only [runI] at ho
  split at ho
  · cases List.mem_singleton.mp ho
    exact ⟨h0.1, fun r hr => List.mem_singleton.mp hr ▸ h0.2⟩
  · simp only [List.mem_map] at ho
    obtain ⟨o', ho', rfl⟩ := ho
    have := runFromI_all c P R ok hdead hstep hfin hpar items hn _ h0.1 o' ho'
    exact ⟨this.1, fun r hr => by
      rcases List.mem_cons.mp hr with e | e
      · exact e ▸ h0.2
      · exact this.2 r e⟩

end

/-! ### at most one terminal status: whatever overlaps where handleKillEvent takes the entry out in the section
    that looks it up, unless two KILLs overlap in the code before that

A KILL that has looked the task up and whose Kill() has not run yet (thread `[whole kill]`) HOLDS the task: the basic
invariant holds of the state as the holder will see it (`active` forced, as `serve` does). At most one request
holds the task at any time: the repaired handler has made the task inactive for every look-up that follows; before
the repair, because the other request is not a KILL. -/

theorem step_kill_deactivates (c : Cfg) (s : St) (h : (step c s .kill).2.halts = false) :
    (step c s .kill).1.active = false := by
  generalize hop : Op.kill = op at h
  revert h
  fun_cases step c s op with
  | case11 ha | case12 ha => exact fun _ => by simpa using ha
  | case13 | case14 | case16 | case17 => exact fun _ => rfl
  | case15 => nofun
  | _ => cases hop

theorem serve_fst (c : Cfg) (s : St) (op : Op) :
    (serve c s op).1 = { (step c { s with active := true } op).1 with
      active := (step c { s with active := true } op).1.active && s.active } := rfl

theorem serve_snd (c : Cfg) (s : St) (op : Op) : (serve c s op).2 = (step c { s with active := true } op).2 := rfl

/-- Kill() by a request whose look-up found the task: what `step` does to the task as it was found, whatever has
    become of its entry since -/
theorem serve_kill (c : Cfg) (s : St) (hh : (serve c s .kill).2.halts = false) :
    (serve c s .kill).1 = (step c { s with active := true } .kill).1 := by
  have hd := step_kill_deactivates c { s with active := true } hh
  rw [serve_fst, hd]
  exact setActive_self _ hd

/-- the look-up of a KILL that finds the task: the request holds the task as it found it -/
theorem claim_found (c : Cfg) (s : St) (ha : s.active = true) :
    (claim c s .kill).active = !c.killClaimsEntry ∧ { claim c s .kill with active := true } = s := by
  cases hc : c.killClaimsEntry <;> simp [claim, hc, ha, setActive_self s ha]

theorem killThread_nil : killThread [] := Or.inr (Or.inr rfl)

theorem calm_next {p : Part} {rest : List Part} (drop : Bool) (h : calmThread (p :: rest)) :
    calmThread (if drop then [] else rest) := by
  intro q hq
  split at hq
  · cases hq
  · exact h q (List.mem_cons_of_mem _ hq)

/-- What is left of two overlapping requests (`X`, `Y`) and the state of the task: a request that has nothing left
    but Kill() holds the task, no other does, and the basic invariant holds of the state as the holder will see
    it — of the state as it is when nobody holds the task. -/
structure Held (c : Cfg) (s : St) (X Y : List Part) : Prop where
  shX : killThread X ∨ calmThread X
  shY : killThread Y ∨ calmThread Y
  two : c.killClaimsEntry = false → calmThread X ∨ calmThread Y
  free : X ≠ [.whole .kill] → Y ≠ [.whole .kill] → Inv s
  heldX : X = [.whole .kill] → s.active = !c.killClaimsEntry ∧ Inv { s with active := true } ∧ Y ≠ [.whole .kill]
  heldY : Y = [.whole .kill] → s.active = !c.killClaimsEntry ∧ Inv { s with active := true } ∧ X ≠ [.whole .kill]

theorem Held.symm {c : Cfg} {s : St} {X Y : List Part} (h : Held c s X Y) : Held c s Y X :=
  ⟨h.shY, h.shX, fun hc => (h.two hc).symm, fun h1 h2 => h.free h2 h1, h.heldY, h.heldX⟩

theorem held_thread_move (c : Cfg) (s s' : St) (p : Part) (rest Y : List Part) (ans : Option Res) (drop : Bool)
    (h : Held c s (p :: rest) Y) (hp : pstep c s p = .next s' ans drop) :
    Held c s' (if drop then [] else rest) Y := by
  obtain ⟨shX, shY, two, free, heldX, heldY⟩ := h
  have tw : c.killClaimsEntry = false → calmThread (if drop then [] else rest) ∨ calmThread Y :=
    fun hc => (two hc).imp (calm_next drop) id
  rcases shX with kt | ct
  · rcases kt with e | e | e
    · -- the look-up of the KILL
      simp only [List.cons.injEq] at e
      obtain ⟨rfl, rfl⟩ := e
      have hne : [Part.look .kill, .whole .kill] ≠ [.whole .kill] := by simp
      simp only [pstep] at hp
      split at hp
      · cases hp
        refine ⟨Or.inl killThread_nil, shY, tw, fun _ hY => free hne hY, by simp, fun hY => ?_⟩
        obtain ⟨a1, a2, _⟩ := heldY hY
        exact ⟨a1, a2, by simp⟩
      · split at hp
        · -- found: no other request holds the task
          rename_i hact
          cases hp
          have hY : Y ≠ [.whole .kill] := fun hY => by
            cases hc : c.killClaimsEntry
            · rcases two hc with h | h
              · cases h (.look .kill) (List.mem_cons_self ..)
              · exact calm_ne_kill h hY
            · have := (heldY hY).1
              rw [hact, hc] at this; cases this
          obtain ⟨c1, c2⟩ := claim_found c s hact
          exact ⟨Or.inl (Or.inr (Or.inl rfl)), shY, tw, fun h _ => absurd rfl h,
            fun _ => ⟨c1, c2.symm ▸ free hne hY, hY⟩, fun h => absurd h hY⟩
        · -- not found: ignored (before that repair: the loop ends)
          rename_i hact
          have hact' : s.active = false := by simpa using hact
          cases hp
          refine ⟨Or.inl killThread_nil, shY, tw, fun _ hY => step_inv c s .kill (free hne hY), by simp, fun hY => ?_⟩
          obtain ⟨a1, a2, _⟩ := heldY hY
          rw [step_kill_inactive c s hact']
          split
          · exact ⟨a1, a2, by simp⟩
          · exact ⟨a1, { a2 with }, by simp⟩
    · -- Kill() itself, by the request that holds the task
      simp only [List.cons.injEq] at e
      obtain ⟨rfl, rfl⟩ := e
      obtain ⟨_, a2, hY⟩ := heldX rfl
      simp only [pstep] at hp
      split at hp
      · cases hp
      · rename_i hh
        cases hp
        refine ⟨Or.inl killThread_nil, shY, tw, fun _ _ => ?_, by simp, fun h => absurd h hY⟩
        rw [serve_kill c s (by simpa using hh)]
        exact step_inv c _ .kill a2
    · cases e
  · -- a request that is not a KILL
    have hcm := pstep_calm c s s' p ans drop (ct p (List.mem_cons_self ..)) hp
    have ct' := calm_next drop ct
    by_cases hY : Y = [.whole .kill]
    · obtain ⟨a1, a2, _⟩ := heldY hY
      exact ⟨Or.inr ct', shY, tw, fun _ h => absurd hY h, fun h => absurd h (calm_ne_kill ct'),
        fun _ => ⟨hcm.active.trans a1, hcm.forced.inv a2, calm_ne_kill ct'⟩⟩
    · exact ⟨Or.inr ct', shY, tw, fun _ _ => hcm.inv (free (calm_ne_kill ct) hY),
        fun h => absurd h (calm_ne_kill ct'), fun h => absurd h hY⟩

theorem held_move (c : Cfg) (cf cf' : Conf) (ch : Bool) (g : Held c cf.s cf.pa cf.pb) (hm : cf.move c ch = .ok cf') :
    Held c cf'.s cf'.pa cf'.pb := by
  rcases move_cases c cf cf' ch hm with ⟨_, _, rfl⟩ | ⟨p, rest, s', ans, drop, hpa, hp, rfl⟩ | ⟨p, rest, s', ans, drop, hpb, hp, rfl⟩
  · exact g
  · exact held_thread_move c cf.s s' p rest cf.pb ans drop (hpa ▸ g) hp
  · exact (held_thread_move c cf.s s' p rest cf.pa ans drop (hpb ▸ g.symm) hp).symm

/-- the pairs the one-terminal theorem is about: two requests that are not both KILLs -/
def notTwoKills : Item → Bool
  | .one _ => true
  | .par a b => a.isRequest && b.isRequest && !(a = .kill && b = .kill)

def reqItem : Item → Bool
  | .one _ => true
  | .par a b => a.isRequest && b.isRequest

theorem reqItem_of_notTwoKills (it : Item) (h : notTwoKills it = true) : reqItem it = true := by
  cases it <;> simp_all [notTwoKills, reqItem]

theorem reqItem_of_ok (k : Kind) (it : Item) (h : it.ok k = true) : reqItem it = true := by
  cases it <;> simp_all [Item.ok, parOK, reqItem]

/-- the pairs of requests of which every interleaving keeps the basic invariant: any two where the handler of a
    KILL takes the entry out when it finds the task, before that repair not two KILLs -/
def oneHolder (c : Cfg) (it : Item) : Bool := reqItem it && (c.killClaimsEntry || notTwoKills it)

theorem held_start (c : Cfg) (s : St) (a b : Op) (h : Inv s) (hn : oneHolder c (.par a b) = true) :
    Held c s (partsOf s.kind a) (partsOf s.kind b) := by
  simp only [oneHolder, reqItem, notTwoKills, Bool.and_eq_true, Bool.or_eq_true, Bool.not_eq_true',
    Bool.and_eq_false_imp, decide_eq_true_eq, decide_eq_false_iff_not] at hn
  obtain ⟨⟨ra, rb⟩, h2⟩ := hn
  have sh : ∀ op, op.isRequest = true → killThread (partsOf s.kind op) ∨ calmThread (partsOf s.kind op) := by
    intro op hr
    by_cases e : op = .kill
    · subst e; left; simp [partsOf, spawns, killThread]
    · right; exact calm_partsOf _ op hr e
  have nk : ∀ op, partsOf s.kind op ≠ [.whole .kill] := by
    intro op; simp only [partsOf]; split <;> simp
  refine ⟨sh a ra, sh b rb, fun hc => ?_, fun _ _ => h, fun e => absurd e (nk a), fun e => absurd e (nk b)⟩
  have h2 := (h2.resolve_left (by simp [hc])).2
  by_cases ea : a = .kill
  · exact .inr (calm_partsOf _ b rb (h2 ea))
  · exact .inl (calm_partsOf _ a ra ea)

theorem par_inv (c : Cfg) (s s' : St) (a b : Op) (ra rb : Res) (h : Inv s) (hn : oneHolder c (.par a b) = true)
    (hpo : POut.done s' ra rb ∈ parOutcomes c s a b) : Inv s' := by
  rcases parOutcomes_inv c (fun cf => Held c cf.s cf.pa cf.pb) True s a b (fun cf ch cf' => held_move c cf cf' ch)
    (fun _ _ _ _ _ => trivial) (held_start c s a b h hn) hpo with ⟨_, _, e⟩ | ⟨cf, g, ea, eb, e | e⟩
  · cases e
  · cases e; exact g.free (by simp [ea]) (by simp [eb])
  · cases e; exact inv_swap cf.s _ (g.free (by simp [ea]) (by simp [eb]))

theorem runI_inv_of_holder (c : Cfg) (k : Kind) (b : Beh) (items : List Item) (hn : items.all (oneHolder c) = true)
    (o : IOutcome) (ho : o ∈ runI c k b items) : Inv o.st :=
  (runI_all c Inv (fun _ => True) (oneHolder c) ⟨trivial, trivial⟩ (fun s op h => ⟨step_inv c s op h, trivial⟩)
    (fun s h => (finish_eff c s).inv h)
    (fun s a b h hok o ho => by
      cases o with
      | halt r => trivial
      | done s' ra rb => exact ⟨par_inv c s s' a b ra rb h hok ho, trivial⟩)
    k b ⟨(init_launched c k b).inv, trivial⟩ items hn o ho).1

theorem runI_inv_claimed (c : Cfg) (hcl : c.killClaimsEntry = true) (k : Kind) (b : Beh) (items : List Item)
    (hn : items.all reqItem = true) : ∀ o ∈ runI c k b items, Inv o.st := by
  apply runI_inv_of_holder
  simp only [List.all_eq_true] at hn ⊢
  exact fun it hit => by simp [oneHolder, hn it hit, hcl]

theorem runI_inv (c : Cfg) (k : Kind) (b : Beh) (items : List Item) (hn : items.all notTwoKills = true) :
    ∀ o ∈ runI c k b items, Inv o.st := by
  apply runI_inv_of_holder
  simp only [List.all_eq_true] at hn ⊢
  exact fun it hit => by simp [oneHolder, hn it hit, reqItem_of_notTwoKills it (hn it hit)]

theorem pstep_halts_iff (c : Cfg) (s : St) (p : Part) : (pstep c s p).halts = unsafePart c s p := by
  have whole : ∀ op, (serve c s op).2.halts = unsafePart c s (.whole op) := fun op => step_halts_iff c _ op
  fun_cases pstep c s p with
  | case1 | case2 | case3 | case6 | case7 => rfl
  | case4 op _ _ x h => have e := whole op; rw [x] at e; exact h.symm.trans e
  | case5 op _ _ x h => have e := whole op; rw [x] at e; exact (eq_false_of_ne_true h).symm.trans e
  | case8 _ h | case11 _ h => exact h.symm
  | case9 _ h | case10 _ h | case12 _ h => exact (eq_false_of_ne_true h).symm

/-! ### no overlap gets the executor stuck over a basic / hook / data-less task unless a KILL meets a starting child -/

/-- the next part dereferences t.taskCmd -/
def needsCmd : List Part → Bool
  | .exec _ :: _ | .reap _ :: _ => true
  | _ => false

/-- the configurations the overlap no-stuck theorems are about: ensureBasicTaskKilled tests for nil, a KILL for
    a task that is not active is ignored, a launch without data returns (three of the first five repairs) -/
structure Cfg.Repaired (c : Cfg) : Prop where
  stop : c.stopNilSafe = true
  kill : c.killInactiveIgnored = true
  launch : c.launchNilSafe = true

theorem codeCfg_repaired : codeCfg.Repaired := ⟨rfl, rfl, rfl⟩
theorem overlapLegacyCfg_repaired : overlapLegacyCfg.Repaired := ⟨rfl, rfl, rfl⟩

theorem unsafeReq_rep (c : Cfg) (hc : c.Repaired) (s : St) (op : Op) (hk : s.kind ≠ .ctl) : unsafeReq c s op = false := by
  simp [unsafeReq, killNoRpc, hc.stop, hc.kill, hk]

theorem step_rep_not_stuck (c : Cfg) (hc : c.Repaired) (s : St) (op : Op) (hk : s.kind ≠ .ctl) :
    (step c s op).2.stuck = false := by
  rw [step_stuck_iff]; exact unsafeReq_rep c hc s op hk

theorem serve_kind (c : Cfg) (s : St) (op : Op) : (serve c s op).1.kind = s.kind := step_kind c _ op

/-- the next part finds the command it needs: the field is set — or the part does not read the field at all -/
def cmdOk (c : Cfg) (s : St) : Prop := s.cmd = true ∨ c.startOwnsCmd = true

theorem pstep_answer (c : Cfg) (hrep : c.Repaired) {s s' : St} {p : Part} {ans : Option Res} {drop : Bool}
    (hk : s.kind ≠ .ctl) (hp : pstep c s p = .next s' ans drop) :
    s'.kind = s.kind ∧ ∀ r, ans = some r → r.stuck = false := by
  have answer : ∀ h f r, some (spawnAnswer h f) = some r → r.stuck = false := fun h f r e => by
    cases e; cases h <;> cases f <;> rfl
  revert hp
  fun_cases pstep c s p with
  | case4 | case8 | case11 => nofun
  | case1 => rintro ⟨⟩; exact ⟨rfl, fun r e => by cases e; rfl⟩
  | case2 op => rintro ⟨⟩; exact ⟨claim_kind c s op, nofun⟩
  | case3 op _ _ _ _ x =>
    rintro ⟨⟩
    have h1 := step_kind c s op
    have h2 := step_rep_not_stuck c hrep s op hk
    rw [x] at h1 h2
    exact ⟨h1, fun r e => by cases e; exact h2⟩
  | case5 op _ _ x =>
    rintro ⟨⟩
    have h1 := serve_kind c s op
    have h2 : (serve c s op).2.stuck = false := step_rep_not_stuck c hrep { s with active := true } op hk
    rw [x] at h1 h2
    exact ⟨h1, fun r e => by cases e; exact h2⟩
  | case6 | case7 | case10 => rintro ⟨⟩; exact ⟨rfl, nofun⟩
  | case9 | case12 => rintro ⟨⟩; exact ⟨rfl, answer _ _⟩

theorem spawns_kill (k : Kind) : spawns k .kill = false := by cases k <;> simp [spawns]

theorem needsCmd_plain (k : Kind) (op : Op) (h : spawns k op = false) (l : List Part) (hl : l <:+ partsOf k op) :
    needsCmd l = false := by
  simp only [partsOf, h, Bool.false_eq_true, ↓reduceIte, List.suffix_cons_iff, List.suffix_nil] at hl
  rcases hl with rfl | rfl | rfl <;> rfl

/-- the pairs the no-stuck theorem of the code before startBasicTask owned its command is about: two requests, not
    a KILL together with a request that starts a child -/
def noKillSpawn (k : Kind) : Item → Bool
  | .one _ => true
  | .par a b => a.isRequest && b.isRequest && !((a = .kill && spawns k b) || (spawns k a && b = .kill))

/-- the pairs the no-stuck theorem is about in configuration `c`: two requests — any two once startBasicTask works
    on its own pointer, before that not a KILL together with a request that starts a child -/
def safeItem (c : Cfg) (k : Kind) : Item → Bool
  | .one _ => true
  | .par a b => a.isRequest && b.isRequest &&
      (c.startOwnsCmd || !((a = .kill && spawns k b) || (spawns k a && b = .kill)))

theorem safeItem_of_noKillSpawn (c : Cfg) (k : Kind) (it : Item) (h : noKillSpawn k it = true) :
    safeItem c k it = true := by
  cases it with
  | one _ => rfl
  | par a b =>
    simp only [noKillSpawn, Bool.and_eq_true] at h
    simp only [safeItem, h.1.1, h.1.2, h.2, Bool.or_true, Bool.and_self]

theorem safeItem_of_owns (c : Cfg) (hc : c.startOwnsCmd = true) (k : Kind) (it : Item) (h : reqItem it = true) :
    safeItem c k it = true := by
  cases it with
  | one _ => rfl
  | par a b =>
    simp only [reqItem, Bool.and_eq_true] at h
    simp [safeItem, h.1, h.2, hc]

/-- What is left (`X`, `Y`) of two overlapping requests `x`, `y` for a task of kind `k`, their answers so far and
    the state of the task: the next part of either finds the command it needs, and no answer is a stuck result.
    Unless startBasicTask works on its own pointer, a KILL does not overlap a request that starts a child. -/
structure Safe (c : Cfg) (k : Kind) (x y : Op) (s : St) (X : List Part) (rx : Option Res) (Y : List Part)
    (ry : Option Res) : Prop where
  kind : s.kind = k
  reqX : x.isRequest = true
  reqY : y.isRequest = true
  pair : c.startOwnsCmd = true ∨ ((x = .kill → spawns k y = false) ∧ (y = .kill → spawns k x = false))
  tX : X <:+ partsOf k x
  tY : Y <:+ partsOf k y
  cmdX : needsCmd X = true → cmdOk c s
  cmdY : needsCmd Y = true → cmdOk c s
  okX : (rx.getD .none).stuck = false
  okY : (ry.getD .none).stuck = false

theorem Safe.symm {c : Cfg} {k : Kind} {x y : Op} {s : St} {X Y : List Part} {rx ry : Option Res}
    (h : Safe c k x y s X rx Y ry) : Safe c k y x s Y ry X rx :=
  ⟨h.kind, h.reqY, h.reqX, h.pair.imp_right And.symm, h.tY, h.tX, h.cmdY, h.cmdX, h.okY, h.okX⟩

theorem Safe.next {c : Cfg} {k : Kind} {x y : Op} {s : St} {p : Part} {rest Y : List Part} {rx ry : Option Res}
    (h : Safe c k x y s (p :: rest) rx Y ry) (hrep : c.Repaired) (hk : k ≠ .ctl) :
    ∃ s' ans drop, pstep c s p = .next s' ans drop := by
  have hu : unsafePart c s p = false := by
    cases p with
    | whole op => exact unsafeReq_rep c hrep _ op (h.kind ▸ hk)
    | exec | reap => rcases h.cmdX rfl with h | h <;> simp [unsafePart, h]
    | _ => rfl
  cases hp : pstep c s p with
  | next s' ans drop => exact ⟨s', ans, drop, rfl⟩
  | halt r => have := pstep_halts_iff c s p; rw [hp, hu] at this; cases this

theorem thread_move_safe (c : Cfg) (hrep : c.Repaired) (k : Kind) (hk : k ≠ .ctl) (x y : Op) (s s' : St)
    (p : Part) (rest : List Part) (rx : Option Res) (Y : List Part) (ry ans : Option Res) (drop : Bool)
    (h : Safe c k x y s (p :: rest) rx Y ry) (hp : pstep c s p = .next s' ans drop) :
    Safe c k x y s' (if drop then [] else rest) (if ans.isSome then ans else rx) Y ry := by
  obtain ⟨hs, hr, hry, hxy, hl, hY, hc, hcY, hrx, hry'⟩ := h
  obtain ⟨hk', hans⟩ := pstep_answer c hrep (hs ▸ hk) hp
  have hmem := List.IsSuffix.mem (List.mem_cons_self ..) hl
  have keep : x ≠ .kill → cmdOk c s → cmdOk c s' := fun hne h =>
    h.imp (pstep_calm c s s' p ans drop (calm_partsOf k x hr hne p hmem) hp).cmd id
  refine ⟨hk'.trans hs, hr, hry, hxy, ?_, hY, ?_, fun hn => ?_, ?_, hry'⟩
  · cases drop
    · exact (List.suffix_cons p rest).trans hl
    · exact List.nil_suffix
  · cases drop
    · -- the next part needs the command: this one was `prep`, which sets it, or `exec`, which needed it too
      intro hn
      simp only [partsOf] at hl
      split at hl
      · rename_i hsp
        have hbl : s.kind.basicLike = true := hs ▸ basicLike_of_spawns hsp
        have hopk : x ≠ .kill := fun e => by subst e; simp [spawns_kill] at hsp
        simp only [List.suffix_cons_iff, List.suffix_nil, List.cons.injEq] at hl
        rcases hl with ⟨rfl, rfl⟩ | ⟨rfl, rfl⟩ | ⟨rfl, rfl⟩ | ⟨rfl, rfl⟩ | h
        · cases hn
        · simp only [pstep, hbl, ↓reduceIte] at hp
          cases hp; exact .inl rfl
        · exact keep hopk (hc rfl)
        · cases hn
        · cases h
      · simp only [List.suffix_cons_iff, List.suffix_nil, List.cons.injEq] at hl
        rcases hl with ⟨rfl, rfl⟩ | ⟨rfl, rfl⟩ | h
        · cases hn
        · cases hn
        · cases h
    · exact nofun
  · rcases hxy with ho | hxy
    · exact .inr ho
    · by_cases ex : x = .kill
      · rw [needsCmd_plain k y (hxy.1 ex) Y hY] at hn; cases hn
      · exact keep ex (hcY hn)
  · cases ans with
    | none => exact hrx
    | some r => exact hans r rfl

theorem safe_move (c : Cfg) (hrep : c.Repaired) (k : Kind) (hk : k ≠ .ctl) (a b : Op) (cf cf' : Conf) (ch : Bool)
    (g : Safe c k a b cf.s cf.pa cf.ra cf.pb cf.rb) (hm : cf.move c ch = .ok cf') :
    Safe c k a b cf'.s cf'.pa cf'.ra cf'.pb cf'.rb := by
  rcases move_cases c cf cf' ch hm with ⟨_, _, rfl⟩ | ⟨p, rest, s', ans, drop, hpa, hp, rfl⟩ | ⟨p, rest, s', ans, drop, hpb, hp, rfl⟩
  · exact g
  · exact thread_move_safe c hrep k hk a b cf.s s' p rest cf.ra cf.pb cf.rb ans drop (hpa ▸ g) hp
  · exact (thread_move_safe c hrep k hk b a cf.s s' p rest cf.rb cf.pa cf.ra ans drop (hpb ▸ g.symm) hp).symm

theorem safe_start (c : Cfg) (k : Kind) (s : St) (hs : s.kind = k) (a b : Op) (hn : safeItem c k (.par a b) = true) :
    Safe c k a b s (partsOf s.kind a) none (partsOf s.kind b) none := by
  simp only [safeItem, Bool.and_eq_true, Bool.or_eq_true, Bool.not_eq_true', Bool.or_eq_false_iff, Bool.and_eq_false_imp,
    decide_eq_true_eq] at hn
  obtain ⟨⟨ra, rb⟩, hown⟩ := hn
  have h1 : ∀ op, partsOf k op <:+ partsOf k op := fun op => List.suffix_refl _
  have h2 : ∀ op, needsCmd (partsOf k op) = true → cmdOk c s := by
    intro op; simp only [partsOf]; split <;> exact nofun
  refine ⟨hs, ra, rb, hown.imp_right fun h => ⟨h.1, fun eb => ?_⟩, hs ▸ h1 a, hs ▸ h1 b, hs ▸ h2 a, hs ▸ h2 b, rfl, rfl⟩
  cases hsa : spawns k a
  · rfl
  · simpa [eb] using h.2 hsa

theorem runI_noStuck (c : Cfg) (hrep : c.Repaired) (k : Kind) (hk : k ≠ .ctl) (b : Beh) (items : List Item)
    (hn : items.all (safeItem c k) = true) (o : IOutcome) (ho : o ∈ runI c k b items) : noStuckI o.res = true := by
  have hl : (init c k b).2.stuck = false := by
    rw [init_ok c k b (by cases k <;> simp_all [launchCrashes, hrep.launch])]; rfl
  have := (runI_all c (·.kind = k) (·.stuck = false) (safeItem c k) ⟨rfl, rfl⟩
    (fun s op hs => ⟨(step_kind c s op).trans hs, step_rep_not_stuck c hrep s op (hs ▸ hk)⟩)
    (fun s hs => ((finish_eff c s).kind).trans hs)
    (fun s a b' hs hok o ho => by
      rcases parOutcomes_inv c (fun cf => Safe c k a b' cf.s cf.pa cf.ra cf.pb cf.rb) False s a b'
        (fun cf ch cf' => safe_move c hrep k hk a b' cf cf' ch)
        (fun cf ch r g e => by
          obtain ⟨cf', h⟩ := move_ok_of_heads c cf ch (fun p rest e => (e ▸ g).next hrep hk)
            (fun p rest e => (e ▸ g.symm).next hrep hk)
          rw [h] at e; cases e)
        (safe_start c k s hs a b' hok) ho with ⟨h, _⟩ | ⟨cf, g, _, _, e | e⟩
      · exact h.elim
      all_goals
        subst e
        exact ⟨g.kind, by simp [IRes.stuck, g.okX, g.okY]⟩)
    k b ⟨init_kind c k b, hl⟩ items hn o ho).2
  simp only [noStuckI, List.all_eq_true, Bool.not_eq_true']
  exact this

/-! ### the parts of a request, run one after the other, are the step of the sequential model; an overlap has the
    behaviour "A, then B" among its behaviours -/

/-- the parts of one request run without anything in between -/
def runThread (c : Cfg) : List Part → St → Option Res → Except Res (St × Option Res)
  | [], s, r => .ok (s, r)
  | p :: rest, s, r =>
    match pstep c s p with
    | .halt r' => .error r'
    | .next s' ans drop =>
      if drop then .ok (s', if ans.isSome then ans else r)
      else runThread c rest s' (if ans.isSome then ans else r)

theorem prepS_spawn (s : St) (h : s.beh.startFails = true) : prepS s = (spawn s).1 := by
  simp [prepS, spawn, h]

theorem execS_spawn (s : St) (h : s.beh.startFails = false) : execS (prepS s) = (spawn s).1 := by
  simp [prepS, execS, spawn, h]

theorem spawn_snd (s : St) : (spawn s).2 = s.beh.startFails := by
  simp only [spawn]; cases s.beh.startFails <;> rfl

/-- prep, exec, reap in a row are `spawn`: Start() fails and the request ends after exec with what prep did, or it
    succeeds and reap answers after what prep and exec did; `t.taskCmd` is set by prep, so neither part halts -/
theorem runThread_spawn (c : Cfg) (s : St) (h : Bool) (hb : s.kind.basicLike = true) :
    runThread c [.prep h, .exec h, .reap h] s none = .ok ((spawn s).1, some (spawnAnswer h (spawn s).2)) := by
  have hc : (prepS s).cmd = true := rfl
  have hc' : (execS (prepS s)).cmd = true := rfl
  have hbeh : (prepS s).beh = s.beh := rfl
  rw [spawn_snd]
  cases hf : s.beh.startFails
  · rw [← execS_spawn s hf]
    simp [runThread, pstep, hb, hc, hc', hbeh, hf]
  · rw [← prepS_spawn s hf]
    simp [runThread, pstep, hb, hc, hbeh, hf]

theorem step_spawns (c : Cfg) (s : St) (op : Op) (ha : s.active = true) (hsp : spawns s.kind op = true) :
    step c s op = ((spawn s).1, spawnAnswer (s.kind = .hook) (spawn s).2) := by
  simp only [spawns, Bool.or_eq_true, Bool.and_eq_true, decide_eq_true_eq] at hsp
  obtain ⟨hk, rfl⟩ | ⟨hk, rfl⟩ := hsp <;> simp [step, ha, hk, spawnAnswer]

/-- the request served after its own look-up found the task (and, for a KILL of the repaired handler, took the
    entry out): what `step` does -/
theorem serve_claim (c : Cfg) (s : St) (op : Op) (ha : s.active = true) :
    (serve c (claim c s op) op).2 = (step c s op).2 ∧
    ((step c s op).2.halts = false → (serve c (claim c s op) op).1 = (step c s op).1) := by
  simp only [claim]
  split
  · rename_i hcond
    simp only [Bool.and_eq_true, decide_eq_true_eq] at hcond
    obtain ⟨_, rfl⟩ := hcond
    have e : ({ ({ s with active := false } : St) with active := true } : St) = s := setActive_self s ha
    constructor
    · rw [serve_snd, e]
    · intro hh
      rw [serve_kill c { s with active := false } (by rw [serve_snd, e]; exact hh), e]
  · rw [serve_eq_step c s op ha]
    exact ⟨rfl, fun _ => rfl⟩

theorem runThread_is_step (c : Cfg) (s : St) (op : Op) (hl : s.loop = true) (hr : op.isRequest = true) :
    runThread c (partsOf s.kind op) s none =
      if (step c s op).2.halts then .error (step c s op).2 else .ok ((step c s op).1, some (step c s op).2) := by
  cases ha : s.active
  · -- refused by the look-up, inside the handler
    have hnh : (step c s op).2.halts = false := by rw [step_halts_iff, ha]; rfl
    simp only [partsOf]
    split <;> simp [runThread, pstep, hl, ha, hnh]
  · simp only [partsOf]
    split
    · -- a request that starts a child
      rename_i hsp
      have hcl : claim c s op = s := by
        apply claim_of_ne
        intro e; subst e; cases hk : s.kind <;> simp [spawns, hk] at hsp
      have hlook : pstep c s (.look op) = .next s none false := by simp [pstep, hl, ha, hcl]
      have hnh : (spawnAnswer (s.kind = .hook) (spawn s).2).halts = false := by
        simp only [spawnAnswer]; split <;> rfl
      rw [runThread, hlook]
      simp only [Bool.false_eq_true, ↓reduceIte, Option.isSome_none]
      rw [runThread_spawn c s _ (basicLike_of_spawns hsp), step_spawns c s op ha hsp, hnh]
      rfl
    · have hsc := serve_claim c s op ha
      simp only [runThread, pstep, hl, ha, Bool.not_true, Bool.false_eq_true, ↓reduceIte, hsc.1]
      cases hh : (step c s op).2.halts
      · simp [hsc.2 hh]
      · simp

theorem runChoices_done (c : Cfg) (chs : List Bool) (cf : Conf) (ha : cf.pa = []) (hb : cf.pb = []) :
    runChoices c chs cf = .ok cf := by
  induction chs with
  | nil => rfl
  | cons ch rest ih => simp [runChoices, Conf.move, Conf.pickA, ha, hb, ih]

/-- always choosing A: A's parts in a row, then B's -/
theorem runChoices_trues (c : Cfg) (n : Nat) :
    ∀ (cf : Conf), cf.pa.length + cf.pb.length ≤ n →
      runChoices c (List.replicate n true) cf =
        (match runThread c cf.pa cf.s cf.ra with
         | .error r => .error r
         | .ok (s1, r1) =>
           match runThread c cf.pb s1 cf.rb with
           | .error r => .error r
           | .ok (s2, r2) => .ok { s := s2, pa := [], ra := r1, pb := [], rb := r2 }) := by
  induction n with
  | zero =>
    intro ⟨s, pa, ra, pb, rb⟩ h
    obtain ⟨rfl, rfl⟩ : pa = [] ∧ pb = [] := by simpa using h
    rfl
  | succ n ih =>
    intro cf h
    -- choosing A picks B only when A has nothing left
    have hpa : ¬cf.pickA true = true → cf.pa = [] := fun hpick => by
      cases h' : cf.pa with
      | nil => rfl
      | cons p rest => exact absurd (by rw [Conf.pickA, h']; cases cf.pb <;> rfl) hpick
    rw [List.replicate_succ, runChoices]
    fun_cases Conf.move c cf true with
    | case1 hpick hnil => rw [Conf.pickA, hnil] at hpick; cases hpick
    | case2 _ p rest hp r hr => rw [hp, runThread, hr]
    | case3 _ p rest hp s' ans drop hr =>
      refine (ih _ (by cases drop <;> simp [hp] at h ⊢ <;> omega)).trans ?_
      rw [hp, runThread, hr]
      cases drop <;> rfl
    | case4 hpick hnil =>
      exact ih cf (by rw [hpa hpick, hnil]; exact Nat.zero_le n)
    | case5 hpick p rest hp r hr => simp only [hpa hpick, hp, runThread, hr]
    | case6 hpick p rest hp s' ans drop hr =>
      refine (ih _ (by cases drop <;> simp [hpa hpick, hp] at h ⊢ <;> omega)).trans ?_
      simp only [hpa hpick, hp, runThread, hr]
      cases drop <;> rfl

theorem length_partsOf_le (k : Kind) (op : Op) : (partsOf k op).length ≤ 4 := by
  simp only [partsOf]; split <;> simp

theorem par_includes_seq (c : Cfg) (s : St) (a b : Op) (hl : s.loop = true) (hra : a.isRequest = true)
    (hrb : b.isRequest = true) (ha : (step c s a).2.halts = false) (hl' : (step c s a).1.loop = true)
    (hb : (step c (step c s a).1 b).2.halts = false) :
    POut.done (step c (step c s a).1 b).1 (step c s a).2 (step c (step c s a).1 b).2 ∈ parOutcomes c s a b := by
  let n := (partsOf s.kind a).length + (partsOf s.kind b).length
  refine mem_parOutcomes.mpr ⟨List.replicate n true, by simp [n], ?_⟩
  have hrun : parRun c s a b (List.replicate n true) = runChoices c (List.replicate (n + 1) true) (parStart s a b) := by
    simp only [parRun, lookFirst, List.replicate_succ, runChoices]
    cases (parStart s a b).move c true <;> rfl
  rw [hrun, runChoices_trues c (n + 1) (parStart s a b) (by simp [parStart, n])]
  simp only [parStart, runThread_is_step c s a hl hra, ha, Bool.false_eq_true, ↓reduceIte]
  have hk : s.kind = (step c s a).1.kind := (step_kind c s a).symm
  rw [hk, runThread_is_step c (step c s a).1 b hl' hrb]
  simp [hb, POut.ofRun]

theorem noStuck_specPairs (items : List Item) (rs : List IRes) (h : noStuckI rs = true) :
    ∀ x ∈ specPairs items rs, x.2.stuck = false := by
  induction items generalizing rs with
  | nil => intro x hx; simp [specPairs] at hx
  | cons it rest ih =>
    intro x hx
    cases rs with
    | nil => cases it <;> simp [specPairs] at hx
    | cons r rs' =>
      simp only [noStuckI, List.all_cons, Bool.and_eq_true, Bool.not_eq_true'] at h
      cases it with
      | one op =>
        cases r with
        | one r0 =>
          simp only [specPairs, List.mem_cons] at hx
          rcases hx with rfl | hx
          · simpa [IRes.stuck] using h.1
          · exact ih rs' (by simpa [noStuckI] using h.2) x hx
        | par ra rb => simp [specPairs] at hx
      | par a b =>
        cases r with
        | one r0 =>
          simp only [specPairs, List.mem_singleton] at hx
          subst hx
          simpa [IRes.stuck] using h.1
        | par ra rb =>
          have h1 : ra.stuck = false ∧ rb.stuck = false := by simpa [IRes.stuck] using h.1
          simp only [specPairs, List.mem_append] at hx
          rcases hx with hx | hx
          · split at hx <;> simp only [List.mem_cons, List.mem_nil_iff, or_false] at hx <;>
              rcases hx with rfl | rfl <;> simp [h1.1, h1.2]
          · exact ih rs' (by simpa [noStuckI] using h.2) x hx

theorem noStuck_flat (items : List Item) (o : IObs) (h : noStuckI o.res = true) :
    noStuck (o.flat items).2.res = true := by
  simp only [IObs.flat]
  split
  · rename_i r0 rs he
    rw [he] at h
    simp only [noStuckI, List.all_cons, Bool.and_eq_true, Bool.not_eq_true'] at h
    have := noStuck_specPairs items rs (by simpa [noStuckI] using h.2)
    simp only [noStuck, List.all_cons, Bool.and_eq_true, Bool.not_eq_true', List.all_map, List.all_eq_true,
      Function.comp_apply]
    exact ⟨by simpa [IRes.stuck] using h.1, fun x hx => this x hx⟩
  · rfl

theorem runI_noStuck_flat (c : Cfg) (hrep : c.Repaired) (k : Kind) (hk : k ≠ .ctl) (b : Beh) (items : List Item)
    (hn : ∀ it ∈ items, safeItem c k it = true) :
    (runI c k b items).all (fun o => noStuck (o.obs.flat items).2.res) = true :=
  List.all_eq_true.mpr fun o ho =>
    noStuck_flat items o.obs (runI_noStuck c hrep k hk b items (List.all_eq_true.mpr hn) o ho)

theorem emits_flat (items : List Item) (o : IObs) : (o.flat items).2.emits = o.emits := by
  simp only [IObs.flat]; split <;> rfl

theorem oneTerminal_of_inv (items : List Item) (o : IOutcome) (h : Inv o.st) :
    (oneTerminal (o.obs.flat items).2.emits && (!o.st.killed || !o.obs.emits.contains (.term .FAILED))) = true := by
  rw [emits_flat, Bool.and_eq_true]
  refine ⟨by simpa [oneTerminal, IOutcome.obs] using h.le1, ?_⟩
  cases hk : o.st.killed
  · rfl
  · simpa [IOutcome.obs] using h.nof hk

end ExecTask
