/-
  Proofs/ExecTask — lemmas behind Props/C17 (core only).

  `step` is characterised once: `Eff` lists what a step can do to the state, `step_res` says when it gets stuck.
  Every invariant of the runs is a walk over the cases of `Eff` (`Eff.inv`, `Eff.quiet`, …) and reaches the runs
  through one lemma, `runFrom_keeps`; the statements that also read the results of the requests or the `halted` flag
  (`runFrom_noStuck`, `runFrom_marked`, `runFrom_halted_active`, `runFrom_stopped`) have inductions of their own.
-/
import ControlModel.Model.ExecTask
import ControlModel.Spec.C17
namespace ExecTask

theorem terminals_append (a b : List Emit) : terminals (a ++ b) = terminals a + terminals b := by
  simp [terminals, List.filter_append]

theorem terminals_snoc_term (a : List Emit) (f : Fin) : terminals (a ++ [.term f]) = terminals a + 1 := by
  rw [terminals_append]; rfl
@[simp] theorem terminals_snoc_running (a : List Emit) : terminals (a ++ [.running]) = terminals a := by
  rw [terminals_append]; rfl
@[simp] theorem terminals_snoc_btt (a : List Emit) (c p) : terminals (a ++ [bttOf c p]) = terminals a := by
  rw [terminals_append]; cases p <;> rfl

theorem not_mem_of_terminals_zero {f : Fin} {es : List Emit} (h : terminals es = 0) : Emit.term f ∉ es := by
  intro hm
  have : Emit.term f ∈ es.filter Emit.isTerm := List.mem_filter.mpr ⟨hm, rfl⟩
  rw [List.eq_nil_of_length_eq_zero h] at this
  cases this

theorem terminals_cons_zero {x : Emit} {xs : List Emit} (h : terminals (x :: xs) = 0) :
    x.isTerm = false ∧ terminals xs = 0 := by
  cases hx : x.isTerm <;> simp_all [terminals, List.filter]

theorem nothingAfter_append (es l : List Emit) (h : terminals es = 0) : nothingAfter (es ++ l) = nothingAfter l := by
  induction es with
  | nil => rfl
  | cons x xs ih =>
    obtain ⟨hx, hxs⟩ := terminals_cons_zero h
    simp only [List.cons_append, nothingAfter, hx, Bool.false_eq_true, ↓reduceIte, ih hxs]

theorem nothingAfter_snoc (es : List Emit) (e : Emit) (h : terminals es = 0) : nothingAfter (es ++ [e]) = true := by
  rw [nothingAfter_append es _ h]; cases e <;> rfl

theorem nothingAfter_of_terminals_zero (es : List Emit) (h : terminals es = 0) : nothingAfter es = true := by
  have := nothingAfter_append es [] h
  rwa [List.append_nil] at this

theorem noRunningAfter_of_terminals_zero (es : List Emit) (h : terminals es = 0) : noRunningAfter es = true := by
  induction es with
  | nil => rfl
  | cons x xs ih =>
    obtain ⟨hx, hxs⟩ := terminals_cons_zero h
    simp only [noRunningAfter, hx, Bool.false_eq_true, ↓reduceIte, ih hxs]

theorem noRunningAfter_snoc (es : List Emit) (e : Emit) (h : noRunningAfter es = true) (he : e ≠ .running) :
    noRunningAfter (es ++ [e]) = true := by
  induction es with
  | nil => cases e <;> rfl
  | cons x xs ih =>
    cases hx : x.isTerm
    · simp only [List.cons_append, noRunningAfter, hx] at h ⊢
      exact ih h
    · simp only [List.cons_append, noRunningAfter, hx, ↓reduceIte] at h ⊢
      simpa [he.symm] using h

@[simp] theorem term_ne_btt (f : Fin) (c p) : Emit.term f ≠ bttOf c p := by
  cases p <;> simp [bttOf]

theorem bttOf_ne_running (c : Child) (p : Option Fin) : bttOf c p ≠ Emit.running := by
  cases p <;> simp [bttOf]


theorem spawn_fst (s : St) :
    (spawn s).1 = { s with cmd := true, child := if s.beh.startFails then .notStarted else .running, reaped := false,
                           orphans := if s.child = .running then s.orphans + 1 else s.orphans,
                           helpersOld := s.helpers, helpers := s.helpers || (!s.beh.startFails && s.beh.forks) } := by
  simp only [spawn]; split <;> simp [*]

theorem basicLike_of_spawns {k : Kind} {op : Op} (h : spawns k op = true) : k.basicLike = true := by
  cases k <;> simp_all [spawns, Kind.basicLike]

/-- `Eff c s op s'`: `s'` is a state `step c s op` can leave behind — one constructor for each thing a step can do
    to the state, with the new state written out and what the step found when it did it. -/
inductive Eff (c : Cfg) (s : St) : Op → St → Prop
  /-- refused, answered without touching the task, or fatal -/
  | same (op : Op) : Eff c s op s
  | tick : s.kind.basicLike = true → s.timer = true →
      Eff c s .tick { s with timer := false, out := s.out ++ [.running] }
  /-- the reaper of a basic or hook child -/
  | reaped : s.child = .running → s.kind.basicLike = true →
      Eff c s .await { s with child := s.beh.ownEnd, reaped := true, pending := none,
                              out := s.out ++ [bttOf s.beh.ownEnd s.pending] }
  /-- the reaper of a ready controllable task -/
  | ended : s.child = .running → s.kind = .ctl → s.rpc = true → Eff c s .await (reapCtl s s.beh.ownEnd)
  /-- a controllable task that is still dialling: nobody waits for the command -/
  | zombie : s.active = true → s.child = .running → s.kind = .ctl → s.rpc = false →
      Eff c s .await { s with child := s.beh.ownEnd }
  | gaveUp : s.active = true → s.kind = .ctl → s.rpc = false → Eff c s .giveup (giveUp c s)
  | loopExit : s.active = false → c.killInactiveIgnored = false → Eff c s .kill { s with loop := false }
  | killBasic : s.active = true → s.kind.basicLike = true →
      Eff c s .kill { s with cmd := false, active := false, killed := true, timer := s.timer && !c.killStopsTimer,
                             out := s.out ++ [.term .FINISHED] }
  | killCtl : s.active = true → s.kind = .ctl → s.rpc = true →
      Eff c s .kill (reapCtl { s with dev := .DONE, pending := some .FINISHED, sigs := (escalate s.beh).1, killed := true }
                       (escalate s.beh).2)
  | killNodata : s.active = true → s.kind = .nodata → Eff c s .kill { s with active := false }
  /-- startBasicTask -/
  | spawned (op : Op) : s.active = true → spawns s.kind op = true →
      Eff c s op { s with cmd := true, child := if s.beh.startFails then .notStarted else .running, reaped := false,
                          orphans := if s.child = .running then s.orphans + 1 else s.orphans,
                          helpersOld := s.helpers, helpers := s.helpers || (!s.beh.startFails && s.beh.forks) }
  /-- the repaired ensureBasicTaskKilled meets a running child -/
  | stopped : s.active = true → s.child = .running → s.kind = .basic → c.stopNilSafe = true →
      Eff c s .stop { s with child := .signalled, reaped := true, pending := none, helpers := s.helpersOld,
                             out := s.out ++ [bttOf .signalled (some (s.pending.getD .KILLED))] }
  /-- ensureBasicTaskKilled before the repair, after a child that died of a signal -/
  | pushed : s.active = true → s.kind = .basic → c.stopNilSafe = false → Eff c s .stop { s with pending := some .KILLED }
  | moved (op : Op) (dst : Dev) : s.active = true → s.kind = .ctl → s.rpc = true → Eff c s op { s with dev := dst }

theorem stopBasic_eff (c : Cfg) (s : St) (ha : s.active = true) (hk : s.kind = .basic) :
    Eff c s .stop (stopBasic c s).1 := by
  fun_cases stopBasic c s with
  | case1 | case2 | case4 | case5 | case6 | case7 => exact .same _
  | case3 _ hn _ hc p =>
    have e := Eff.stopped ha hc hk hn
    cases hp : s.pending <;> simp only [p, hp, Option.getD] at e ⊢ <;> exact e
  | case8 _ hn => exact .pushed ha hk (eq_false_of_ne_true hn)

theorem ctlTransition_eff (c : Cfg) (s : St) (op : Op) (ha : s.active = true) (hk : s.kind = .ctl) :
    Eff c s op (ctlTransition s op).1 := by
  fun_cases ctlTransition s op with
  | case1 | case3 | case4 => exact .same _
  | case2 hr => exact .moved _ _ ha hk (Bool.not_not_eq.mp hr)

theorem step_eff (c : Cfg) (s : St) (op : Op) : Eff c s op (step c s op).1 := by
  fun_cases step c s op with
  | case2 | case3 | case7 | case8 | case10 | case11 | case15 | case18 | case20 | case21 | case25 | case27 | case28
  | case32 | case34 | case35 | case38 | case39 | case41 => exact .same _
  -- the inner `match op` of the START/STOP/CONF branch, against the outer one
  | case23 | case24 | case29 | case31 | case36 | case37 => contradiction
  | case1 hk ht => exact .tick hk ht
  | case4 hc _ hk => exact .reaped hc hk
  | case5 hc _ _ h =>
    simp only [Bool.and_eq_true, decide_eq_true_eq] at h
    exact .ended hc h.1 h.2
  | case6 hc _ _ hr h =>
    simp only [Bool.and_eq_true, decide_eq_true_eq] at h
    exact .zombie h.2 hc h.1 (by simpa [h.1] using hr)
  | case9 h =>
    simp only [Bool.and_eq_true, decide_eq_true_eq, Bool.not_eq_true'] at h
    exact .gaveUp h.1.2 h.1.1 h.2
  | case12 ha h => exact .loopExit (by simpa using ha) (eq_false_of_ne_true h)
  | case13 ha hk | case14 ha hk => exact .killBasic (Bool.not_not_eq.mp ha) (by simp [hk, Kind.basicLike])
  | case16 ha hk hr _ _ x =>
    have e := Eff.killCtl (c := c) (Bool.not_not_eq.mp ha) hk (Bool.not_not_eq.mp hr)
    rwa [x] at e
  | case17 ha hk => exact .killNodata (Bool.not_not_eq.mp ha) hk
  | case19 ha hk s' _ x | case22 ha hk s' _ x =>
    obtain rfl : (spawn s).1 = s' := congrArg Prod.fst x
    rw [spawn_fst]
    exact .spawned _ (Bool.not_not_eq.mp ha) (by simp [spawns, hk])
  | case26 ha hk | case33 ha hk | case40 ha hk => exact ctlTransition_eff c s _ (Bool.not_not_eq.mp ha) hk
  | case30 ha hk => exact stopBasic_eff c s (Bool.not_not_eq.mp ha) hk


variable {c : Cfg} {s s' : St} {op : Op}

theorem Eff.kind (e : Eff c s op s') : s'.kind = s.kind := by
  cases e <;> rfl

theorem step_kind (c : Cfg) (s : St) (op : Op) : (step c s op).1.kind = s.kind := (step_eff c s op).kind

theorem finish_eff (c : Cfg) (s : St) : Eff c s .tick (finish s) := by
  simp only [finish]
  split
  · rename_i h
    simp only [Bool.and_eq_true] at h
    exact .tick h.1.1 h.1.2
  · exact .same _

/-! ### the basic invariant: at most one terminal status, and only for a task that is no longer active -/

/-- `le1` is the property; the rest makes it inductive: a terminal status needs an active task and ends that (`act`), a
    killed task stays inactive (`kil`). -/
structure Inv (s : St) : Prop where
  le1 : terminals s.out ≤ 1
  act : s.active = true → terminals s.out = 0
  rpc : s.rpc = true → s.active = true
  rpcCtl : s.rpc = true → s.kind = .ctl
  kil : s.killed = true → s.active = false
  nof : s.killed = true → Emit.term .FAILED ∉ s.out

/-- `s'` differs from `s` in nothing the basic invariant looks at, and has not lost the command -/
structure Calm (s s' : St) : Prop where
  kind : s'.kind = s.kind
  active : s'.active = s.active
  rpc : s'.rpc = s.rpc
  killed : s'.killed = s.killed
  terms : terminals s'.out = terminals s.out
  failed : Emit.term .FAILED ∈ s'.out → Emit.term .FAILED ∈ s.out
  cmd : s.cmd = true → s'.cmd = true

theorem Calm.refl (s : St) : Calm s s := ⟨rfl, rfl, rfl, rfl, rfl, id, id⟩

theorem Calm.inv {s s' : St} (hc : Calm s s') (h : Inv s) : Inv s' := by
  refine ⟨hc.terms ▸ h.le1, ?_, ?_, ?_, ?_, fun hk' hm => h.nof (hc.killed ▸ hk') (hc.failed hm)⟩
  · rw [hc.active, hc.terms]; exact h.act
  · rw [hc.rpc, hc.active]; exact h.rpc
  · rw [hc.rpc, hc.kind]; exact h.rpcCtl
  · rw [hc.killed, hc.active]; exact h.kil

theorem Inv.terminal {s s' : St} (h : Inv s) (f : Fin) (ha : s.active = true)
    (ha' : s'.active = false) (hr : s'.rpc = false) (hout : s'.out = s.out ++ [.term f])
    (hf : s'.killed = true → f ≠ .FAILED) : Inv s' := by
  have h0 := h.act ha
  refine ⟨?_, ?_, ?_, ?_, fun _ => ha', ?_⟩
  · rw [hout, terminals_snoc_term, h0]; exact Nat.le_refl 1
  · rw [ha']; exact nofun
  · rw [hr]; exact nofun
  · rw [hr]; exact nofun
  · intro hd hm
    rw [hout, List.mem_append, List.mem_singleton] at hm
    rcases hm with hm | hm
    · exact not_mem_of_terminals_zero h0 hm
    · exact hf hd (Emit.term.inj hm).symm

theorem Eff.inv (e : Eff c s op s') (h : Inv s) : Inv s' := by
  have live : s.active = true → s.killed = true → False := fun ha hd => by
    rw [h.kil hd] at ha; cases ha
  cases e with
  | same | loopExit | pushed | moved | zombie | spawned => exact { h with }   -- nothing the invariant mentions changes
  | tick => exact Calm.inv (s := s) ⟨rfl, rfl, rfl, rfl, terminals_snoc_running _, by simp, id⟩ h
  | reaped | stopped => exact Calm.inv (s := s) ⟨rfl, rfl, rfl, rfl, terminals_snoc_btt _ _ _, by simp, id⟩ h
  | killNodata _ hk =>
    exact { h with act := nofun, kil := fun _ => rfl, rpc := fun hr => by rw [h.rpcCtl hr] at hk; cases hk }
  | ended _ _ hr =>
    have ha := h.rpc hr
    exact h.terminal _ ha rfl rfl rfl (fun hd => (live ha hd).elim)
  | gaveUp ha _ hr =>
    exact h.terminal .FAILED ha rfl hr rfl (fun hd => (live ha hd).elim)
  | killBasic ha hb =>
    refine h.terminal .FINISHED ha rfl ?_ rfl (fun _ => nofun)
    cases hr : s.rpc
    · rfl
    · rw [h.rpcCtl hr] at hb; cases hb
  | killCtl ha => exact h.terminal .FINISHED ha rfl rfl rfl (fun _ => nofun)

theorem step_inv (c : Cfg) (s : St) (op : Op) (h : Inv s) : Inv (step c s op).1 := (step_eff c s op).inv h

/-- only a basic or hook task is restarted: no other kind leaves a child unreferenced -/
def NoOrph (s : St) : Prop := s.kind.basicLike = false → s.orphans = 0

theorem Eff.noOrph (e : Eff c s op s') (h : NoOrph s) : NoOrph s' := by
  cases e with
  | spawned _ _ hs => exact fun hb => nomatch (basicLike_of_spawns hs).symm.trans hb
  | _ => exact h


/-! ### TASK_RUNNING never follows the terminal status (needs: no KILL of a basic/hook task whose timer is armed,
    unless Kill stops the timer) -/

/-- the armed timer belongs to a basic or hook task without terminal status -/
structure Armed (s : St) : Prop where
  nr : noRunningAfter s.out = true
  tim : s.timer = true → terminals s.out = 0 ∧ s.kind.basicLike = true

theorem killArmedIn_off {c : Cfg} (hc : c.killStopsTimer = true) (s : St) (op : Op) : killArmedIn c s op = false := by
  simp [killArmedIn, hc]

theorem Eff.armed (e : Eff c s op s') (h : Armed s) (hna : killArmedIn c s op = false) : Armed s' := by
  have ctl : s.kind = .ctl → s.timer = true → False := fun hk ht => by
    have := (h.tim ht).2; rw [hk] at this; cases this
  cases e with
  | same | loopExit | pushed | moved | killNodata | zombie | spawned => exact { h with }
  | tick _ ht => exact ⟨noRunningAfter_of_terminals_zero _ (by simpa using (h.tim ht).1), nofun⟩
  | reaped | stopped =>
    exact ⟨noRunningAfter_snoc _ _ h.nr (bttOf_ne_running _ _), fun ht => by simpa using h.tim ht⟩
  | ended _ hk | gaveUp _ hk | killCtl _ hk =>
    exact ⟨noRunningAfter_snoc _ _ h.nr nofun, fun ht => (ctl hk ht).elim⟩
  | killBasic ha hb =>
    have off : (s.timer && !c.killStopsTimer) = false := by
      revert hna
      simp only [killArmedIn, killArmed, ha, hb]
      cases s.timer <;> cases c.killStopsTimer <;> decide
    exact ⟨noRunningAfter_snoc _ _ h.nr nofun, fun ht => nomatch off.symm.trans ht⟩

/-! ### nothing after the terminal status (needs also: no KILL of a basic/hook task one of whose processes is alive) -/

/-- once the terminal status of a basic or hook task is out, no child of it is left that could end (and its timer is
    off: `Armed`) -/
structure Quiet (s : St) : Prop where
  na : nothingAfter s.out = true
  idle : 1 ≤ terminals s.out → s.kind.basicLike = true → s.child ≠ .running

theorem Quiet.of_zero {s : St} (h : terminals s.out = 0) : Quiet s :=
  ⟨nothingAfter_of_terminals_zero _ h, fun h1 => by omega⟩

theorem Quiet.zero {s : St} (h : Quiet s) (hb : s.kind.basicLike = true) (hc : s.child = .running) :
    terminals s.out = 0 := by
  cases ht : terminals s.out with
  | zero => rfl
  | succ n => exact absurd hc (h.idle (by omega) hb)

theorem Eff.quiet (e : Eff c s op s') (hi : Inv s) (ht : Armed s) (h : Quiet s) (hnl : killLive s op = false) :
    Quiet s' := by
  have notBasic : s.kind = .ctl → s.kind.basicLike = true → False := fun hk hb => by rw [hk] at hb; cases hb
  cases e with
  | same | loopExit | pushed | moved | killNodata => exact { h with }
  | zombie _ _ hk => exact ⟨h.na, fun _ hb => (notBasic hk hb).elim⟩
  | tick _ htm => exact .of_zero (by simpa using (ht.tim htm).1)
  | reaped hc hb => exact .of_zero (by simpa using h.zero hb hc)
  | stopped _ hc hk => exact .of_zero (by simpa using h.zero (by rw [hk]; rfl) hc)
  | spawned _ ha => exact .of_zero (hi.act ha)
  | ended _ hk hr => exact ⟨nothingAfter_snoc _ _ (hi.act (hi.rpc hr)), fun _ hb => (notBasic hk hb).elim⟩
  | gaveUp ha hk | killCtl ha hk => exact ⟨nothingAfter_snoc _ _ (hi.act ha), fun _ hb => (notBasic hk hb).elim⟩
  | killBasic ha hb =>
    exact ⟨nothingAfter_snoc _ _ (hi.act ha), fun _ _ hc => by
      simp [killLive, St.alive, ha, hb, show s.child = .running from hc] at hnl⟩


theorem neverFrom_dead (c : Cfg) (Q : St → Op → Bool) (s : St) (h : s.loop = false) (ops : List Op) :
    neverFrom c Q s ops = true := by
  cases ops <;> simp [neverFrom, h]

theorem neverFrom_cons {c : Cfg} {Q : St → Op → Bool} {s : St} {op : Op} {ops : List Op} (hl : s.loop = true)
    (h : neverFrom c Q s (op :: ops) = true) :
    Q s op = false ∧ ((step c s op).2.halts = false → neverFrom c Q (step c s op).1 ops = true) := by
  simp only [neverFrom, hl, Bool.not_true, Bool.false_eq_true, ↓reduceIte] at h
  cases hq : Q s op
  · simp only [hq, Bool.false_eq_true, ↓reduceIte] at h
    exact ⟨rfl, fun hh => by simpa [hh] using h⟩
  · simp [hq] at h

theorem neverFrom_of_keeps (c : Cfg) (P : St → Prop) (Q : St → Op → Bool)
    (hstep : ∀ s op s', Eff c s op s' → P s → P s') (hQ : ∀ s op, P s → Q s op = false) :
    ∀ (ops : List Op) (s : St), P s → neverFrom c Q s ops = true
  | [], _, _ => rfl
  | op :: ops, s, h => by
    simp only [neverFrom, hQ s op h, Bool.false_eq_true, ↓reduceIte]
    split
    · rfl
    · split
      · rfl
      · exact neverFrom_of_keeps c P Q hstep hQ ops _ (hstep s op _ (step_eff c s op) h)

theorem neverFrom_of_false (c : Cfg) (Q : St → Op → Bool) (hQ : ∀ s op, Q s op = false) (ops : List Op) (s : St) :
    neverFrom c Q s ops = true :=
  neverFrom_of_keeps c (fun _ => True) Q (fun _ _ _ _ _ => trivial) (fun s op _ => hQ s op) ops s trivial

theorem haltState_cases (s : St) (r : Res) : haltState s r = s ∨ haltState s r = finish s := by
  cases r <;> first | exact .inl rfl | exact .inr rfl

section
variable (c : Cfg) (P : St → Prop) (Q : St → Op → Bool)
  (hstep : ∀ s op s', Eff c s op s' → Q s op = false → P s → P s') (hQ : ∀ s, Q s .tick = false)
include hstep hQ

/-- The end of the schedule is one more `tick` (`finish_eff`): hence `hQ`. -/
theorem runFrom_keeps : ∀ (ops : List Op) (s : St), neverFrom c Q s ops = true → P s → P (runFrom c s ops).st
  | [], s, _, h => hstep s .tick _ (finish_eff c s) (hQ s) h
  | op :: ops, s, hn, h => by
    simp only [runFrom]
    split
    · rename_i hl
      exact runFrom_keeps ops s (neverFrom_dead c Q s (by simpa using hl) ops) h
    · rename_i hl
      obtain ⟨hq, hn'⟩ := neverFrom_cons (by simpa using hl) hn
      split
      · rcases haltState_cases s (step c s op).2 with e | e <;> rw [e]
        · exact h
        · exact hstep s .tick _ (finish_eff c s) (hQ s) h
      · rename_i hh
        exact runFrom_keeps ops _ (hn' (by simpa using hh)) (hstep s op _ (step_eff c s op) hq h)

theorem run_keeps (k : Kind) (b : Beh) (ops : List Op) (hn : never c Q k b ops = true) (h : P (init c k b).1) : P (run c k b ops).st := by
  simp only [run, never] at hn ⊢
  split
  · exact h
  · rename_i hh
    simp only [hh] at hn
    exact runFrom_keeps c P Q hstep hQ ops _ hn h

end


theorem never_of_false (c : Cfg) (Q : St → Op → Bool) (hQ : ∀ s op, Q s op = false) (k : Kind) (b : Beh)
    (ops : List Op) : never c Q k b ops = true := by
  simp only [never]
  split
  · rfl
  · exact neverFrom_of_false c Q hQ ops _

theorem runFrom_always (c : Cfg) (P : St → Prop) (hstep : ∀ s op s', Eff c s op s' → P s → P s') (ops : List Op)
    (s : St) (h : P s) : P (runFrom c s ops).st :=
  runFrom_keeps c P (fun _ _ => false) (fun s op s' e _ => hstep s op s' e) (fun _ => rfl) ops s
    (neverFrom_of_false c _ (fun _ _ => rfl) ops s) h

theorem run_always (c : Cfg) (P : St → Prop) (hstep : ∀ s op s', Eff c s op s' → P s → P s') (k : Kind) (b : Beh)
    (ops : List Op) (h : P (init c k b).1) : P (run c k b ops).st :=
  run_keeps c P (fun _ _ => false) (fun s op s' e _ => hstep s op s' e) (fun _ => rfl) k b ops
    (never_of_false c _ (fun _ _ => rfl) k b ops) h

theorem neverFrom_or (c : Cfg) (Q R : St → Op → Bool) :
    ∀ (ops : List Op) (s : St), neverFrom c Q s ops = true → neverFrom c R s ops = true →
      neverFrom c (fun s op => Q s op || R s op) s ops = true
  | [], _, _, _ => rfl
  | op :: ops, s, hq, hr => by
    cases hl : s.loop
    · exact neverFrom_dead c _ s hl _
    · obtain ⟨q1, q2⟩ := neverFrom_cons hl hq
      obtain ⟨r1, r2⟩ := neverFrom_cons hl hr
      simp only [neverFrom, hl, q1, r1, Bool.not_true, Bool.or_self, Bool.false_eq_true, ↓reduceIte]
      split
      · rfl
      · rename_i hh
        exact neverFrom_or c Q R ops _ (q2 (by simpa using hh)) (r2 (by simpa using hh))

theorem never_or (c : Cfg) (Q R : St → Op → Bool) (k : Kind) (b : Beh) (ops : List Op)
    (hq : never c Q k b ops = true) (hr : never c R k b ops = true) :
    never c (fun s op => Q s op || R s op) k b ops = true := by
  simp only [never] at hq hr ⊢
  split
  · rfl
  · rename_i hh
    simp only [hh] at hq hr
    exact neverFrom_or c Q R ops _ hq hr

theorem run_of_halts (c : Cfg) (k : Kind) (b : Beh) (ops : List Op) (h : (init c k b).2.halts = true) :
    run c k b ops = { st := (init c k b).1, res := [(init c k b).2], halted := true } := by
  simp [run, h]

theorem run_of_not_halts (c : Cfg) (k : Kind) (b : Beh) (ops : List Op) (h : (init c k b).2.halts = false) :
    run c k b ops = { st := (runFrom c (init c k b).1 ops).st,
                      res := (init c k b).2 :: (runFrom c (init c k b).1 ops).res,
                      halted := (runFrom c (init c k b).1 ops).halted } := by
  simp [run, h]


theorem stuck_of_halts {r : Res} (h : r.halts = true) : r.stuck = true := by
  cases r <;> first | rfl | cases h

theorem not_halts_of_not_stuck {r : Res} (h : r.stuck = false) : r.halts = false := by
  cases r <;> first | rfl | cases h

theorem ctlTransition_stuck (s : St) (op : Op) : (ctlTransition s op).2.stuck = false := by
  fun_cases ctlTransition s op with
  | _ => rfl

/-- The unsafe request states by request: none but for STOP and KILL, two each for those. -/
theorem unsafeReq_other (c : Cfg) (s : St) {op : Op} (h1 : op ≠ .stop) (h2 : op ≠ .kill) : unsafeReq c s op = false := by
  simp [unsafeReq, stopUnreaped, stopChannelFull, killNoRpc, killInactive, h1, h2]

theorem unsafeReq_kill (c : Cfg) (s : St) :
    unsafeReq c s .kill = (killNoRpc s .kill || (!c.killInactiveIgnored && killInactive s .kill)) := by
  simp [unsafeReq, stopUnreaped, stopChannelFull]

theorem unsafeReq_stop (c : Cfg) (s : St) :
    unsafeReq c s .stop = (!c.stopNilSafe && (stopUnreaped s .stop || stopChannelFull s .stop)) := by
  simp [unsafeReq, killNoRpc, killInactive]

/-- The shape of `step_res` in a branch that is not stuck, where no unsafe state holds. -/
theorem res_safe {r : Res} {u : Bool} (a : Bool) (hr : r.stuck = false) (hu : u = false) :
    r.stuck = u ∧ r.halts = (a && u) := by
  rw [hu, hr, not_halts_of_not_stuck hr, Bool.and_false]; exact ⟨rfl, rfl⟩

/-- ensureBasicTaskKilled panics in `stopUnreaped` (case5) and blocks in `stopChannelFull` (case7). -/
theorem stopBasic_res (c : Cfg) (s : St) (ha : s.active = true) (hk : s.kind = .basic) :
    (stopBasic c s).2.stuck = unsafeReq c s .stop ∧ (stopBasic c s).2.halts = (s.active && unsafeReq c s .stop) := by
  rw [unsafeReq_stop]
  fun_cases stopBasic c s with
  | case1 | case6 => exact res_safe _ rfl (by simp_all [stopUnreaped, stopChannelFull])
  | case2 | case3 | case4 => exact res_safe _ rfl (by simp_all)
  | case5 => simp_all [stopUnreaped, Res.stuck, Res.halts]
  | case7 | case8 => cases hc : s.child <;> simp_all [stopUnreaped, stopChannelFull, Res.stuck, Res.halts]

/-- A step is stuck exactly in the unsafe request states, and halts (panic, blocked for ever) in those of them
    in which the look-up found the task: the one in which it did not ends the event loop instead. -/
theorem step_res (c : Cfg) (s : St) (op : Op) :
    (step c s op).2.stuck = unsafeReq c s op ∧ (step c s op).2.halts = (s.active && unsafeReq c s op) := by
  fun_cases step c s op with
  -- the inner `match op` of the START/STOP/CONF branch, against the outer one
  | case23 | case24 | case29 | case31 | case36 | case37 => contradiction
  -- KILL: the entry is gone and that is not ignored (case12), the rpc client is nil (case15)
  | case11 | case13 | case14 | case16 | case17 =>
    exact res_safe _ rfl (by simp_all [unsafeReq_kill, killNoRpc, killInactive])
  | case12 => simp_all [unsafeReq_kill, killInactive, Res.stuck, Res.halts]
  | case15 => simp_all [unsafeReq_kill, killNoRpc, Res.stuck, Res.halts]
  -- STOP: only ensureBasicTaskKilled (case30) can get stuck
  | case28 | case32 | case34 => exact res_safe _ rfl (by simp_all [unsafeReq_stop, stopUnreaped, stopChannelFull])
  | case33 => exact res_safe _ (ctlTransition_stuck ..) (by simp_all [unsafeReq_stop, stopUnreaped, stopChannelFull])
  | case30 ha hk => exact stopBasic_res c s (Bool.not_not_eq.mp ha) hk
  | case26 | case40 => exact res_safe _ (ctlTransition_stuck ..) (unsafeReq_other c s nofun nofun)
  | _ => exact res_safe _ rfl (unsafeReq_other c s nofun nofun)

theorem unsafeReq_code : unsafeReq codeCfg = killNoRpc := by
  funext s op; simp [unsafeReq, codeCfg]

theorem step_stuck_iff (c : Cfg) (s : St) (op : Op) : (step c s op).2.stuck = unsafeReq c s op := (step_res c s op).1

theorem step_halts_iff (c : Cfg) (s : St) (op : Op) : (step c s op).2.halts = (s.active && unsafeReq c s op) :=
  (step_res c s op).2

theorem step_halts_active (c : Cfg) (s : St) (op : Op) (h : (step c s op).2.halts = true) : s.active = true := by
  rw [step_halts_iff, Bool.and_eq_true] at h; exact h.1

theorem runFrom_noStuck (c : Cfg) (ops : List Op) (s : St) :
    noStuck (runFrom c s ops).res = neverFrom c (unsafeReq c) s ops := by
  fun_induction runFrom c s ops with
  | case1 => rfl
  | case2 s op ops hl _ ih =>
    rw [neverFrom_dead c _ s (by simpa using hl)] at ih ⊢
    exact ih
  | case3 s op ops hl s' r e hh =>
    have := stuck_of_halts hh
    simp [noStuck, neverFrom, hl, ← step_stuck_iff, e, this]
  | case4 s op ops hl s' r e hh _ ih =>
    simp only [neverFrom, hl, ← step_stuck_iff, e, hh, ← ih, noStuck, List.all_cons]
    cases r.stuck <;> first | rfl | simp


section
variable (c : Cfg) (flag : St → Bool) (o : Op) (scan scanOk : List Op → List Res → Bool)
  (hscan : ∀ op ops r rs, scan (op :: ops) (r :: rs) = ((op = o && r = .ok) || scan ops rs))
  (hnil : ∀ rs, scan [] rs = false) (hnil' : ∀ ops, scan ops [] = false)
  (hok : ∀ ops r rs, scanOk ops (r :: rs) = scan ops rs)
  (hmono : ∀ s op s', Eff c s op s' → flag s = true → flag s' = true)
  (hset : ∀ s, (step c s o).2 = .ok → flag (step c s o).1 = true)
include hscan hnil hnil' hmono hset

/-- `flag` is a mark no step takes back and the request `o`, carried out, sets (`killed`, `gaveUp`); `scan` looks
    for a carried-out `o` in a schedule and its results (`killOkFrom`, `gaveUpFrom`): if it finds one, the mark is
    set at the end of the run. -/
theorem runFrom_marked (ops : List Op) (s : St) : scan ops (runFrom c s ops).res = true →
    flag (runFrom c s ops).st = true := by
  fun_induction runFrom c s ops with
  | case1 => rw [hnil]; exact nofun
  | case2 _ _ _ _ _ ih => rw [hscan]; simpa using ih
  | case3 _ _ _ _ _ r _ hh =>
    have : r ≠ .ok := fun e => by rw [e] at hh; cases hh
    simp [hscan, hnil', this]
  | case4 s op ops _ s' r e _ _ ih =>
    rw [hscan, Bool.or_eq_true, Bool.and_eq_true, decide_eq_true_eq, decide_eq_true_eq]
    rintro (⟨rfl, rfl⟩ | h)
    · have := hset s (by rw [e])
      rw [e] at this
      exact runFrom_always c (flag · = true) hmono ops _ this
    · exact ih h

include hok

/-- `scanOk` (`killOk`, `gaveUpOk`) reads the results of a whole run: those of the schedule follow LAUNCH's -/
theorem run_marked (k : Kind) (b : Beh) (ops : List Op) (h : scanOk ops (run c k b ops).res = true) :
    (init c k b).2.halts = false ∧ flag (runFrom c (init c k b).1 ops).st = true := by
  cases hh : (init c k b).2.halts
  · rw [run_of_not_halts c k b ops hh, hok] at h
    exact ⟨rfl, runFrom_marked c flag o scan hscan hnil hnil' hmono hset ops _ h⟩
  · rw [run_of_halts c k b ops hh, hok, hnil'] at h
    cases h

end

theorem Eff.killed_mono (e : Eff c s op s') : s.killed = true → s'.killed = true := by
  cases e with
  | killBasic | killCtl => exact fun _ => rfl
  | _ => exact id

theorem step_kill_ok (c : Cfg) (s : St) (h : (step c s .kill).2 = .ok) : (step c s .kill).1.killed = true := by
  generalize hop : Op.kill = op at h
  revert h
  fun_cases step c s op with
  | case13 | case14 | case16 => exact fun _ => rfl
  | case11 | case12 | case15 | case17 => nofun
  | _ => cases hop

theorem run_killOk (c : Cfg) (k : Kind) (b : Beh) (ops : List Op) (h : killOk ops (run c k b ops).res = true) :
    (init c k b).2.halts = false ∧ (runFrom c (init c k b).1 ops).st.killed = true :=
  run_marked c (·.killed) .kill killOkFrom killOk (fun _ _ _ _ => rfl) (fun _ => rfl) (fun ops => by cases ops <;> rfl)
    (fun _ _ _ => rfl) (fun _ _ _ e => e.killed_mono) (step_kill_ok c) k b ops h

theorem runFrom_halted_active (c : Cfg) (ops : List Op) (s : St) :
    (runFrom c s ops).halted = true → (runFrom c s ops).st.active = true := by
  fun_induction runFrom c s ops with
  | case1 => exact nofun
  | case2 _ _ _ _ _ ih | case4 _ _ _ _ _ _ _ _ _ ih => exact ih
  | case3 s op _ _ _ r e hh =>
    have ha := step_halts_active c s op (e ▸ hh)
    rcases haltState_cases s r with e | e <;> rw [e]
    · exact fun _ => ha
    · simp only [finish]; split <;> exact fun _ => ha


theorem ownEnd_ne_running (b : Beh) : b.ownEnd ≠ Child.running := by cases b <;> decide

@[simp] theorem escalate_ne_running (b : Beh) : (escalate b).2 ≠ Child.running := by cases b <;> decide

/-- nothing of the task is in activeTasks and nothing of it runs -/
def Dead (s : St) : Prop := s.active = false ∧ s.alive = false

/-- only a request that finds the task, or a running child that ends, changes anything -/
theorem Eff.dead (e : Eff c s op s') (h : Dead s) : Dead s' := by
  have child : s.child = .running → False := fun hc => by
    have := h.2; simp [St.alive, hc] at this
  have act : s.active = true → False := fun ha => by rw [h.1] at ha; cases ha
  cases e with
  | same | tick | loopExit => exact h
  | reaped hc | ended hc => exact (child hc).elim
  | zombie ha | gaveUp ha | killBasic ha | killCtl ha | killNodata ha | spawned _ ha | stopped ha | pushed ha
  | moved _ _ ha => exact (act ha).elim

/-- after a carried-out KILL nothing of the task is left -/
def Surv (s : St) : Prop := s.killed = true → Dead s

theorem Eff.surv (e : Eff c s op s') (hi : NoOrph s) (h : Surv s)
    (hnl : killLive s op = false) (hnh : killHelpers s op = false) : Surv s' := by
  have keep : s.killed = true → Dead s' := fun hd => e.dead (h hd)
  cases e with
  | killBasic ha hb => exact fun _ => ⟨rfl, (by simpa [killLive, ha, hb] using hnl : s.alive = false)⟩
  | killCtl ha hk hr =>
    refine fun _ => ⟨rfl, ?_⟩
    have ho := hi (by rw [hk]; rfl)
    have hh : s.helpers = false := by simpa [killHelpers, ha, hk, hr] using hnh
    simp [St.alive, reapCtl, ho, hh]
  | _ => exact keep


theorem runFrom_dead_end (c : Cfg) (s : St) (ops : List Op) (h : Dead (runFrom c s ops).st) :
    (runFrom c s ops).halted = false ∧ (runFrom c s ops).st.alive = false := by
  refine ⟨?_, h.2⟩
  cases hh : (runFrom c s ops).halted
  · rfl
  · have := runFrom_halted_active c ops s hh
    rw [h.1] at this; cases this

theorem runFrom_survivors (c : Cfg) (s : St) (ops : List Op) (hi : NoOrph s) (hs : Surv s)
    (hl : neverFrom c killLive s ops = true) (hh : neverFrom c killHelpers s ops = true)
    (hk : (runFrom c s ops).st.killed = true) :
    (runFrom c s ops).halted = false ∧ (runFrom c s ops).st.alive = false := by
  have := runFrom_keeps c (fun s => NoOrph s ∧ Surv s) (fun s op => killLive s op || killHelpers s op)
    (fun s op s' e hq h => by
      rw [Bool.or_eq_false_iff] at hq
      exact ⟨e.noOrph h.1, e.surv h.1 h.2 hq.1 hq.2⟩)
    (fun _ => rfl) ops s (neverFrom_or c _ _ ops s hl hh) ⟨hi, hs⟩
  exact runFrom_dead_end c s ops (this.2 hk)

/-! ### STOP of a basic task terminates what it can reach -/

/-- what is running is known to the task and has not been reaped -/
structure Proc (s : St) : Prop where
  nocmd : s.kind = .basic → s.active = true → s.cmd = false → s.child ≠ .running
  reap : s.reaped = true → s.child ≠ .running

theorem Eff.proc (e : Eff c s op s') (h : Proc s) : Proc s' := by
  cases e with
  | same | tick | loopExit | pushed | moved => exact { h with }
  | reaped | ended | zombie => exact ⟨fun _ _ _ => ownEnd_ne_running _, fun _ => ownEnd_ne_running _⟩
  | stopped => exact ⟨fun _ _ _ => nofun, fun _ => nofun⟩
  | spawned => exact ⟨fun _ _ => nofun, nofun⟩
  | killBasic | killNodata => exact { h with nocmd := fun _ => nofun }
  | killCtl => exact ⟨fun _ => nofun, fun _ => escalate_ne_running _⟩
  | gaveUp => exact ⟨fun _ => nofun, fun hr => by simp [giveUp, h.reap hr]⟩


theorem step_basic_not_halts (c : Cfg) (hc : c.stopNilSafe = true) (s : St) (hk : s.kind = .basic) (op : Op) :
    (step c s op).2.halts = false := by
  rw [step_halts_iff]
  cases ha : s.active <;> simp [unsafeReq, killNoRpc, killInactive, hc, hk, ha]

theorem step_notask (c : Cfg) (s : St) (op : Op) (hr : op.isRequest = true) (hk : op ≠ .kill) (ha : s.active = false) :
    step c s op = (s, .notask) := by
  cases op with
  | kill => exact absurd rfl hk
  | tick | await | giveup => cases hr
  | start | stop | conf | trigger => simp [step, ha]

theorem step_kill_inactive (c : Cfg) (s : St) (ha : s.active = false) :
    step c s .kill = if c.killInactiveIgnored then (s, .ignored) else ({ s with loop := false }, .loopexit) := by
  simp [step, ha]

theorem Eff.not_alive_basic (e : Eff c s op s') (hk : s.kind = .basic)
    (hs : op ≠ .start) (h : s.alive = false) : s'.alive = false := by
  have child : s.child = .running → False := fun hc => by simp [St.alive, hc] at h
  have kind : s.kind = .ctl → False := fun hk' => by rw [hk] at hk'; cases hk'
  cases e with
  | same | tick | loopExit | pushed | killBasic => exact h
  | reaped hc | stopped _ hc => exact (child hc).elim
  | ended _ hk' | zombie _ _ hk' | gaveUp _ hk' | killCtl _ hk' | moved _ _ _ hk' => exact (kind hk').elim
  | killNodata _ hk' => rw [hk] at hk'; cases hk'
  | spawned _ _ hsp => simp [spawns, hk, hs] at hsp

theorem stopBasic_alive (c : Cfg) (hc : c.stopNilSafe = true) (s : St) (hk : s.kind = .basic) (ha : s.active = true)
    (hp : Proc s) (hn : stopSpares s .stop = false) : (stopBasic c s).1.alive = false := by
  have hn' : (decide (s.orphans > 0) || if s.child = .running then s.helpersOld else s.helpers) = false := by
    simpa [stopSpares, hk, ha] using hn
  have rest : s.child ≠ .running → s.alive = false := fun h => by simpa [St.alive, h] using hn'
  fun_cases stopBasic c s with
  | case1 hcmd => exact rest (hp.nocmd hk ha (by simpa using hcmd))
  | case2 _ _ hr => exact rest (hp.reap hr)
  | case3 _ _ _ hch => simpa [St.alive, hch] using hn'
  | case4 _ _ _ hch => exact rest hch
  | case5 | case6 | case7 | case8 => contradiction

/-- One step keeps "a STOP was answered, no child started since ⇒ nothing alive", unless the STOP arrives in a
    state of `stopSpares`. -/
theorem step_stopFlag (c : Cfg) (hc : c.stopNilSafe = true) (s : St) (hk : s.kind = .basic) (op : Op)
    (hp : Proc s) (hn : stopSpares s op = false) (flag : Bool) (hf : flag = true → s.alive = false)
    (h : stopFlag flag op (step c s op).2 = true) : (step c s op).1.alive = false := by
  have keep : op ≠ .start → flag = true → (step c s op).1.alive = false := fun h1 hfl =>
    (step_eff c s op).not_alive_basic hk h1 (hf hfl)
  cases op with
  | stop =>
    cases ha : s.active
    · rw [step_notask c s .stop rfl (by decide) ha] at h ⊢
      exact hf h
    · rw [show step c s .stop = stopBasic c s by simp [step, ha, hk]]
      exact stopBasic_alive c hc s hk ha hp hn
  | start =>
    cases ha : s.active
    · rw [step_notask c s .start rfl (by decide) ha] at h ⊢
      exact hf h
    · have e : step c s .start = ((spawn s).1, .resp (if (spawn s).2 then .CONFIGURED else .RUNNING) (spawn s).2) := by
        simp [step, ha, hk]
      rw [e] at h ⊢
      cases hsf : s.beh.startFails
      · simp [spawn, hsf, stopFlag] at h
      · -- Start() failed: nothing new runs
        have hd := hf (by simpa [spawn, hsf, stopFlag] using h)
        simp only [St.alive, Bool.or_eq_false_iff, decide_eq_false_iff_not] at hd
        simp [spawn, hsf, St.alive, hd.1.1, hd.1.2, hd.2]
  | tick | conf | trigger | kill | await | giveup => exact keep (by decide) h

theorem stopFlag_dead (flag : Bool) (op : Op) : stopFlag flag op .dead = flag := by
  cases op <;> rfl

theorem finish_alive (s : St) : (finish s).alive = s.alive := by
  simp only [finish]; split <;> rfl

theorem runFrom_stopped (c : Cfg) (hc : c.stopNilSafe = true) : ∀ (ops : List Op) (s : St), s.kind = .basic → Proc s →
    ∀ flag : Bool, (flag = true → s.alive = false) → neverFrom c stopSpares s ops = true →
    (runFrom c s ops).halted = false ∧
      (stoppedFrom flag ops (runFrom c s ops).res = true → (runFrom c s ops).st.alive = false)
  | [], s, _, _, flag, hf, _ => ⟨rfl, fun h => (finish_alive s).trans (hf h)⟩
  | op :: ops, s, hk, hp, flag, hf, hn => by
    simp only [runFrom]
    split
    · rename_i hl
      have := runFrom_stopped c hc ops s hk hp flag hf (neverFrom_dead c _ s (by simpa using hl) ops)
      simpa [stoppedFrom, stopFlag_dead] using this
    · rename_i hl
      have hnh := step_basic_not_halts c hc s hk op
      obtain ⟨hn1, hn2⟩ := neverFrom_cons (by simpa using hl) hn
      simp only [hnh, Bool.false_eq_true, ↓reduceIte, stoppedFrom]
      exact runFrom_stopped c hc ops _ ((step_kind c s op).trans hk) ((step_eff c s op).proc hp) _
        (step_stopFlag c hc s hk op hp hn1 flag hf) (hn2 hnh)

theorem init_kind (c : Cfg) (k : Kind) (b : Beh) : (init c k b).1.kind = k := by
  fun_cases init c k b with
  | _ => rfl

theorem init_halts (c : Cfg) (k : Kind) (b : Beh) : (init c k b).2.halts = launchCrashes c k b := by
  fun_cases init c k b
  all_goals simp_all [launchCrashes, Res.halts]

theorem init_ok (c : Cfg) (k : Kind) (b : Beh) (h : launchCrashes c k b = false) : (init c k b).2 = .ok := by
  have hh := init_halts c k b
  rw [h] at hh
  revert hh
  fun_cases init c k b
  all_goals simp [Res.halts]

/-- `dial`: while a controllable task is still dialling, its command has been started and not waited for (nobody
    calls Wait() before the dial is over): its pid exists. `gone`: once the launch has been given up the task is
    out of activeTasks and nothing of it runs. -/
structure Gave (s : St) : Prop where
  dial : s.kind = .ctl → s.active = true → s.rpc = false → s.child ≠ .notStarted ∧ s.reaped = false
  gone : s.gaveUp = true → Dead s

/-- what the run-level theorems start from -/
structure Launched (s : St) : Prop where
  inv : Inv s
  noOrph : NoOrph s
  armed : Armed s
  quiet : Quiet s
  surv : Surv s
  gave : Gave s
  proc : Proc s

theorem init_launched (c : Cfg) (k : Kind) (b : Beh) : Launched (init c k b).1 := by
  cases k <;> simp only [init, base]
  all_goals (repeat' split)
  all_goals
    refine ⟨⟨?_, ?_, ?_, ?_, ?_, ?_⟩, fun _ => rfl, ⟨?_, ?_⟩, ⟨?_, ?_⟩, nofun, ⟨?_, nofun⟩, ⟨?_, ?_⟩⟩ <;>
      simp_all [terminals, nothingAfter, noRunningAfter, Emit.isTerm, List.filter, Kind.basicLike]

theorem run_inv (c : Cfg) (k : Kind) (b : Beh) (ops : List Op) : Inv (run c k b ops).st :=
  run_always c Inv (fun _ _ _ e h => e.inv h) k b ops (init_launched c k b).inv

end ExecTask
