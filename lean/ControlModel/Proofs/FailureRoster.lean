/-
  Proofs/FailureRoster — the roster is one table.
  Whatever else the snapshot of a lost agent / executor holds, in whatever positions, what the
  walk of the code does to environment `e` IS `Failure.fail` on `e`'s own victims (`hitAll_env`,
  `victimsFor e`); a run of the world projects to a run of each environment (`wrun_env`,
  `wvalid_env`); and a walk over labelled entries is the unlabelled one wherever the label is not
  what finds the environment (`hitAllTagged_eq_hitAll`).
-/
import ControlModel.Model.FailureRoster

namespace Failure
open RoleTree EnvM

/-- Look the entry up, write the changed one back: `List.modify`. -/
theorem modify_eq_match {α : Type} (l : List α) (i : Nat) (g : α → α) :
    l.modify i g = match l[i]? with
      | some a => l.set i (g a)
      | none => l := by
  cases h : l[i]? with
  | none => exact List.modify_eq_self (List.getElem?_eq_none_iff.mp h)
  | some a =>
    refine List.ext_getElem? fun j => ?_
    rw [List.getElem?_modify, List.getElem?_set']
    by_cases hij : i = j
    · subst hij; simp [h]
    · simp [hij]

theorem hit_envs (c : Cfg) (k : Kind) (W : World) (i : Nat) (t : RTask) (r : Bool) :
    (hit c k W i t r).envs = match t.owner with
      | some e => W.envs.modify e (fun s => failOne c k s t.path r)
      | none => W.envs := by
  unfold hit
  cases t.owner with
  | none => simp only; split <;> rfl
  | some e => simp only [modify_eq_match]; cases W.envs[e]? <;> rfl

theorem hit_roster (c : Cfg) (k : Kind) (W : World) (i : Nat) (t : RTask) (r : Bool) :
    (hit c k W i t r).roster = match t.owner with
      | some _ => W.roster
      | none => W.roster.modify i (fun t' => t'.hitLoose k) := by
  unfold hit
  cases t.owner with
  | none => simp only [modify_eq_match]; cases W.roster[i]? <;> rfl
  | some e => simp only; split <;> rfl

theorem hit_env_other (c : Cfg) (k : Kind) (W : World) (i : Nat) (t : RTask) (r : Bool) (e : Nat)
    (h : t.owner ≠ some e) : (hit c k W i t r).envs[e]? = W.envs[e]? := by
  rw [hit_envs]
  cases ho : t.owner with
  | none => rfl
  | some e' => exact List.getElem?_modify_ne _ _ (fun heq => h (by rw [ho, heq]))

theorem hit_env_own (c : Cfg) (k : Kind) (W : World) (i : Nat) (t : RTask) (r : Bool) (e : Nat)
    (h : t.owner = some e) : (hit c k W i t r).envs[e]? = (W.envs[e]?).map (fun s => failOne c k s t.path r) := by
  rw [hit_envs, h]
  exact List.getElem?_modify_eq ..

theorem hitAll_env (c : Cfg) (k : Kind) (e : Nat) (ts : List (Nat × RTask × Bool)) :
    ∀ W : World, (hitAll codeWalk c k W ts).envs[e]? = (W.envs[e]?).map (fun s => fail c k s (victimsFor e ts)) := by
  induction ts with
  | nil => intro W; simp [hitAll, victimsFor, fail]
  | cons x ts ih =>
    intro W
    obtain ⟨i, t, r⟩ := x
    have hstep : hitAll codeWalk c k W ((i, t, r) :: ts) = hitAll codeWalk c k (hit c k W i t r) ts := rfl
    rw [hstep, ih]
    by_cases h : t.owner = some e
    · rw [hit_env_own c k W i t r e h]
      simp only [victimsFor, h, if_true, fail]
      cases W.envs[e]? <;> rfl
    · rw [hit_env_other c k W i t r e h]
      simp only [victimsFor, h, if_false]

theorem hitAll_induct (wk : Walk) (c : Cfg) (k : Kind) (P : World → Prop) (ts : List (Nat × RTask × Bool))
    (hhit : ∀ W, ∀ x ∈ ts, P W → P (hit c k W x.1 x.2.1 x.2.2)) : ∀ W : World, P W → P (hitAll wk c k W ts) := by
  induction ts with
  | nil => exact fun _ h => h
  | cons x ts ih =>
    intro W hW
    have h1 := hhit W x (List.mem_cons_self ..) hW
    simp only [hitAll]
    split
    · exact h1
    · exact ih (fun W y hy => hhit W y (List.mem_cons_of_mem _ hy)) _ h1

theorem hitAll_envs_length (wk : Walk) (c : Cfg) (k : Kind) (ts : List (Nat × RTask × Bool)) :
    ∀ W : World, (hitAll wk c k W ts).envs.length = W.envs.length := fun W =>
  hitAll_induct wk c k (fun W' => W'.envs.length = W.envs.length) ts (fun W' x _ h => by
    rw [hit_envs]; split
    · exact (List.length_modify ..).trans h
    · exact h) W rfl

theorem hitAll_env_untouched (wk : Walk) (c : Cfg) (k : Kind) (e : Nat) (ts : List (Nat × RTask × Bool))
    (h : ∀ x ∈ ts, x.2.1.owner ≠ some e) :
    ∀ W : World, (hitAll wk c k W ts).envs[e]? = W.envs[e]? := fun W =>
  hitAll_induct wk c k (fun W' => W'.envs[e]? = W.envs[e]?) ts
    (fun W' x hx h' => (hit_env_other c k W' x.1 x.2.1 x.2.2 e (h x hx)).trans h') W rfl

theorem victimsFor_eq_filterMap (e : Nat) (ts : List (Nat × RTask × Bool)) :
    victimsFor e ts = ts.filterMap (fun x => if x.2.1.owner = some e then some (x.2.1.path, x.2.2) else none) := by
  fun_induction victimsFor e ts <;> simp [*]

theorem victimsFor_append (e : Nat) (a b : List (Nat × RTask × Bool)) :
    victimsFor e (a ++ b) = victimsFor e a ++ victimsFor e b := by
  simp only [victimsFor_eq_filterMap, List.filterMap_append]

theorem victimsFor_foreign (e : Nat) (b : List (Nat × RTask × Bool)) (h : ∀ x ∈ b, x.2.1.owner ≠ some e) :
    victimsFor e b = [] := by
  rw [victimsFor_eq_filterMap, List.filterMap_eq_nil_iff]
  exact fun x hx => if_neg (h x hx)

theorem mem_victimsFor (e : Nat) (ts : List (Nat × RTask × Bool)) (p : List Nat) (r : Bool) :
    (p, r) ∈ victimsFor e ts ↔ ∃ i t, (i, t, r) ∈ ts ∧ t.owner = some e ∧ t.path = p := by
  rw [victimsFor_eq_filterMap, List.mem_filterMap]
  constructor
  · rintro ⟨⟨i, t, r'⟩, hm, hx⟩
    split at hx
    · next ho => cases hx; exact ⟨i, t, hm, ho, rfl⟩
    · cases hx
  · rintro ⟨i, t, hm, ho, rfl⟩
    exact ⟨(i, t, r), hm, if_pos ho⟩

theorem victimsFor_length_le (e : Nat) (ts : List (Nat × RTask × Bool)) : (victimsFor e ts).length ≤ ts.length := by
  rw [victimsFor_eq_filterMap]
  exact List.length_filterMap_le ..

theorem wstep_envs (c : Cfg) (W : World) (e : Nat) (l : Label) :
    (wstep c W (e, l)).envs = W.envs.modify e (fun s => istep c s l) := by
  unfold wstep
  simp only [modify_eq_match]
  cases W.envs[e]? <;> rfl

theorem wrun_env (c : Cfg) (e : Nat) (ls : List (Nat × Label)) :
    ∀ W : World, (wrun c W ls).envs[e]? = (W.envs[e]?).map (fun s => irun c s (labelsOf e ls)) := by
  induction ls with
  | nil => intro W; simp [wrun, labelsOf, irun]
  | cons x ls ih =>
    intro W
    obtain ⟨e', l⟩ := x
    have hr : wrun c W ((e', l) :: ls) = wrun c (wstep c W (e', l)) ls := rfl
    rw [hr, ih, wstep_envs]
    by_cases h : e' = e
    · subst h
      rw [List.getElem?_modify_eq]
      simp only [labelsOf, if_true]
      cases W.envs[e']? <;> rfl
    · rw [List.getElem?_modify_ne _ _ h]
      simp only [labelsOf, h, if_false]

theorem wvalid_env (c : Cfg) (e : Nat) (ls : List (Nat × Label)) :
    ∀ (W : World) (s : Sys), W.envs[e]? = some s → wvalid c W ls = true → validRun c s (labelsOf e ls) = true := by
  induction ls with
  | nil => intro W s _ _; rfl
  | cons x ls ih =>
    intro W s hs hv
    obtain ⟨e', l⟩ := x
    simp only [wvalid, Bool.and_eq_true] at hv
    by_cases h : e' = e
    · subst h
      simp only [labelsOf, if_true, validRun, Bool.and_eq_true]
      refine ⟨by simpa [wenabled, hs] using hv.1, ih (wstep c W (e', l)) (istep c s l) ?_ hv.2⟩
      rw [wstep_envs, List.getElem?_modify_eq, hs]; rfl
    · simp only [labelsOf, h, if_false]
      exact ih (wstep c W (e', l)) s (by rw [wstep_envs, List.getElem?_modify_ne _ _ h]; exact hs) hv.2

theorem wquiescent_env (W : World) (e : Nat) (s : Sys) (hs : W.envs[e]? = some s) (hq : wquiescent W = true) :
    quiescent s = true := by
  unfold wquiescent at hq
  rw [List.all_eq_true] at hq
  exact hq s (List.mem_of_getElem? hs)

theorem labelsOf_map (e : Nat) (ls : List Label) : labelsOf e (ls.map (fun l => (e, l))) = ls := by
  induction ls with
  | nil => rfl
  | cons l ls ih => simp only [List.map_cons, labelsOf, if_true, ih]

theorem wvalid_lift (c : Cfg) (e : Nat) (ls : List Label) :
    ∀ (W : World) (s : Sys), W.envs[e]? = some s → validRun c s ls = true → wvalid c W (ls.map (fun l => (e, l))) = true := by
  induction ls with
  | nil => intro W s _ _; rfl
  | cons l ls ih =>
    intro W s hs hv
    simp only [validRun, Bool.and_eq_true] at hv
    simp only [List.map_cons, wvalid, Bool.and_eq_true]
    exact ⟨by simpa [wenabled, hs] using hv.1,
      ih (wstep c W (e, l)) (istep c s l) (by rw [wstep_envs, List.getElem?_modify_eq, hs]; rfl) hv.2⟩

theorem resolveEnv_byTask (c : Cfg) (t : RTask) (lab : Option Nat) (hc : c.envByTask = true) :
    resolveEnv c t lab = t.owner := by
  rw [resolveEnv, hc, if_pos rfl]

theorem failOne_eq_applyEffect (c : Cfg) (k : Kind) (s : Sys) (p : List Nat) (r : Bool) :
    failOne c k s p r = applyEffect c (effect c k s.env.st (critLeafAt s.f p)) s p r := rfl

theorem hit_internal_loose (c : Cfg) (W : World) (i : Nat) (t : RTask) (r : Bool) (h : t.owner = none) :
    hit c .INTERNAL W i t r = W := by
  have he := hit_envs c .INTERNAL W i t r
  have hr := hit_roster c .INTERNAL W i t r
  rw [h] at he hr
  rw [show (fun t' : RTask => t'.hitLoose .INTERNAL) = id from rfl, List.modify_id] at hr
  calc hit c .INTERNAL W i t r = ⟨(hit c .INTERNAL W i t r).envs, (hit c .INTERNAL W i t r).roster⟩ := rfl
    _ = W := by rw [he, hr]

/-- Every kind but TASK_INTERNAL_ERROR ignores the label, and so does a core that resolves the environment
    through the task. -/
theorem hitTagged_eq_hit (c : Cfg) (k : Kind) (W : World) (i : Nat) (t : RTask) (r : Bool) (lab : Option Nat)
    (h : k ≠ .INTERNAL ∨ resolveEnv c t lab = t.owner) : hitTagged c k W i t r lab = hit c k W i t r := by
  unfold hitTagged
  cases k <;> first | rfl | skip
  rw [h.resolve_left (fun hne => hne rfl)]
  cases ho : t.owner with
  | none => exact (hit_internal_loose c W i t r ho).symm
  | some o => simp

theorem hitAllTagged_eq_hitAll (wk : Walk) (c : Cfg) (k : Kind) (ts : List (Nat × RTask × Bool × Option Nat))
    (h : ∀ x ∈ ts, k ≠ .INTERNAL ∨ resolveEnv c x.2.1 x.2.2.2 = x.2.1.owner) :
    ∀ W : World, hitAllTagged wk c k W ts = hitAll wk c k W (untag ts) := by
  induction ts with
  | nil => intro W; rfl
  | cons x ts ih =>
    intro W
    obtain ⟨i, t, r, lab⟩ := x
    simp only [hitAllTagged, untag, List.map_cons, hitAll, hitTagged_eq_hit c k W i t r lab (h _ (List.mem_cons_self ..))]
    split
    · rfl
    · exact ih (fun y hy => h y (List.mem_cons_of_mem _ hy)) _

theorem untag_length (ts : List (Nat × RTask × Bool × Option Nat)) : (untag ts).length = ts.length := by
  simp [untag]

theorem mem_untag (ts : List (Nat × RTask × Bool × Option Nat)) (i : Nat) (t : RTask) (r : Bool) :
    (i, t, r) ∈ untag ts ↔ ∃ lab, (i, t, r, lab) ∈ ts := by
  simp only [untag, List.mem_map, Prod.mk.injEq]
  constructor
  · rintro ⟨⟨i', t', r', lab⟩, hm, rfl, rfl, rfl⟩; exact ⟨lab, hm⟩
  · rintro ⟨lab, hm⟩; exact ⟨_, hm, rfl, rfl, rfl⟩

end Failure
