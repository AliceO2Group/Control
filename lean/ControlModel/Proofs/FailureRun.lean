/-
  Proofs/FailureRun — runs of internal steps of `Failure.Sys` (core only). Every step lowers
  `budget`, so from EVERY state runs are bounded (`run_length`) and a run to quiescence exists
  (`exists_maximal_run`); that a run can only end in ERROR needs an invariant, `Pending`: the
  watcher's timer is pending or has run, or (buffered channel) a value is on its way to the
  watcher that will arm it. A failure with a critical victim establishes it (`fail_pending`),
  for every configuration: `critical_to_error`.
-/
import ControlModel.Proofs.Failure

open RoleTree EnvM Failure

/-- Whatever holds the transition mutex is not RECOVER (the API cannot request it). -/
def NoRecover (s : Sys) : Prop := ∀ i, s.inflight = some i → i.ev ≠ .RECOVER

/-- As long as the watcher is in its loop the root role says ERROR — at every state of the run. -/
def rootHolds (c : Cfg) : Sys → List Label → Bool
  | s, [] => !s.w.inLoop || rootState s.f == .ERROR
  | s, l :: ls => (!s.w.inLoop || rootState s.f == .ERROR) && rootHolds c (istep c s l) ls

namespace Failure

/-- The share of a transition in flight in `budget`: each outstanding reply arrives and is applied, then the transition ends. -/
def flightWeight : Option Inflight → Nat
  | some i => 2 * i.pending.length + 1
  | none => 0

theorem budget_eq (s : Sys) :
    budget s = 3 * (flightWeight s.inflight + s.updq.length + s.stopReq) + s.w.weight + chanWeight s := rfl

theorem chanWeight_le (s : Sys) : chanWeight s ≤ 2 := by
  unfold chanWeight; split <;> omega

/-- Task-state updates raise the budget by what the watcher's channel can take, and by the
    STOP requests that were queued along with them. -/
theorem told_budget_le {c : Cfg} {s s' : Sys} (h : Told c s s') : budget s' + 3 * s.stopReq ≤ budget s + 3 * s'.stopReq + 2 := by
  have := chanWeight_le s'
  have := h.weight
  rw [budget_eq, budget_eq, h.inflight, h.updq]
  omega

namespace IStep

theorem noRecover {c : Cfg} {s s' : Sys} {l : Label} (h : IStep c s l s') (hnr : NoRecover s) : NoRecover s' := by
  intro j hj
  cases h with
  | arrive i pv rest hi hp => cases hj; exact hnr i hi
  | apply k r p v hk => rw [(setLeaf_told ..).inflight] at hj; exact hnr j hj
  | finish i r hi hp hr => cases hj
  | devStop ok r hi hs => rw [(devStopStep_told c s ok r).1.inflight] at hj; exact hnr j hj
  | timer hi hw => rw [(timerStep_spec c s).2.2.2.1] at hj; exact hnr j hj
  | subscribe hw => obtain ⟨w, hs, _⟩ := subscribeStep_moves_watcher s; rw [hs] at hj; exact hnr j hj
  | take v hw hc => exact hnr j hj
  | look v hw => obtain ⟨w, hs, _⟩ := react_moves_watcher c s v; rw [hs] at hj; exact hnr j hj

/-- ERROR is absorbing: no internal step is a RECOVER. -/
theorem error {c : Cfg} {s s' : Sys} {l : Label} (h : IStep c s l s') (hnr : NoRecover s) (he : s.env.st = .ERROR) :
    s'.env.st = .ERROR := by
  cases h with
  | arrive i pv rest hi hp => exact he
  | apply k r p v hk => rw [(setLeaf_told ..).env]; exact he
  | finish i r hi hp hr =>
    subst hr
    split
    · exact control_from_error _ _ _ _ _ he (hnr i hi)
    · rw [try_from_error _ _ _ _ _ he (hnr i hi)]; exact he
  | devStop ok r hi hs =>
    rw [(devStopStep_told c s ok r).1.env]
    simp only
    rw [try_from_error _ _ _ _ _ he (by decide)]; exact he
  | timer hi hw => exact (timerStep_spec c s).1
  | subscribe hw => obtain ⟨w, hs, _⟩ := subscribeStep_moves_watcher s; rw [hs]; exact he
  | take v hw hc => exact he
  | look v hw => obtain ⟨w, hs, _⟩ := react_moves_watcher c s v; rw [hs]; exact he

theorem armed {c : Cfg} {s s' : Sys} {l : Label} (h : IStep c s l s') (ha : s.w = .armed) :
    s'.w = .armed ∨ s'.env.st = .ERROR := by
  have hnp : s.w ≠ .parked := by rw [ha]; exact fun h => Watch.noConfusion h
  cases h with
  | arrive i pv rest hi hp => exact .inl ha
  -- `by exact`: elaborated once the state the updates start from is known
  | apply k r p v hk => exact .inl (((setLeaf_told ..).away (by exact hnp)).trans ha)
  | finish i r hi hp hr => exact .inl ha
  | devStop ok r hi hs => exact .inl (((devStopStep_told c s ok r).1.away (by exact hnp)).trans ha)
  | timer hi hw => exact .inr (timerStep_spec c s).1
  | subscribe hw => rw [ha] at hw; cases hw
  | take v hw hc => rw [ha] at hw; cases hw
  | look v hw => rw [ha] at hw; cases hw

theorem budget_lt {c : Cfg} {s s' : Sys} {l : Label} (h : IStep c s l s') : budget s' < budget s := by
  cases h with
  | arrive i pv rest hi hp =>
    simp only [budget_eq, chanWeight, flightWeight, hi, hp, List.length_cons, List.length_append, List.length_nil]
    omega
  | apply k r p v hk =>
    have hlt : k < s.updq.length := (List.getElem?_eq_some_iff.mp hk).1
    have h1 := told_budget_le (setLeaf_told c { s with updq := s.updq.eraseIdx k } p v r)
    simp only [setLeaf_stopReq, budget_eq { s with updq := s.updq.eraseIdx k }, chanWeight, List.length_eraseIdx, hlt, if_true] at h1
    simp only [budget_eq s, chanWeight]
    omega
  | finish i r hi hp hr =>
    simp only [budget_eq, chanWeight, flightWeight, hi, hp, List.length_nil]
    omega
  | devStop ok r hi hs =>
    have h1 := told_budget_le (devStopStep_told c s ok r).1
    simp only [(devStopStep_told c s ok r).2, budget_eq { s with env := _, log := _ }, chanWeight] at h1
    simp only [budget_eq s, chanWeight]
    omega
  | timer hi hw =>
    obtain ⟨_, t2, t3, t4, t5, t6⟩ := timerStep_spec c s
    simp only [budget_eq, chanWeight, t2, t3, t4, t5, t6, hw, Watch.weight]
    omega
  | subscribe hw =>
    obtain ⟨w, hs, hwt⟩ := subscribeStep_moves_watcher s
    have h3 : s.w.weight = 3 := by rw [hw]; rfl
    simp only [hs, budget_eq, chanWeight]
    omega
  | take v hw hc =>
    simp only [budget_eq, chanWeight, hw, hc, Watch.weight, Option.isSome_some, Option.isSome_none, if_true, Bool.false_eq_true, if_false]
    omega
  | look v hw =>
    obtain ⟨w, hs, hwt⟩ := react_moves_watcher c s v
    have h3 : s.w.weight = 3 := by rw [hw]; rfl
    simp only [hs, budget_eq, chanWeight]
    omega

end IStep

/-- Induction along a valid run, for a property that may speak of the labels still to come. -/
theorem irun_induct {c : Cfg} (P : Sys → List Label → Prop)
    (step : ∀ s l ls, P s (l :: ls) → enabled s l = true → P (istep c s l) ls) :
    ∀ (ls : List Label) (s : Sys), P s ls → validRun c s ls = true → P (irun c s ls) []
  | [], _, h, _ => h
  | l :: ls, s, h, hv => by
    simp only [validRun, Bool.and_eq_true] at hv
    exact irun_induct P step ls (istep c s l) (step s l ls h hv.1) hv.2

theorem run_length (c : Cfg) (s : Sys) (ls : List Label) (hv : validRun c s ls = true) :
    ls.length + budget (irun c s ls) ≤ budget s := by
  induction ls generalizing s with
  | nil => exact Nat.le_of_eq (Nat.zero_add _)
  | cons l ls ih =>
    simp only [validRun, Bool.and_eq_true] at hv
    have h1 := (istep_spec c s l hv.1).budget_lt
    have h2 := ih (istep c s l) hv.2
    simp only [irun, List.foldl_cons, List.length_cons] at h2 ⊢
    omega

theorem exists_maximal_run (c : Cfg) (s : Sys) : ∃ ls, validRun c s ls = true ∧ quiescent (irun c s ls) = true := by
  generalize hn : budget s = n
  induction n using Nat.strongRecOn generalizing s with
  | _ n ih =>
    cases hq : quiescent s with
    | true => exact ⟨[], rfl, hq⟩
    | false =>
      have : ¬ ∀ l, enabled s l = false := fun h => by rw [(quiescent_iff s).mpr h] at hq; cases hq
      obtain ⟨l, hl⟩ := Classical.not_forall.mp this
      have hl : enabled s l = true := by simpa using hl
      obtain ⟨ls, hv, hqq⟩ := ih _ (hn ▸ (istep_spec c s l hl).budget_lt) (istep c s l) rfl
      exact ⟨l :: ls, by simp [validRun, hl, hv], hqq⟩

/-- The failure itself costs at most 3 further internal steps per victim (its queued STOP
    request and what that can put into the watcher's channel) + 2 (take, look). -/
theorem fail_budget (c : Cfg) (k : Kind) (s : Sys) (vs : List (List Nat × Bool)) :
    budget (fail c k s vs) ≤ budget s + 3 * vs.length + 2 := by
  have := told_budget_le (fail_told c k s vs)
  have := fail_stopReq_le c k s vs
  omega

theorem fail_noRecover (c : Cfg) (k : Kind) (s : Sys) (vs : List (List Nat × Bool)) (h : NoRecover s) :
    NoRecover (fail c k s vs) := fun i hi => h i ((fail_told c k s vs).inflight ▸ hi)

theorem rootHolds_cons {c : Cfg} {s : Sys} {l : Label} {ls : List Label} (h : rootHolds c s (l :: ls) = true) :
    (s.w.inLoop = true → rootState s.f = .ERROR) ∧ rootHolds c (istep c s l) ls = true := by
  simp only [rootHolds, Bool.and_eq_true, Bool.or_eq_true, Bool.not_eq_true', beq_iff_eq] at h
  exact ⟨fun hl => h.1.resolve_left (by rw [hl]; exact Bool.noConfusion), h.2⟩

/-- The watcher's timer is pending or has run, or (buffered channel) a value is on its way to the watcher that
    will arm it: an ERROR — or any value at all, if the watcher re-reads the root before it acts and the root role
    goes on saying ERROR while the watcher is in its loop (`rootHolds` over the labels still to come). -/
def Pending (c : Cfg) (s : Sys) (ls : List Label) : Prop :=
  NoRecover s ∧ (s.w = .armed ∨ s.env.st = .ERROR ∨
    (c.buffered = true ∧ ∃ v, OnWay v s ∧ (v = .ERROR ∨ (c.reread = true ∧ rootHolds c s ls = true))))

namespace Pending

theorem step {c : Cfg} (s : Sys) (l : Label) (ls : List Label)
    (h : Pending c s (l :: ls)) (he : enabled s l = true) : Pending c (istep c s l) ls := by
  have hs := istep_spec c s l he
  refine ⟨hs.noRecover h.1, ?_⟩
  rcases h.2 with ha | hE | ⟨hb, v, hv, hroot⟩
  · exact (hs.armed ha).imp id .inl
  · exact .inr (.inl (hs.error h.1 hE))
  have hnow : v = .ERROR ∨ (c.reread = true ∧ rootState s.f = .ERROR) :=
    hroot.imp id (fun h => ⟨h.1, (rootHolds_cons h.2).1 hv.inLoop⟩)
  have hlater : v = .ERROR ∨ (c.reread = true ∧ rootHolds c (istep c s l) ls = true) :=
    hroot.imp id (fun h => ⟨h.1, (rootHolds_cons h.2).2⟩)
  generalize istep c s l = s' at hs hlater ⊢
  cases hs with
  | arrive i pv rest hi hp => exact .inr (.inr ⟨hb, v, hv.keeps ⟨rfl, fun _ => rfl⟩, hlater⟩)
  | apply k r p q hk => exact .inr (.inr ⟨hb, v, hv.keeps ((setLeaf_told ..).keeps hb), hlater⟩)
  | finish i r hi hp hr => exact .inr (.inr ⟨hb, v, hv.keeps ⟨rfl, fun _ => rfl⟩, hlater⟩)
  | devStop ok r hi hst => exact .inr (.inr ⟨hb, v, hv.keeps ((devStopStep_told c s ok r).1.keeps hb), hlater⟩)
  | timer hi hw => exact .inr (.inl (timerStep_spec c s).1)
  | subscribe hw => rcases hv with ⟨h1, _⟩ | h1 <;> rw [h1] at hw <;> cases hw
  | take v' hw hc =>
    rcases hv with ⟨_, h2⟩ | h1
    · rw [h2] at hc; cases hc; exact .inr (.inr ⟨hb, v, .inr rfl, hlater⟩)
    · rw [h1] at hw; cases hw
  | look v' hw =>
    rcases hv with ⟨h1, _⟩ | h1
    · rw [h1] at hw; cases hw
    · rw [h1] at hw; cases hw
      exact .inl (hnow.elim (fun h => by rw [h]; exact react_error c s) (fun h => react_reread c s v h.1 h.2))

theorem atRest {c : Cfg} {s : Sys} (h : Pending c s []) (hq : quiescent s = true) : s.env.st = .ERROR := by
  have hen := (quiescent_iff s).mp hq
  rcases h.2 with hw | he | ⟨_, v, ⟨hw, hc⟩ | hw, _⟩
  · have := hen .timer
    simp [enabled, quiescent_idle s hq, hw] at this
  · exact he
  · have := hen .take
    simp [enabled, hw, hc] at this
  · have := hen .look
    simp [enabled, hw] at this

theorem settles {c : Cfg} {s : Sys} {ls : List Label}
    (h : Pending c s ls) (hv : validRun c s ls = true) (hq : quiescent (irun c s ls) = true) :
    (irun c s ls).env.st = .ERROR :=
  (irun_induct (Pending c) step ls s h hv).atRest hq

end Pending

/-- `hprem`: if a stale value was waiting in the buffered channel when the task failed, the ERROR notification was
    dropped; the watcher then has to re-read a root that still says ERROR. -/
theorem fail_pending (c : Cfg) (k : Kind) (s : Sys) (vs : List (List Nat × Bool)) (ls : List Label)
    (hw : s.w = .parked) (hnr : NoRecover s) (hk : k.drives c s.env.st = true)
    (hcrit : ∃ p r, (p, r) ∈ vs ∧ critLeafAt s.f p = true ∧ (c.buffered = true ∨ r = true))
    (hprem : c.buffered = true → s.chan = none ∨ (c.reread = true ∧ rootHolds c (fail c k s vs) ls = true)) :
    Pending c (fail c k s vs) ls := by
  refine ⟨fail_noRecover c k s vs hnr, ?_⟩
  by_cases hch : c.buffered = true → s.chan = none
  · exact (fail_aimed c k s vs hk hw hch hcrit).imp id (fun ⟨hb, ho⟩ => .inr ⟨hb, .ERROR, ho, .inl rfl⟩)
  · obtain ⟨hb, hne⟩ := Classical.not_imp.mp hch
    obtain ⟨x, hx⟩ := Option.ne_none_iff_exists'.mp hne
    have ho : OnWay x s := .inl ⟨hw, hx⟩
    exact .inr (.inr ⟨hb, x, ho.keeps ((fail_told c k s vs).keeps hb), .inr ((hprem hb).resolve_left hne)⟩)

/-- **Critical ⇒ ERROR, for every configuration**: the watcher at its receive, nothing of RECOVER in flight, a kind
    the code turns into task state ERROR, a critical victim whose notification can reach the watcher (`hcrit`: there
    is a buffer, or the watcher is at its receive at that instant). After the failure (1) at most `budget` internal
    steps follow, (2) when none is enabled any more the environment is in ERROR, (3) a run to that point exists.
    (1) and (3) hold of every state; only (2) rests on `Pending`. -/
theorem critical_to_error (c : Cfg) (s : Sys) (k : Kind) (vs : List (List Nat × Bool))
    (hw : s.w = .parked) (hnr : NoRecover s) (hk : k.drives c s.env.st = true)
    (hcrit : ∃ p r, (p, r) ∈ vs ∧ critLeafAt s.f p = true ∧ (c.buffered = true ∨ r = true)) :
    let s1 := fail c k s vs
    budget s1 ≤ budget s + 3 * vs.length + 2 ∧
    (∀ ls, validRun c s1 ls = true → ls.length ≤ budget s1 ∧
      ((c.buffered = true → s.chan = none ∨ (c.reread = true ∧ rootHolds c s1 ls = true)) →
        quiescent (irun c s1 ls) = true → (irun c s1 ls).env.st = .ERROR)) ∧
    (∃ ls, validRun c s1 ls = true ∧ quiescent (irun c s1 ls) = true) :=
  ⟨fail_budget c k s vs, fun ls hv => ⟨by have := run_length c _ ls hv; omega,
    fun hprem => (fail_pending c k s vs ls hw hnr hk hcrit hprem).settles hv⟩, exists_maximal_run c _⟩

end Failure
