/-
  Proofs/FairMQ — lemmas behind Props/C16.

  One request (`Dev.step`) is characterised by argument, for any device graph; that is all the DIRECT
  transitioner needs (`direct_row`). The FAIRMQ transitioner issues up to six requests whose order
  depends on the answers, against a particular graph: the script interpreter `run` only ever produces
  one of the runs enumerated by `runs` (`run_mem_runs`), the enumeration of all cells is a table of
  2000 runs, and `table_ok` decides everything Props/C16 needs of a run (`RowOk`) on that table, once.
-/
import ControlModel.Spec.C16

namespace FairMQ

variable {σ ε : Type} [DecidableEq σ]

-- for `decide` (`table_ok`, Props/C16)
instance (priority := low) {p : FState → Prop} [DecidablePred p] : Decidable (∀ s, p s) :=
  decidable_of_iff (∀ s ∈ FState.all, p s) ⟨fun h s => h s (by cases s <;> decide), fun h s _ => h s⟩
instance (priority := low) {p : FEvent → Prop} [DecidablePred p] : Decidable (∀ e, p e) :=
  decidable_of_iff (∀ e ∈ FEvent.all, p e) ⟨fun h e => h e (by cases e <;> decide), fun h e _ => h e⟩
instance (priority := low) {p : O2State → Prop} [DecidablePred p] : Decidable (∀ s, p s) :=
  decidable_of_iff (∀ s ∈ O2State.all, p s) ⟨fun h s => h s (by cases s <;> decide), fun h s _ => h s⟩
instance (priority := low) {p : O2Event → Prop} [DecidablePred p] : Decidable (∀ e, p e) :=
  decidable_of_iff (∀ e ∈ O2Event.all, p e) ⟨fun h e => h e (by cases e <;> decide), fun h e _ => h e⟩

section step
variable (D : Dev σ ε) {strict : Bool} {dev : σ} {a : Ask σ ε} {o : Outcome}

theorem Dev.step_nil : (D.step strict dev a o).2.err = .nil → (D.step strict dev a o).1 = a.dst := by
  unfold Dev.step
  split
  · simp
  · cases o
    case done => cases D.next dev a.evt <;> simp [accept]
    all_goals simp

theorem Dev.step_state (hs : (strict && decide (a.src ≠ dev)) = false) (ho : o.lost = false) :
    (D.step strict dev a o).2.state = some (D.step strict dev a o).1 := by
  unfold Dev.step
  rw [if_neg (Bool.eq_false_iff.mp hs)]
  cases o
  case done => cases D.next dev a.evt <;> rfl
  case reqLost | replyLost | errorNoState => cases ho
  all_goals rfl

theorem Dev.step_errorNoState (hs : (strict && decide (a.src ≠ dev)) = false) :
    (D.step strict dev a .errorNoState).2 = ⟨none, .rejected⟩ := by
  unfold Dev.step
  rw [if_neg (Bool.eq_false_iff.mp hs)]

end step

theorem noStale_lenient (r : Run σ ε) : noStale false r = true :=
  List.all_eq_true.mpr fun _ _ => rfl

theorem lastReceived_of_noLoss {strict : Bool} {r : Run σ ε} (hs : noStale strict r = true)
    (hl : noLoss strict r = true) : lastReceived strict r = true := by
  unfold lastReceived
  cases h : r.steps.getLast? with
  | none => rfl
  | some s =>
    have hm := List.mem_of_getLast? h
    have h1 := List.all_eq_true.mp hs s hm
    have h2 := List.all_eq_true.mp hl s hm
    simp only [Step.lost, h1, Bool.true_and] at h2
    simp [h1, h2]

theorem direct_row (D : Dev O2State O2Event) (strict : Bool) (evt : O2Event) (src dst : O2State)
    (script : List Outcome) :
    let r := (commitDirect evt src dst).run D strict src script
    noStale strict r = true ∧ successOk id dst r = true ∧
    (lastReceived strict r = true → imageOk some r = true) ∧
    ((r.steps.getLast?.map fun s => s.srcOk strict && decide (s.out = .errorNoState)) = some true →
      r.reported = none ∧ r.err ≠ .nil) := by
  have hs : (strict && decide (src ≠ src)) = false := by simp
  simp only [commitDirect, Prog.run, noStale, successOk, lastReceived, imageOk, Step.srcOk,
    List.getLast?_singleton, List.all_cons, List.all_nil, Option.map_some, hs]
  generalize script.head?.getD .refused = o
  refine ⟨rfl, ?_, fun h => ?_, fun h => ?_⟩
  · by_cases he : (D.step strict src ⟨evt, src, dst, true⟩ o).2.err = .nil
    · simp [D.step_nil he]
    · simp [he]
  · exact decide_eq_true (D.step_state hs (by simpa using h))
  · obtain rfl : o = .errorNoState := by simpa using h
    rw [D.step_errorNoState hs]
    exact ⟨rfl, by decide⟩

theorem Outcome.mem_all (o : Outcome) : o ∈ Outcome.all := by cases o <;> decide

theorem run_mem_runs (D : Dev σ ε) (strict : Bool) (p : Prog σ ε) :
    ∀ (dev : σ) (script : List Outcome), p.run D strict dev script ∈ p.runs D strict dev := by
  induction p with
  | ret st e => intro dev script; simp [Prog.run, Prog.runs]
  | ask a k ih =>
    intro dev script
    simp only [Prog.run, Prog.runs, List.mem_flatMap, List.mem_map]
    exact ⟨script.head?.getD .refused, Outcome.mem_all _, _, ih _ _ _, rfl⟩

/-- What is decided of every run in the table. `answered`: the event is one fairmq.go implements, or one it
    refuses with an error. -/
structure RowOk (cfg : Cfg) (strict : Bool) (evt : O2Event) (src : O2State) (r : Run FState FEvent) : Prop where
  received : lastReceived strict r = true →
    imageOk o2Of r = true ∧ rollbackOk fmqDev o2Of (rollbackEvt evt) r = true
  fresh : cfg.stopsAfterRollback = true → noStale strict r = true
  answered : implemented evt = true ∨ cfg.refusesUnimplemented = true → successOk fmqOf (dstOf evt) r = true ∧
    (calm r = true → acceptsRollback (rollbackEvt evt) r = true →
      (r.final = fmqOf (dstOf evt) ∧ r.err = .nil) ∨ (r.final = fmqOf src ∧ r.err ≠ .nil) ∨
        (evt = .EXIT ∧ r.final = .IDLE ∧ r.err ≠ .nil) ∨
        (evt = .CONFIGURE ∧ r.final = .INITIALIZING_DEVICE ∧ r.err ≠ .nil))
  stateless : (r.steps.getLast?.map fun s => s.srcOk strict && decide (s.out = .errorNoState)) = some true →
    r.reported = none ∧ r.err ≠ .nil

instance (cfg strict evt src r) : Decidable (RowOk cfg strict evt src r) :=
  decidable_of_iff (_ ∧ _ ∧ _ ∧ _) ⟨fun ⟨a, b, c, d⟩ => ⟨a, b, c, d⟩, fun ⟨a, b, c, d⟩ => ⟨a, b, c, d⟩⟩

-- `(f u : Bool)` for want of `Decidable (∀ c : Cfg, …)`; `runFMQ_rowOk` instantiates it by eta
theorem table_ok : ∀ (f u strict : Bool) (evt : O2Event) (src : O2State),
    ∀ r ∈ runsFMQ ⟨f, u⟩ strict evt src, RowOk ⟨f, u⟩ strict evt src r := by
  decide +kernel

theorem runFMQ_rowOk (cfg : Cfg) (strict : Bool) (evt : O2Event) (src : O2State) (script : List Outcome) :
    RowOk cfg strict evt src (runFMQ cfg strict evt src script) :=
  table_ok cfg.stopsAfterRollback cfg.refusesUnimplemented strict evt src _ (run_mem_runs ..)

theorem runFMQ_spec {cfg : Cfg} {strict : Bool} {evt : O2Event} {src : O2State} {script : List Outcome}
    (hans : implemented evt = true ∨ cfg.refusesUnimplemented = true)
    (hstale : noStale strict (runFMQ cfg strict evt src script) = true)
    (hloss : noLoss strict (runFMQ cfg strict evt src script) = true) :
    specFMQ evt (runFMQ cfg strict evt src script) = true := by
  have row := runFMQ_rowOk cfg strict evt src script
  have ⟨himg, hrb⟩ := row.received (lastReceived_of_noLoss hstale hloss)
  rw [specFMQ, himg, (row.answered hans).1, hrb]
  rfl

end FairMQ
