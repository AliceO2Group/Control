/-
  Proofs/Lists — facts about core `List` that several slices need and core Lean does not state:
  a list whose keys (`l.map f`) are distinct is a finite map from keys to members; a member of a list has a partner in a
  zip with a list of the same length; a duplicate-free list stays so when a new element is appended.
-/

namespace List

variable {α : Type _} {κ : Type _}

/-- Members with equal keys are equal. -/
theorem inj_of_nodup_map {f : α → κ} {l : List α} (h : (l.map f).Nodup) {a b : α} (ha : a ∈ l) (hb : b ∈ l)
    (hf : f a = f b) : a = b := by
  induction l with
  | nil => cases ha
  | cons x xs ih =>
    rw [List.map_cons, List.nodup_cons] at h
    rcases List.mem_cons.mp ha with rfl | ha' <;> rcases List.mem_cons.mp hb with rfl | hb'
    · rfl
    · exact absurd (hf ▸ List.mem_map_of_mem hb') h.1
    · exact absurd (hf ▸ List.mem_map_of_mem ha') h.1
    · exact ih h.2 ha' hb'

/-- The same for a zip, keyed by the first components. -/
theorem zip_unique {β : Type _} {f : α → κ} {xs : List α} {ys : List β} (hnd : (xs.map f).Nodup) {p q : α × β}
    (hp : p ∈ xs.zip ys) (hq : q ∈ xs.zip ys) (hf : f p.1 = f q.1) : p = q := by
  induction xs generalizing ys with
  | nil => cases hp
  | cons x xs ih =>
    cases ys with
    | nil => cases hp
    | cons y ys =>
      rw [List.map_cons, List.nodup_cons] at hnd
      have hmem : ∀ r ∈ xs.zip ys, f r.1 ∈ xs.map f := fun r hr => List.mem_map_of_mem (List.of_mem_zip hr).1
      rcases List.mem_cons.mp hp with rfl | hp' <;> rcases List.mem_cons.mp hq with rfl | hq'
      · rfl
      · exact absurd (hf ▸ hmem q hq') hnd.1
      · exact absurd (hf ▸ hmem p hp') hnd.1
      · exact ih hnd.2 hp' hq'

theorem find?_of_unique {p : α → Bool} {l : List α} {x : α} (hx : x ∈ l) (hp : p x = true)
    (hu : ∀ y ∈ l, p y = true → y = x) : l.find? p = some x := by
  cases h : l.find? p with
  | none => exact absurd hp (List.find?_eq_none.mp h x hx)
  | some y => rw [hu y (List.mem_of_find?_eq_some h) (List.find?_some h)]

/-- Looking a member up by its key finds it, however the test spells "has the key of `x`". -/
theorem find?_key {f : α → κ} {l : List α} (hn : (l.map f).Nodup) {x : α} (hx : x ∈ l) {p : α → Bool}
    (hp : ∀ y, p y = true ↔ f y = f x) : l.find? p = some x :=
  find?_of_unique hx ((hp x).mpr rfl) fun y hy hy' => inj_of_nodup_map hn hy hx ((hp y).mp hy')

theorem exists_zip_of_mem {β : Type _} {xs : List α} {ys : List β} (hlen : ys.length = xs.length) {x : α}
    (hx : x ∈ xs) : ∃ y, (x, y) ∈ xs.zip ys := by
  induction xs generalizing ys with
  | nil => cases hx
  | cons a xs ih =>
    cases ys with
    | nil => cases hlen
    | cons b ys =>
      rcases List.mem_cons.mp hx with rfl | hx'
      · exact ⟨b, List.mem_cons_self⟩
      · obtain ⟨y, hy⟩ := ih (Nat.succ.inj hlen) hx'
        exact ⟨y, List.mem_cons_of_mem _ hy⟩

theorem Nodup.concat {l : List α} {a : α} (h : l.Nodup) (ha : a ∉ l) : (l ++ [a]).Nodup :=
  List.nodup_append.mpr ⟨h, List.pairwise_singleton _ _, fun _ hb _ hc e => ha (List.mem_singleton.mp hc ▸ e ▸ hb)⟩

end List
