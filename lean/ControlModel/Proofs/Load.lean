/-
  Proofs/Load — lemmas about the workflow-loading model (C15).

  `proc` treats every kind of role alike: a header with four outcomes (`roleOut`), then the role's own
  contribution, then the later siblings (`proc_agg` … `proc_doc`). What holds of every result of `proc`
  because the results without a role have it and `seq`, `aggOut`, `iterOut` keep it is proved through
  `proc_forall`; what relates `proc` to another traversal of the template (`procSeq`, `ideal`) or
  depends on the template goes by induction over these equations. One outcome under every schedule
  is the invariant `finish_stepAt` (`loadConc_eq`); no behaviour recorded by the code as it is: `proc_code_solid`.
-/
import ControlModel.Model.Load
import ControlModel.Spec.C15
import ControlModel.Proofs.Assoc

namespace Load

variable {cfg : Cfg}

@[simp] theorem Tree.append_def (a b : Tree) : Tree.append a b = a ++ b := rfl

@[simp] theorem Tree.nil_append (b : Tree) : (Tree.nil ++ b) = b := rfl

@[simp] theorem Tree.agg_append (i k n b) : (Tree.agg i k n ++ b) = Tree.agg i k (n ++ b) := rfl
@[simp] theorem Tree.task_append (i x c n b) : (Tree.task i x c n ++ b) = Tree.task i x c (n ++ b) := rfl
@[simp] theorem Tree.call_append (i x c n b) : (Tree.call i x c n ++ b) = Tree.call i x c (n ++ b) := rfl
@[simp] theorem Tree.iter_append (k n b) : (Tree.iter k n ++ b) = Tree.iter k (n ++ b) := rfl

@[simp] theorem Tree.append_nil (a : Tree) : a ++ Tree.nil = a := by
  induction a <;> simp [*]

theorem Tree.append_assoc (a b c : Tree) : (a ++ b) ++ c = a ++ (b ++ c) := by
  induction a <;> simp [*]

theorem Tree.isNil_append (a b : Tree) : (a ++ b).isNil = (a.isNil && b.isNil) := by
  cases a <;> simp [Tree.isNil]

@[simp] theorem Events.or_empty (a : Events) : a.or {} = a := by
  cases a; simp [Events.or]

@[simp] theorem Events.empty_or (a : Events) : Events.or {} a = a := by
  cases a; simp [Events.or]

theorem Events.or_assoc (a b c : Events) : (a.or b).or c = a.or (b.or c) := by
  simp [Events.or, Bool.or_assoc]

@[simp] theorem Events.or_hollow (a b : Events) : (a.or b).hollow = (a.hollow || b.hollow) := rfl

@[simp] theorem Events.or_iterDrop (a b : Events) : (a.or b).iterDrop = (a.iterDrop || b.iterDrop) := rfl

theorem Events.none_or (a b : Events) : (a.or b).none = (a.none && b.none) := by
  simp only [Events.none, Events.or, Bool.not_or]
  ac_rfl

@[simp] theorem Out.seq_err (a b : Out) : (a.seq b).err = (a.err || b.err) := rfl
@[simp] theorem Out.seq_f (a b : Out) : (a.seq b).f = a.f ++ b.f := rfl
@[simp] theorem Out.seq_ev (a b : Out) : (a.seq b).ev = a.ev.or b.ev := rfl

@[simp] theorem Out.seq_empty (a : Out) : a.seq Out.empty = a := by
  simp [Out.seq, Out.empty]

@[simp] theorem Out.empty_seq (a : Out) : Out.empty.seq a = a := by
  simp [Out.seq, Out.empty]

theorem Out.seq_assoc (a b c : Out) : (a.seq b).seq c = a.seq (b.seq c) := by
  simp [Out.seq, Bool.or_assoc, Tree.append_assoc, Events.or_assoc]

/-! ## the outcome over an iterator's range: `g v` is what the template yields for element `v` -/

theorem fold_forall {P : Out → Prop} (hoff : P Out.empty) (hseq : ∀ a b, P a → P b → P (a.seq b)) {g : String → Out}
    (hg : ∀ v, P (g v)) (vals : List String) : P (vals.foldr (fun v acc => (g v).seq acc) Out.empty) := by
  induction vals with
  | nil => exact hoff
  | cons a as ih => exact hseq _ _ (hg a) ih

theorem fold_f (g : String → Out) (vals : List String) :
    (vals.foldr (fun v acc => (g v).seq acc) Out.empty).f = vals.foldr (fun v acc => (g v).f ++ acc) .nil :=
  (List.foldr_hom Out.f fun _ _ => rfl).symm

theorem fold_append (g : String → Out) (vs₁ vs₂ : List String) :
    (vs₁ ++ vs₂).foldr (fun v acc => (g v).seq acc) Out.empty =
      (vs₁.foldr (fun v acc => (g v).seq acc) Out.empty).seq (vs₂.foldr (fun v acc => (g v).seq acc) Out.empty) := by
  induction vs₁ with
  | nil => exact (Out.empty_seq _).symm
  | cons a as ih => rw [List.cons_append, List.foldr_cons, List.foldr_cons, ih, Out.seq_assoc]

/-! ## `TrimSpace` is idempotent, so a stored `enabled` is truthy iff the evaluated one was -/

theorem dropWhile_head {α} {p : α → Bool} {l : List α} {c : α} {r : List α} (h : l.dropWhile p = c :: r) : p c = false := by
  simpa only [h, List.head_cons] using List.head_dropWhile_not p (l := l) (h ▸ List.cons_ne_nil c r)

theorem dropWhile_idem {α} (p : α → Bool) (l : List α) : (l.dropWhile p).dropWhile p = l.dropWhile p := by
  cases h : l.dropWhile p with
  | nil => rfl
  | cons c r => simp [dropWhile_head h]

theorem dropWhile_reverse_dropWhile {α} {p : α → Bool} {a : List α} (ha : a.dropWhile p = a) :
    (a.reverse.dropWhile p).reverse.dropWhile p = (a.reverse.dropWhile p).reverse := by
  cases hb : (a.reverse.dropWhile p).reverse with
  | nil => rfl
  | cons c m =>
    have : a = c :: (m ++ (a.reverse.takeWhile p).reverse) := by
      have := congrArg List.reverse (List.takeWhile_append_dropWhile (p := p) (l := a.reverse))
      rw [List.reverse_append, hb, List.reverse_reverse] at this
      exact this.symm
    simp [dropWhile_head (ha.trans this)]

theorem trim_idem (s : String) : trim (trim s) = trim s := by
  simp only [trim, trimL, String.toList_ofList]
  rw [dropWhile_reverse_dropWhile (dropWhile_idem isSpace s.toList), List.reverse_reverse, dropWhile_idem]

theorem truthy_trim (s : String) : truthy (trim s) = truthy s := by
  unfold truthy; rw [trim_idem]

theorem lookup_loc (var v : String) (rest : Env) : lookup ((var, v) :: rest) var = some v :=
  (Assoc.get_cons var v rest var).trans (if_pos rfl)

theorem lookup_append (a b : Env) (k : String) : lookup (a ++ b) k = (lookup a k).or (lookup b k) :=
  Assoc.get_append a b k

theorem lookup_append_some {a : Env} {k v : String} (b : Env) (h : lookup a k = some v) : lookup (a ++ b) k = some v := by
  rw [lookup_append, h]; rfl

theorem lookup_append_none {a : Env} {k : String} (b : Env) (h : lookup a k = none) : lookup (a ++ b) k = lookup b k := by
  rw [lookup_append, h]; rfl

theorem evalField_literal (ρ : Look) (f : Field) (h : isLiteral f = true) : evalField ρ f = some (rawText f) := by
  induction f with
  | nil => rfl
  | cons p ps ih =>
    cases p with
    | text s => simp [evalField, Part.eval, rawText, ih h]
    | str e => cases h
    | bool e => cases h

theorem evalKV_keys {ρ : Look} : ∀ {kvs : List (String × Field)} {e : Env}, evalKV ρ kvs = some e →
    e.map Prod.fst = kvs.map Prod.fst
  | [], e, h => by cases h; rfl
  | (k, f) :: r, e, h => by
    unfold evalKV at h
    split at h
    · rename_i v r' _ hr
      cases h
      simp [evalKV_keys hr]
    · cases h

/-- `hkeys` as the callers have it: `e` is `kvs` evaluated (`evalKV_keys`), or `kvs` itself -/
theorem lookup_none_of_keeps {α : Type} {var : String} {kvs : List (String × α)} {e : Env}
    (hk : (kvs.all fun kv => kv.1 != var) = true) (hkeys : e.map Prod.fst = kvs.map Prod.fst) : lookup e var = none :=
  Assoc.get_eq_none_iff.mpr fun hm => by
    obtain ⟨kv, hkv, rfl⟩ := List.mem_map.mp (hkeys ▸ hm)
    exact absurd rfl (bne_iff_ne.mp (List.all_eq_true.mp hk kv hkv))

theorem procHdr_disabled {ctx : Ctx} {loc : Env} {h : Hdr} {x : List Field} {en : String}
    (he : evalField (ctx.look loc) h.enabled = some en) (ht : truthy en = false) :
    procHdr ctx loc h x = .disabled := by
  unfold procHdr; simp [he, ht]

theorem procHdr_masked {ctx : Ctx} {loc : Env} {h : Hdr} {x : List Field}
    (he : evalField (ctx.look loc) h.enabled = none) :
    procHdr ctx loc h x = .masked := by
  unfold procHdr; simp [he]

theorem Ctx.binds.lookRange {c : Ctx} {var v : String} (hb : c.binds var v) : c.lookRange var = some v := by
  simp [Ctx.lookRange, lookupChain, hb.1, hb.2]

theorem Ctx.binds.look {c : Ctx} {var v : String} (hb : c.binds var v) : c.look [] var = some v := by
  simp [Ctx.look, lookupChain, hb.1, hb.2, show lookup ([] : Env) var = none from rfl]

section

variable {ctx : Ctx} {loc : Env} {h : Hdr} {x : List Field} {i : Info} {c' : Ctx} {ex : List String}
  (hh : procHdr ctx loc h x = .ok i c' ex)
include hh

theorem procHdr_ok :
    ∃ en d v', evalField (ctx.look loc) h.enabled = some en ∧ truthy en = true ∧
      v'.map Prod.fst = h.vars.map Prod.fst ∧
      c' = { D := d ++ ctx.D, V := (loc ++ v') ++ ctx.V, U := h.uvars ++ ctx.U } ∧
      i.enabled = trim en ∧ i.ownV = loc ++ v' ∧ i.stack = c'.U ++ c'.V ++ c'.D := by
  revert hh
  fun_cases procHdr ctx loc h x
  -- the one branch that returns `ok`: its guards are what is claimed
  case case5 =>
    intro hh
    injection hh with hi hc
    subst hi hc
    exact ⟨_, _, _, ‹evalField _ h.enabled = some _›, by simpa using ‹¬(!truthy _) = true›,
      evalKV_keys ‹evalKV _ h.vars = some _›, rfl, rfl, rfl, rfl⟩
  all_goals exact nofun

theorem procHdr_enabled : truthy i.enabled = true := by
  obtain ⟨en, _, _, _, ht, _, _, hi, _⟩ := procHdr_ok hh
  rw [hi, truthy_trim, ht]

theorem procHdr_ownV {var v : String} (hl : lookup loc var = some v) : lookup i.ownV var = some v := by
  obtain ⟨_, _, v', _, _, _, _, _, hv, _⟩ := procHdr_ok hh
  rw [hv]; exact lookup_append_some v' hl

/-- A local (the iteration variable of the iterator that generated this role) is bound in the stack the role hands
    down — what its children, in particular a nested iterator evaluating its range, read under that name — unless
    a user variable of the same name overrides it (`FlattenStack(defaults, vars, uservars)`). -/
theorem procHdr_publishes (var v : String) (hl : lookup loc var = some v)
    (hu : lookup (h.uvars ++ ctx.U) var = none) : c'.binds var v := by
  obtain ⟨_, _, _, _, _, _, rfl, _⟩ := procHdr_ok hh
  exact ⟨hu, by simpa only [List.append_assoc] using lookup_append_some _ hl⟩

theorem procHdr_keeps (var v : String) (hk : hdrKeeps var h = true)
    (hb : ctx.binds var v) (hl : lookup loc var = none ∨ lookup loc var = some v) :
    c'.binds var v ∧ lookup i.stack var = some v := by
  obtain ⟨_, d, v', _, _, hkeys, rfl, _, _, hst⟩ := procHdr_ok hh
  simp only [hdrKeeps, Bool.and_eq_true] at hk
  have hu : lookup (h.uvars ++ ctx.U) var = none := by
    rw [lookup_append_none _ (lookup_none_of_keeps hk.2 rfl)]; exact hb.1
  have hV : lookup ((loc ++ v') ++ ctx.V) var = some v := by
    rw [List.append_assoc]
    rcases hl with hl | hl
    · rw [lookup_append_none _ hl, lookup_append_none _ (lookup_none_of_keeps hk.1 hkeys)]; exact hb.2
    · exact lookup_append_some _ hl
  refine ⟨⟨hu, hV⟩, ?_⟩
  rw [hst, List.append_assoc, lookup_append_none _ hu]
  exact lookup_append_some _ hV

end

theorem docHdr_ok {ctx : Ctx} {f : String} {h : Hdr} {i : Info} {c' : Ctx} {ex : List String}
    (hh : docHdr ctx f h = .ok i c' ex) :
    ∃ nm, ctx.want = some (f, nm) ∧ procHdr ctx [] { h with name := [.text nm] } [] = .ok i c' ex := by
  revert hh
  fun_cases docHdr ctx f h
  case case2 f' nm hw hf => exact fun hh => ⟨nm, by rw [hw, eq_of_beq hf], hh⟩
  all_goals exact nofun

theorem docHdr_want {ctx : Ctx} {f nm : String} (hw : ctx.want = some (f, nm)) (f' : String) (h : Hdr) :
    docHdr ctx f' h = if f == f' then procHdr ctx [] { h with name := [.text nm] } [] else .disabled := by
  simp only [docHdr, hw]

theorem docHdr_none {ctx : Ctx} (f : String) (h : Hdr) (hw : ctx.want = none) : docHdr ctx f h = .disabled := by
  simp [docHdr, hw]

theorem inclHdrP_ok {pub : Bool} {ctx : Ctx} {loc : Env} {h : Hdr} {inc : Field} {docs : Tmpl}
    {i : Info} {cw : Ctx} {ex : List String} (hh : inclHdrP pub ctx loc h inc docs = .ok i cw ex) :
    ∃ c', procHdr ctx loc h [inc] = .ok i c' ex ∧ hasDoc (ex.headD "") docs = true ∧
      cw = { D := c'.D, V := if pub then c'.V else c'.V.drop loc.length, U := c'.U,
             want := some (ex.headD "", i.name) } := by
  revert hh
  fun_cases inclHdrP pub ctx loc h inc docs
  case case1 i' c' ex' hp _ hd =>
    intro hh
    injection hh with hi hc he
    subst hi hc he
    exact ⟨c', hp, hd, rfl⟩
  case case2 => exact nofun
  case case3 hne => exact fun hh => (hne _ _ _ hh).elim

theorem inclHdrP_nolocals (ctx : Ctx) (h : Hdr) (inc : Field) (docs : Tmpl) :
    inclHdrP false ctx [] h inc docs = inclHdrP true ctx [] h inc docs := by
  unfold inclHdrP
  cases procHdr ctx [] h [inc] <;> simp

theorem inclHdrP_keeps {pub : Bool} {ctx : Ctx} {loc : Env} {h : Hdr} {inc : Field} {docs : Tmpl}
    {i : Info} {cw : Ctx} {ex : List String} (hh : inclHdrP pub ctx loc h inc docs = .ok i cw ex)
    (var v : String) (hk : hdrKeeps var h = true) (hb : ctx.binds var v)
    (hl : lookup loc var = none ∨ lookup loc var = some v) : cw.binds var v := by
  obtain ⟨c', hp, _, rfl⟩ := inclHdrP_ok hh
  have hkeep := (procHdr_keeps hp var v hk hb hl).1
  cases pub with
  | true => exact hkeep
  | false =>
    obtain ⟨_, d, v', _, _, hkeys, rfl, _⟩ := procHdr_ok hp
    simp only [hdrKeeps, Bool.and_eq_true] at hk
    refine ⟨hkeep.1, ?_⟩
    simp only [Bool.false_eq_true, if_false, List.append_assoc, List.drop_left]
    rw [lookup_append_none _ (lookup_none_of_keeps hk.1 hkeys)]; exact hb.2

/-- PUBLISHED BEFORE THE SWAP, the iteration variable an include role was generated with is bound in
    the stack the included documents are read in (unless a user variable overrides it). -/
theorem inclHdrP_binds {ctx : Ctx} {loc : Env} {h : Hdr} {inc : Field} {docs : Tmpl}
    {i : Info} {cw : Ctx} {ex : List String} (hh : inclHdrP true ctx loc h inc docs = .ok i cw ex)
    (var v : String) (hl : lookup loc var = some v) (hu : lookup (h.uvars ++ ctx.U) var = none) : cw.binds var v := by
  obtain ⟨c', hp, _, rfl⟩ := inclHdrP_ok hh
  exact procHdr_publishes hp var v hl hu

theorem maskedOut_eq (cfg : Cfg) :
    maskedOut cfg = ⟨!cfg.maskEnabledError, .nil, { masked := cfg.maskEnabledError }⟩ := by
  unfold maskedOut; cases cfg.maskEnabledError <;> rfl

@[simp] theorem maskedOut_f : (maskedOut cfg).f = .nil := by rw [maskedOut_eq]

@[simp] theorem maskedOut_err : (maskedOut cfg).err = !cfg.maskEnabledError := by rw [maskedOut_eq]

theorem maskedOut_iterDrop : (maskedOut cfg).ev.iterDrop = false := by rw [maskedOut_eq]

@[simp] theorem maskedOut_hollow : (maskedOut cfg).ev.hollow = false := by rw [maskedOut_eq]

theorem aggOut_eq (i : Info) (k : Out) :
    aggOut i k = ⟨k.err, aggTree i k.f, k.ev.or { hollow := !k.f.isNil && !hasNode k.f }⟩ := by
  obtain ⟨e, f, ev⟩ := k
  cases f <;> simp [aggOut, aggTree, Tree.isNil]

@[simp] theorem aggOut_err (i : Info) (k : Out) : (aggOut i k).err = k.err := by rw [aggOut_eq]

theorem aggOut_f (i : Info) (k : Out) : (aggOut i k).f = aggTree i k.f := by rw [aggOut_eq]

theorem iterOut_eq (raw : Bool) (k : Out) :
    iterOut cfg raw k = ⟨k.err, if iterKeep cfg raw k.f then .iter k.f .nil else .nil,
      k.ev.or { iterDrop := !iterKeep cfg raw k.f && hasNode k.f }⟩ := by
  unfold iterOut; cases iterKeep cfg raw k.f <;> simp

@[simp] theorem iterOut_err (raw : Bool) (k : Out) : (iterOut cfg raw k).err = k.err := by rw [iterOut_eq]

theorem iterOut_f (raw : Bool) (k : Out) :
    (iterOut cfg raw k).f = if iterKeep cfg raw k.f then Tree.iter k.f .nil else .nil := by rw [iterOut_eq]

/-- What a role contributes by the outcome of its header: the four cases `proc` distinguishes for every kind of
    role; `k` is the contribution of a role whose header went through. -/
def roleOut (cfg : Cfg) (k : Info → Ctx → List String → Out) : HdrRes → Out
  | .error => ⟨true, .nil, {}⟩
  | .masked => maskedOut cfg
  | .disabled => Out.empty
  | .ok i c ex => k i c ex

theorem roleOut_ok (k : Info → Ctx → List String → Out) (i : Info) (c : Ctx) (ex : List String) :
    roleOut cfg k (.ok i c ex) = k i c ex := rfl

theorem roleOut_forall {P : Out → Prop} {k : Info → Ctx → List String → Out} {r : HdrRes} (herr : P ⟨true, .nil, {}⟩)
    (hmask : P (maskedOut cfg)) (hoff : P Out.empty) (hok : ∀ i c ex, r = .ok i c ex → P (k i c ex)) :
    P (roleOut cfg k r) := by
  cases r with
  | error => exact herr
  | masked => exact hmask
  | disabled => exact hoff
  | ok i c ex => exact hok i c ex rfl

theorem leafOut_eq (mk : Info → List String → Tree) (r : HdrRes) :
    leafOut cfg mk r = roleOut cfg (fun i _ ex => ⟨false, mk i ex, {}⟩) r := by
  cases r <;> rfl

theorem proc_nil (ctx : Ctx) (loc : Env) : proc cfg ctx loc .nil = Out.empty := rfl

theorem proc_agg (ctx : Ctx) (loc : Env) (h kids next) : proc cfg ctx loc (.agg h kids next) =
    (roleOut cfg (fun i c _ => aggOut i (proc cfg c [] kids)) (procHdr ctx loc h [])).seq (proc cfg ctx loc next) := rfl

theorem proc_task (ctx : Ctx) (loc : Env) (h x c next) : proc cfg ctx loc (.task h x c next) =
    (roleOut cfg (fun i _ ex => ⟨false, .task i (resolveExtra ex) c .nil, {}⟩) (procHdr ctx loc h x)).seq
      (proc cfg ctx loc next) := rfl

theorem proc_call (ctx : Ctx) (loc : Env) (h x c next) : proc cfg ctx loc (.call h x c next) =
    (roleOut cfg (fun i _ ex => ⟨false, .call i ex c .nil, {}⟩) (procHdr ctx loc h x)).seq (proc cfg ctx loc next) := rfl

theorem proc_iter (ctx : Ctx) (loc : Env) (r v b next) : proc cfg ctx loc (.iter r v b next) =
    (match evalRange ctx.lookRange r with
      | none => (⟨true, .nil, {}⟩ : Out)
      | some vals =>
        iterOut cfg (rawEnabled b) (vals.foldr (fun w acc => (proc cfg ctx [(v, w)] b).seq acc) Out.empty)).seq
      (proc cfg ctx loc next) := rfl

theorem proc_incl (ctx : Ctx) (loc : Env) (h inc docs next) : proc cfg ctx loc (.incl h inc docs next) =
    (roleOut cfg (fun _ c _ => proc cfg c [] docs) (inclHdr cfg ctx loc h inc docs)).seq (proc cfg ctx loc next) := rfl

theorem proc_doc (ctx : Ctx) (loc : Env) (f h kids next) : proc cfg ctx loc (.doc f h kids next) =
    (roleOut cfg (fun i c _ => aggOut i (proc cfg c [] kids)) (docHdr ctx f h)).seq (proc cfg ctx loc next) := rfl

theorem proc_forall {P : Out → Prop} (herr : P ⟨true, .nil, {}⟩) (hmask : P (maskedOut cfg)) (hoff : P Out.empty)
    (hseq : ∀ a b, P a → P b → P (a.seq b))
    (hleaf : ∀ i, truthy i.enabled = true → ∀ x c, P ⟨false, .task i x c .nil, {}⟩ ∧ P ⟨false, .call i x c .nil, {}⟩)
    (hagg : ∀ i k, truthy i.enabled = true → P k → P (aggOut i k))
    (hiter : ∀ raw k, P k → P (iterOut cfg raw k)) (t : Tmpl) : ∀ (ctx : Ctx) (loc : Env), P (proc cfg ctx loc t) := by
  induction t with
  | nil => exact fun _ _ => hoff
  | agg h kids nx ihk ihn =>
    intro ctx loc
    exact hseq _ _ (roleOut_forall herr hmask hoff fun i c _ hh => hagg i _ (procHdr_enabled hh) (ihk c [])) (ihn ctx loc)
  | task h x c nx ihn =>
    intro ctx loc
    exact hseq _ _ (roleOut_forall herr hmask hoff fun i _ _ hh => (hleaf i (procHdr_enabled hh) _ c).1) (ihn ctx loc)
  | call h x c nx ihn =>
    intro ctx loc
    exact hseq _ _ (roleOut_forall herr hmask hoff fun i _ _ hh => (hleaf i (procHdr_enabled hh) _ c).2) (ihn ctx loc)
  | iter r v b nx ihb ihn =>
    intro ctx loc
    rw [proc_iter]
    refine hseq _ _ ?_ (ihn ctx loc)
    cases evalRange ctx.lookRange r with
    | none => exact herr
    | some vals => exact hiter _ _ (fold_forall hoff hseq (fun w => ihb ctx [(v, w)]) vals)
  | incl h inc docs nx ihd ihn =>
    intro ctx loc
    exact hseq _ _ (roleOut_forall herr hmask hoff fun _ c _ _ => ihd c []) (ihn ctx loc)
  | doc f h kids nx ihk ihn =>
    intro ctx loc
    refine hseq _ _ (roleOut_forall herr hmask hoff fun i c _ hh => ?_) (ihn ctx loc)
    obtain ⟨_, _, hp⟩ := docHdr_ok hh
    exact hagg i _ (procHdr_enabled hp) (ihk c [])

theorem proc_take_drop (ctx : Ctx) (loc : Env) (k : Nat) (t : Tmpl) :
    (proc cfg ctx loc (t.take k)).seq (proc cfg ctx loc (t.drop k)) = proc cfg ctx loc t := by
  induction k generalizing t with
  | zero => exact Out.empty_seq _
  | succ n ih =>
    -- whatever the first role is, `take` keeps it and `drop` skips it
    cases t <;> simp only [Tmpl.take, Tmpl.drop, proc_nil, proc_agg, proc_task, proc_call, proc_iter, proc_incl, proc_doc,
      Out.seq_assoc, Out.empty_seq, ih]

theorem finish_expandPend (ctx : Ctx) (var : String) (body : Tmpl) (vals : List String) :
    finish cfg (expandPend ctx var body vals) =
      vals.foldr (fun v acc => (proc cfg ctx [(var, v)] body).seq acc) Out.empty := by
  induction vals with
  | nil => rfl
  | cons v vs ih => simp only [expandPend, finish, ih, List.foldr_cons]

/-- Running one goroutine early gives what running it at the end gives. -/
theorem finish_fire (ctx : Ctx) (loc : Env) (next : PT) (t : Tmpl) :
    finish cfg (fire cfg ctx loc next t) = (proc cfg ctx loc t).seq (finish cfg next) := by
  cases t with
  | nil => exact (Out.empty_seq _).symm
  | agg h kids nx =>
    rw [proc_agg, Out.seq_assoc, fire]
    cases procHdr ctx loc h [] <;> simp only [finish, roleOut, Out.empty_seq, Out.seq_empty]
  | task h x c nx => rw [proc_task, Out.seq_assoc, fire, finish, finish, leafOut_eq]
  | call h x c nx => rw [proc_call, Out.seq_assoc, fire, finish, finish, leafOut_eq]
  | iter r v b nx =>
    rw [proc_iter, Out.seq_assoc, fire]
    cases evalRange ctx.lookRange r <;> simp only [finish, finish_expandPend]
  | incl h inc docs nx =>
    rw [proc_incl, Out.seq_assoc, fire]
    cases inclHdr cfg ctx loc h inc docs <;> simp only [finish, roleOut, Out.empty_seq]
  | doc f h kids nx =>
    rw [proc_doc, Out.seq_assoc, fire]
    cases docHdr ctx f h <;> simp only [finish, roleOut, Out.empty_seq, Out.seq_empty]

/-- Invariant of the machine: no scheduler decision changes the final outcome. -/
theorem finish_stepAt (s : PT) (p : List Dir) (k : Option Nat) : finish cfg (stepAt cfg s p k) = finish cfg s := by
  fun_induction stepAt cfg s p k with
  | case1 ctx loc t next => exact finish_fire ctx loc next t
  | case2 ctx loc t next k => simp only [finish]; rw [← Out.seq_assoc, proc_take_drop]
  | case3 ctx loc t next p s ih => simp only [finish, ih]
  | case4 i kids next p s ih => simp only [finish, ih]
  | case5 i kids next p s ih => simp only [finish, ih]
  | case6 o next p s ih => simp only [finish, ih]
  | case7 kp kids next p s ih => simp only [finish, ih]
  | case8 kp kids next p s ih => simp only [finish, ih]
  | case9 => rfl

theorem finish_run (s : PT) (sched : List Step) : finish cfg (run cfg s sched) = finish cfg s := by
  induction sched generalizing s with
  | nil => rfl
  | cons st rest ih => rw [run, ih, finish_stepAt]

theorem finish_init (t : Tmpl) : finish cfg (.pend {} [] t .nil) = proc cfg {} [] t :=
  Out.seq_empty _

theorem loadConc_eq (sched : List Step) (t : Tmpl) : loadConc cfg sched t = load cfg t := by
  rw [loadConc, finish_run, finish_init, load]

theorem hasFailed_err (s : PT) (h : hasFailed s = true) : (finish cfg s).err = true := by
  induction s with
  | nil => cases h
  | pend ctx loc t next ih => simp [finish, ih h]
  | aggW i kids next ihk ihn =>
    simp only [hasFailed, Bool.or_eq_true] at h
    rcases h with h | h <;> simp [finish, ihk, ihn, h]
  | leaf o next ih =>
    simp only [hasFailed, Bool.or_eq_true] at h
    rcases h with h | h <;> simp [finish, ih, h]
  | iterW kp kids next ihk ihn =>
    simp only [hasFailed, Bool.or_eq_true] at h
    rcases h with h | h <;> simp [finish, ihk, ihn, h]

/-- a result as the sequential path returns it: an error, or the roles that are left -/
def Out.toExc (o : Out) : Except Unit Tree := if o.err then .error () else .ok o.f

theorem toExc_seq (a b : Out) : (a.seq b).toExc = seqCat a.toExc b.toExc := by
  obtain ⟨ae, af, _⟩ := a
  obtain ⟨be, bf, _⟩ := b
  cases ae <;> cases be <;> rfl

/-- the four outcomes of a header on the sequential path: `body` is what `procSeq` does once the header is through -/
theorem roleOut_toExc (k : Info → Ctx → List String → Out) (r : HdrRes) (rest : Out)
    (body : Info → Ctx → List String → Except Unit Tree)
    (hb : ∀ i c ex, body i c ex = seqCat (k i c ex).toExc rest.toExc) :
    (match r with
      | .error => .error ()
      | .masked => if cfg.maskEnabledError then rest.toExc else .error ()
      | .disabled => rest.toExc
      | .ok i c ex => body i c ex) = ((roleOut cfg k r).seq rest).toExc := by
  cases r with
  | error => rfl
  | masked => cases hm : cfg.maskEnabledError <;> simp [roleOut, maskedOut_eq, hm, Out.toExc]
  | disabled => simp [roleOut]
  | ok i c ex => simp only [hb, toExc_seq, roleOut]

theorem aggOut_toExc (i : Info) (k : Out) :
    (aggOut i k).toExc = match k.toExc with | .error e => .error e | .ok kf => .ok (aggTree i kf) := by
  simp only [Out.toExc, aggOut_err, aggOut_f]
  cases k.err <;> rfl

theorem fold_toExc (g : String → Out) (vals : List String) :
    vals.foldr (fun v acc => seqCat (g v).toExc acc) (.ok .nil) =
      (vals.foldr (fun v acc => (g v).seq acc) Out.empty).toExc :=
  List.foldr_hom Out.toExc (init := Out.empty) fun _ _ => (toExc_seq _ _).symm

theorem iterOut_toExc (raw : Bool) (k : Out) :
    (iterOut cfg raw k).toExc =
      match k.toExc with | .error e => .error e | .ok kf => .ok (if iterKeep cfg raw kf then .iter kf .nil else .nil) := by
  simp only [Out.toExc, iterOut_err, iterOut_f]
  cases k.err <;> rfl

theorem procSeq_eq (ctx : Ctx) (loc : Env) (t : Tmpl) : procSeq cfg ctx loc t = (proc cfg ctx loc t).toExc := by
  induction t generalizing ctx loc with
  | nil => rfl
  | agg h kids nx ihk ihn | doc f h kids nx ihk ihn =>
    simp only [procSeq, proc_agg, proc_doc, ihk, ihn]
    refine roleOut_toExc _ _ _ _ fun i c ex => ?_
    rw [aggOut_toExc]
    cases (proc cfg c [] kids).toExc <;> cases (proc cfg ctx loc nx).toExc <;> rfl
  | task h x c nx ihn | call h x c nx ihn =>
    simp only [procSeq, proc_task, proc_call, ihn]
    refine roleOut_toExc _ _ _ _ fun i c ex => ?_
    cases (proc cfg ctx loc nx).toExc <;> rfl
  | iter r v b nx ihb ihn =>
    simp only [procSeq, proc_iter, ihb, ihn, toExc_seq]
    cases evalRange ctx.lookRange r with
    | none => rfl
    | some vals =>
      simp only [fold_toExc, iterOut_toExc]
      cases (vals.foldr (fun w acc => (proc cfg ctx [(v, w)] b).seq acc) Out.empty).toExc <;>
        cases (proc cfg ctx loc nx).toExc <;> rfl
  | incl h inc docs nx ihd ihn =>
    simp only [procSeq, proc_incl, ihd, ihn]
    exact roleOut_toExc _ _ _ _ fun i c ex => rfl

theorem loadSeq_eq (t : Tmpl) : loadSeq cfg t = load cfg t := by
  simp only [loadSeq, load, procSeq_eq, Out.loaded, Out.toExc]
  cases (proc cfg {} [] t).err <;> rfl

theorem loadWith_eq (sw : Switches) (sched : List Step) (t : Tmpl) : loadWith cfg sw sched t = load cfg t := by
  unfold loadWith
  split
  · exact loadSeq_eq t
  · exact loadConc_eq sched t

theorem Tree.flatten_append (a b : Tree) : (a ++ b).flatten = a.flatten ++ b.flatten := by
  induction a <;> simp [Tree.flatten, Tree.append_assoc, *]

theorem Tree.append_eq_nil {a b : Tree} : a ++ b = Tree.nil ↔ a = .nil ∧ b = .nil := by
  cases a <;> simp

theorem flatten_nil_iff (f : Tree) : f.flatten = .nil ↔ hasNode f = false := by
  induction f with
  | iter k n ihk ihn => simp [Tree.flatten, hasNode, Tree.append_eq_nil, ihk, ihn]
  | _ => simp [Tree.flatten, hasNode]

/-- a result as the ideal loader states it: iterator nodes transparent, no record of the three behaviours -/
def Out.toI (o : Out) : IOut := ⟨o.err, o.f.flatten⟩

theorem toI_seq (a b : Out) : (a.seq b).toI = a.toI.seq b.toI := by
  simp [Out.toI, IOut.seq, Tree.flatten_append]

theorem aggTree_of_ne (i : Info) {f : Tree} (h : f ≠ .nil) : aggTree i f = .agg i f .nil := by
  cases f with
  | nil => exact absurd rfl h
  | _ => rfl

theorem idealAgg_eq (i : Info) (k : IOut) : idealAgg i k = ⟨k.err, aggTree i k.f⟩ := by
  obtain ⟨e, f⟩ := k
  cases f <;> rfl

/-- pruning an empty aggregator before or after `GetRoles` is the same, unless it is hollow -/
theorem aggTree_flatten (i : Info) {f : Tree} (h : (!f.isNil && !hasNode f) = false) :
    (aggTree i f).flatten = aggTree i f.flatten := by
  cases f with
  | iter k n =>
    have hne : (Tree.iter k n).flatten ≠ .nil := fun hc => by simp [(flatten_nil_iff _).1 hc, Tree.isNil] at h
    rw [aggTree_of_ne i hne]; rfl
  | _ => rfl

/-- `o'` is what the ideal loader makes of the result `o`, as long as none of the three behaviours is recorded in `o` -/
def Out.Agrees (o : Out) (o' : IOut) : Prop := o.ev.none = true → o' = o.toI

namespace Out.Agrees

/-- a result free of the three behaviours has both parts free of them -/
theorem seq {a b : Out} {a' b' : IOut} (ha : a.Agrees a') (hb : b.Agrees b') : (a.seq b).Agrees (a'.seq b') := fun h => by
  rw [Out.seq_ev, Events.none_or, Bool.and_eq_true] at h
  rw [toI_seq, ha h.1, hb h.2]

/-- the ideal loader takes a failed `enabled` for an error: it agrees with `maskedOut` unless the error was swallowed -/
theorem roleOut {k : Info → Ctx → List String → Out} {k' : Info → Ctx → List String → IOut}
    (hk : ∀ i c ex, (k i c ex).Agrees (k' i c ex)) (r : HdrRes) :
    (Load.roleOut cfg k r).Agrees
      (match r with
        | .error => ⟨true, .nil⟩
        | .masked => ⟨true, .nil⟩
        | .disabled => {}
        | .ok i c ex => k' i c ex) := by
  cases r with
  | masked =>
    intro hev
    simp only [Load.roleOut, maskedOut_eq] at hev ⊢
    cases hm : cfg.maskEnabledError
    · rfl
    · simp [hm, Events.none] at hev
  | ok i c ex => exact hk i c ex
  | _ => exact fun _ => rfl

theorem agg (i : Info) {k : Out} {k' : IOut} (hk : k.Agrees k') : (aggOut i k).Agrees (idealAgg i k') := fun h => by
  rw [aggOut_eq, Events.none_or, Bool.and_eq_true] at h
  simp only [hk h.1, aggOut_eq, idealAgg_eq, Out.toI, aggTree_flatten i ((Bool.not_eq_true' _).mp h.2)]

theorem iter (raw : Bool) {k : Out} {k' : IOut} (hk : k.Agrees k') : (iterOut cfg raw k).Agrees k' := fun h => by
  rw [iterOut_eq, Events.none_or, Bool.and_eq_true] at h
  rw [hk h.1, iterOut_eq, Out.toI, Out.toI]
  split
  · simp [Tree.flatten]
  · have : hasNode k.f = false := by simpa [Events.none, *] using h.2
    rw [(flatten_nil_iff _).2 this]; rfl

theorem fold {g : String → Out} {g' : String → IOut} (hg : ∀ w, (g w).Agrees (g' w)) : ∀ vals : List String,
    (vals.foldr (fun w acc => (g w).seq acc) Out.empty).Agrees (vals.foldr (fun w acc => (g' w).seq acc) {})
  | [] => fun _ => rfl
  | a :: as => (hg a).seq (fold hg as)

end Out.Agrees

theorem proc_agrees (hl : cfg.inclPublishLate = false) (t : Tmpl) : ∀ (ctx : Ctx) (loc : Env),
    (proc cfg ctx loc t).Agrees (ideal ctx loc t) := by
  induction t with
  | nil => exact fun _ _ _ => rfl
  | agg h kids nx ihk ihn | doc f h kids nx ihk ihn =>
    exact fun ctx loc => .seq (.roleOut (fun i c _ => (ihk c []).agg i) _) (ihn ctx loc)
  | task h x c nx ihn | call h x c nx ihn =>
    exact fun ctx loc => .seq (.roleOut (fun _ _ _ _ => rfl) _) (ihn ctx loc)
  | iter r v b nx ihb ihn =>
    intro ctx loc
    rw [proc_iter, ideal]
    refine .seq ?_ (ihn ctx loc)
    cases evalRange ctx.lookRange r with
    | none => exact fun _ => rfl
    | some vals => exact (Out.Agrees.fold (fun w => ihb ctx [(v, w)]) vals).iter _
  | incl h inc docs nx ihd ihn =>
    intro ctx loc
    rw [proc_incl, ideal, show inclHdr cfg = inclHdrP true by simp [inclHdr, hl]]
    exact .seq (.roleOut (fun _ c _ => ihd c []) _) (ihn ctx loc)

theorem load_ideal (hl : cfg.inclPublishLate = false) (t : Tmpl) (h : (proc cfg {} [] t).ev.none = true) :
    load cfg t = idealLoad t := by
  rw [load, idealLoad, proc_agrees hl t {} [] h]; rfl

theorem loaded_all {o : Out} {p : Tree → Bool} (h : p o.f.flatten = true) : o.loaded.all p = true := by
  unfold Out.loaded
  split
  · rfl
  · split
    · rfl
    · exact h

theorem noEmptyAgg_append (a b : Tree) : noEmptyAgg (a ++ b) = (noEmptyAgg a && noEmptyAgg b) := by
  induction a <;> simp [noEmptyAgg, Bool.and_assoc, *]

theorem noEmptyAgg_aggTree (i : Info) {f : Tree} (h : noEmptyAgg f = true) : noEmptyAgg (aggTree i f) = true := by
  cases f <;> simp_all [aggTree, noEmptyAgg, Tree.isNil]

theorem proc_noEmptyAgg (t : Tmpl) (ctx : Ctx) (loc : Env) : noEmptyAgg (proc cfg ctx loc t).f = true := by
  refine proc_forall (P := fun o => noEmptyAgg o.f = true) rfl (by rw [maskedOut_f]; rfl) rfl ?_ (fun _ _ _ _ => ⟨rfl, rfl⟩)
    ?_ ?_ t ctx loc
  · intro a b ha hb; rw [Out.seq_f, noEmptyAgg_append, ha, hb]; rfl
  · intro i k _ hk; rw [aggOut_f]; exact noEmptyAgg_aggTree i hk
  · intro raw k hk; rw [iterOut_f]; split <;> simp [noEmptyAgg, hk]

theorem proc_flat_noEmptyAgg (t : Tmpl) (ctx : Ctx) (loc : Env) :
    (proc cfg ctx loc t).ev.hollow = false → noEmptyAgg (proc cfg ctx loc t).f.flatten = true := by
  refine proc_forall (P := fun o => o.ev.hollow = false → noEmptyAgg o.f.flatten = true) (fun _ => rfl)
    (fun _ => by rw [maskedOut_f]; rfl) (fun _ => rfl) ?_ (fun _ _ _ _ => ⟨fun _ => rfl, fun _ => rfl⟩) ?_ ?_ t ctx loc
  · intro a b ha hb h
    rw [Out.seq_ev, Events.or_hollow, Bool.or_eq_false_iff] at h
    rw [Out.seq_f, Tree.flatten_append, noEmptyAgg_append, ha h.1, hb h.2]; rfl
  · intro i k _ hk h
    rw [aggOut_eq, Events.or_hollow, Bool.or_eq_false_iff] at h
    rw [aggOut_f, aggTree_flatten i h.2]
    exact noEmptyAgg_aggTree i (hk h.1)
  · intro raw k hk h
    rw [iterOut_eq, Events.or_hollow, Bool.or_false] at h
    rw [iterOut_f]; split
    · simpa [Tree.flatten] using hk h
    · rfl

theorem noIter_append (a b : Tree) : noIter (a ++ b) = (noIter a && noIter b) := by
  induction a <;> simp [noIter, Bool.and_assoc, *]

theorem noIter_flatten (f : Tree) : noIter f.flatten = true := by
  induction f <;> simp [Tree.flatten, noIter, noIter_append, *]

theorem allEnabled_append (a b : Tree) : allEnabled (a ++ b) = (allEnabled a && allEnabled b) := by
  induction a <;> simp [allEnabled, Bool.and_assoc, *]

theorem proc_allEnabled (t : Tmpl) (ctx : Ctx) (loc : Env) : allEnabled (proc cfg ctx loc t).f = true := by
  refine proc_forall (P := fun o => allEnabled o.f = true) rfl (by rw [maskedOut_f]; rfl) rfl ?_ ?_ ?_ ?_ t ctx loc
  · intro a b ha hb; rw [Out.seq_f, allEnabled_append, ha, hb]; rfl
  · intro i hi x c; simp [allEnabled, hi]
  · intro i k hi hk; rw [aggOut_f]; cases hf : k.f <;> simp_all [aggTree, allEnabled]
  · intro raw k hk; rw [iterOut_f]; split <;> simp [allEnabled, hk]

theorem allEnabled_flatten (f : Tree) (h : allEnabled f = true) : allEnabled f.flatten = true := by
  induction f <;> simp_all [Tree.flatten, allEnabled, allEnabled_append]

theorem hasNode_append (a b : Tree) : hasNode (a ++ b) = (hasNode a || hasNode b) := by
  induction a <;> simp [hasNode, Bool.or_assoc, *]

/-- "solid": a sibling list that is not empty holds a real role (no iterator node over nothing) -/
def solid (f : Tree) : Prop := hasNode f = !f.isNil

theorem solid_append {a b : Tree} (ha : solid a) (hb : solid b) : solid (a ++ b) := by
  unfold solid at *
  rw [hasNode_append, Tree.isNil_append, ha, hb, Bool.not_and]

theorem solid_aggTree (i : Info) (f : Tree) : solid (aggTree i f) := by
  cases f <;> rfl

/-- With the rule of the code as it is (`iterByRawText = false`: an iterator that holds nothing is filtered out)
    every stored sibling list is solid; so no aggregator is kept over iterators alone and an iterator is dropped only
    when it holds nothing. When moreover an `enabled` error is passed on, none of the three behaviours is recorded. -/
theorem proc_code_solid (hc : cfg.iterByRawText = false) (t : Tmpl) (ctx : Ctx) (loc : Env) :
    solid (proc cfg ctx loc t).f ∧ (cfg.maskEnabledError = false → (proc cfg ctx loc t).ev = {}) := by
  refine proc_forall (P := fun o => solid o.f ∧ (cfg.maskEnabledError = false → o.ev = {})) ⟨rfl, fun _ => rfl⟩
    ⟨by rw [maskedOut_f]; rfl, fun hm => by rw [maskedOut_eq, hm]⟩ ⟨rfl, fun _ => rfl⟩ ?_
    (fun _ _ _ _ => ⟨⟨rfl, fun _ => rfl⟩, rfl, fun _ => rfl⟩) ?_ ?_ t ctx loc
  · intro a b ha hb
    exact ⟨solid_append ha.1 hb.1, fun hm => by rw [Out.seq_ev, ha.2 hm, hb.2 hm]; rfl⟩
  · intro i k _ hk
    rw [aggOut_eq]
    refine ⟨solid_aggTree i k.f, fun hm => ?_⟩
    simp [hk.2 hm, show hasNode k.f = !k.f.isNil from hk.1]
  · intro raw k hk
    obtain ⟨e, f, ev⟩ := k
    cases f <;> simp_all [iterOut, iterKeep, Tree.isNil, solid, hasNode]

theorem proc_code_none (t : Tmpl) (ctx : Ctx) (loc : Env) : (proc codeCfg ctx loc t).ev.none = true := by
  rw [(proc_code_solid rfl t ctx loc).2 rfl]; rfl

theorem load_code_ideal (t : Tmpl) : load codeCfg t = idealLoad t := load_ideal rfl t (proc_code_none t {} [])

theorem body_disabled (ctx : Ctx) (loc : Env) (b : Tmpl)
    (hl : (match b with
           | .agg h _ .nil => isLiteral h.enabled
           | .task h _ _ .nil => isLiteral h.enabled
           | .call h _ _ .nil => isLiteral h.enabled
           | .incl h _ _ .nil => isLiteral h.enabled
           | _ => false) = true)
    (hr : rawEnabled b = false) : proc cfg ctx loc b = Out.empty := by
  have hd : ∀ {h : Hdr} (x : List Field), isLiteral h.enabled = true → truthy (rawText h.enabled) = false →
      procHdr ctx loc h x = .disabled := fun x hl hr => procHdr_disabled (evalField_literal _ _ hl) hr
  split at hl
  · rw [proc_agg, hd _ hl hr]; rfl
  · rw [proc_task, hd _ hl hr]; rfl
  · rw [proc_call, hd _ hl hr]; rfl
  · rw [proc_incl, inclHdr, inclHdrP, hd _ hl hr]; rfl
  · cases hl

theorem aggOut_iterDrop (i : Info) (k : Out) : (aggOut i k).ev.iterDrop = k.ev.iterDrop := by
  rw [aggOut_eq]; exact Bool.or_false _

theorem proc_no_iterDrop (t : Tmpl) : ∀ (ctx : Ctx) (loc : Env),
    iterEnabledLiteral t = true → (proc cfg ctx loc t).ev.iterDrop = false := by
  have hseq : ∀ {a b : Out}, a.ev.iterDrop = false → b.ev.iterDrop = false → (a.seq b).ev.iterDrop = false :=
    fun ha hb => by rw [Out.seq_ev, Events.or_iterDrop, ha, hb]; rfl
  have hrole : ∀ {k r}, (∀ i c ex, r = .ok i c ex → (k i c ex).ev.iterDrop = false) →
      (roleOut cfg k r).ev.iterDrop = false :=
    roleOut_forall (P := fun o => o.ev.iterDrop = false) rfl maskedOut_iterDrop rfl
  induction t with
  | nil => intros; rfl
  | agg h kids nx ihk ihn | doc f h kids nx ihk ihn =>
    intro ctx loc hl
    simp only [iterEnabledLiteral, Bool.and_eq_true] at hl
    exact hseq (hrole fun i c _ _ => (aggOut_iterDrop i _).trans (ihk c [] hl.1))
      (ihn ctx loc hl.2)
  | task h x c nx ihn | call h x c nx ihn =>
    intro ctx loc hl
    exact hseq (hrole fun _ _ _ _ => rfl) (ihn ctx loc hl)
  | iter r v b nx ihb ihn =>
    intro ctx loc hl
    simp only [iterEnabledLiteral, Bool.and_eq_true] at hl
    rw [proc_iter]
    refine hseq ?_ (ihn ctx loc hl.2)
    cases evalRange ctx.lookRange r with
    | none => rfl
    | some vals =>
      have hfold := fold_forall (P := fun o => o.ev.iterDrop = false) rfl (fun _ _ => hseq)
        (fun w => ihb ctx [(v, w)] hl.1.2) vals
      dsimp only
      rw [iterOut_eq, Events.or_iterDrop, hfold, Bool.false_or, Bool.and_eq_false_iff, Bool.not_eq_false']
      -- an iterator that is not kept holds no role: with `iterByRawText` because every copy of the template is disabled
      cases hc : cfg.iterByRawText with
      | false =>
        generalize (vals.foldr _ Out.empty).f = f
        cases f <;> simp [iterKeep, hc, Tree.isNil, hasNode]
      | true =>
        cases hraw : rawEnabled b with
        | true => exact Or.inl (by simp [iterKeep, hc])
        | false =>
          refine Or.inr ?_
          rw [show vals.foldr _ Out.empty = Out.empty from
            fold_forall (P := (· = Out.empty)) rfl (fun _ _ ha hb => by rw [ha, hb]; rfl)
              (fun w => body_disabled ctx _ b hl.1.1 hraw) vals]
          rfl
  | incl h inc docs nx ihd ihn =>
    intro ctx loc hl
    simp only [iterEnabledLiteral, Bool.and_eq_true] at hl
    exact hseq (hrole fun _ c _ _ => ihd c [] hl.1) (ihn ctx loc hl.2)

theorem Tree.infos_append (a b : Tree) : (a ++ b).infos = a.infos ++ b.infos := by
  induction a <;> simp [Tree.infos, *]

theorem single_infos (ctx : Ctx) (var v : String) (body : Tmpl) (hs : single body = true) :
    (proc cfg ctx [(var, v)] body).f.infos.map (fun i => lookup i.ownV var) =
      if (proc cfg ctx [(var, v)] body).f.isNil then [] else [some v] := by
  have hrole : ∀ {k : Info → Ctx → List String → Out} {h x},
      (∀ i c ex, ((k i c ex).f.infos = [i] ∧ (k i c ex).f.isNil = false) ∨ (k i c ex).f = .nil) →
      (roleOut cfg k (procHdr ctx [(var, v)] h x)).f.infos.map (fun i => lookup i.ownV var) =
        if (roleOut cfg k (procHdr ctx [(var, v)] h x)).f.isNil then [] else [some v] := by
    intro k h x hk
    refine roleOut_forall (P := fun o => o.f.infos.map (fun i => lookup i.ownV var) = if o.f.isNil then [] else [some v])
      rfl (by rw [maskedOut_f]; rfl) rfl fun i c ex hh => ?_
    rcases hk i c ex with ⟨h1, h2⟩ | h1
    · simp [h1, h2, procHdr_ownV hh (lookup_loc var v [])]
    · rw [h1]; rfl
  unfold single at hs
  split at hs
  · rw [proc_agg, proc_nil, Out.seq_empty]
    exact hrole fun i c _ => by
      rw [aggOut_f]; cases (proc cfg c [] _).f <;> simp [aggTree, Tree.infos, Tree.isNil]
  · rw [proc_task, proc_nil, Out.seq_empty]; exact hrole fun _ _ _ => Or.inl ⟨rfl, rfl⟩
  · rw [proc_call, proc_nil, Out.seq_empty]; exact hrole fun _ _ _ => Or.inl ⟨rfl, rfl⟩
  · cases hs

theorem iter_bindings (ctx : Ctx) (var : String) (body : Tmpl) (hs : single body = true) (vals : List String) :
    (vals.foldr (fun v acc => (proc cfg ctx [(var, v)] body).seq acc) Out.empty).f.infos.map (fun i => lookup i.ownV var) =
      (vals.filter fun v => !(proc cfg ctx [(var, v)] body).f.isNil).map some := by
  rw [fold_f]
  induction vals with
  | nil => rfl
  | cons a as ih =>
    simp only [List.foldr_cons, Tree.infos_append, List.map_append, ih, single_infos ctx var a body hs, List.filter_cons]
    cases (proc cfg ctx [(var, a)] body).f.isNil <;> rfl

@[simp] theorem Tree.leaves_append (a b : Tree) : (a ++ b).leaves = a.leaves ++ b.leaves := by
  induction a <;> simp [Tree.leaves, *]

theorem aggOut_leaves (i : Info) (k : Out) : (aggOut i k).f.leaves = k.f.leaves := by
  rw [aggOut_f]
  cases k.f <;> simp [aggTree, Tree.leaves]

theorem fold_leaves (g : String → Out) (vals : List String) :
    (vals.foldr (fun v acc => (g v).seq acc) Out.empty).f.leaves = vals.flatMap fun v => (g v).f.leaves := by
  induction vals with
  | nil => rfl
  | cons a as ih => simp [ih]

theorem iter_leaves (ctx : Ctx) (loc : Env) (r : RangeT) (v : String) (b : Tmpl)
    (hb : cfg.iterByRawText = true → rawEnabled b = true) :
    (proc cfg ctx loc (.iter r v b .nil)).f.leaves =
      match evalRange ctx.lookRange r with
      | none => []
      | some ws => ws.flatMap fun w => (proc cfg ctx [(v, w)] b).f.leaves := by
  rw [proc_iter, proc_nil, Out.seq_empty]
  cases evalRange ctx.lookRange r with
  | none => rfl
  | some ws =>
    have : ∀ k : Out, (iterOut cfg (rawEnabled b) k).f.leaves = k.f.leaves := by
      intro k
      rw [iterOut_f, iterKeep]
      cases hc : cfg.iterByRawText with
      | true => simp [hb hc, Tree.leaves]
      | false => cases k.f <;> simp [Tree.isNil, Tree.leaves]
    dsimp only
    exact (this _).trans (fold_leaves _ ws)

theorem agg_leaves (ctx : Ctx) (loc : Env) (h : Hdr) (kids : Tmpl) :
    (proc cfg ctx loc (.agg h kids .nil)).f.leaves =
      match procHdr ctx loc h [] with
      | .ok _ c' _ => (proc cfg c' [] kids).f.leaves
      | _ => [] := by
  rw [proc_agg, proc_nil, Out.seq_empty]
  cases procHdr ctx loc h [] with
  | ok i c' ex => exact aggOut_leaves i _
  | masked => simp [roleOut, Tree.leaves]
  | _ => rfl

theorem nest_leaves (inner : Tmpl) (ls : List Level) : ∀ ctx : Ctx, (cfg.iterByRawText = true → nestEnabled ls = true) →
    (proc cfg ctx [] (nest ls inner)).f.leaves = (nestCtxs ctx ls).flatMap fun c => (proc cfg c [] inner).f.leaves := by
  induction ls with
  | nil => intro ctx _; simp [nest, nestCtxs]
  | cons l ls ih =>
    intro ctx hen
    simp only [nestEnabled, List.all_cons, Bool.and_eq_true] at hen
    rw [nest, iter_leaves ctx [] l.rng l.var (.agg l.hdr (nest ls inner) .nil) fun hc => (hen hc).1, nestCtxs]
    cases evalRange ctx.lookRange l.rng with
    | none => rfl
    | some ws =>
      simp only [List.flatMap_assoc]
      congr 1
      funext w
      rw [agg_leaves]
      cases procHdr ctx [(l.var, w)] l.hdr [] with
      | ok i c' ex => exact ih c' fun hc => (hen hc).2
      | _ => rfl

theorem Tree.allInfos_append (a b : Tree) : (a ++ b).allInfos = a.allInfos ++ b.allInfos := by
  induction a <;> simp [Tree.allInfos, *]

/-- every role of a result — aggregators too, through iterator nodes — satisfies `Q` -/
def Out.roles (Q : Info → Prop) (o : Out) : Prop := ∀ j ∈ o.f.allInfos, Q j

theorem roles_nil {Q : Info → Prop} {o : Out} (h : o.f = .nil) : o.roles Q :=
  fun j hj => by rw [h] at hj; cases hj

theorem roles_seq {Q : Info → Prop} {a b : Out} (ha : a.roles Q) (hb : b.roles Q) : (a.seq b).roles Q := fun j hj => by
  rw [Out.seq_f, Tree.allInfos_append, List.mem_append] at hj
  exact hj.elim (ha j) (hb j)

theorem roles_roleOut {Q : Info → Prop} {k : Info → Ctx → List String → Out} {r : HdrRes}
    (hok : ∀ i c ex, r = .ok i c ex → (k i c ex).roles Q) : (roleOut cfg k r).roles Q :=
  roleOut_forall (roles_nil rfl) (roles_nil maskedOut_f) (roles_nil rfl) hok

theorem roles_aggOut {Q : Info → Prop} {i : Info} {k : Out} (hi : Q i) (hk : k.roles Q) : (aggOut i k).roles Q :=
  fun j hj => by
    rw [aggOut_f] at hj
    cases hf : k.f with
    | nil => rw [hf] at hj; cases hj
    | _ =>
      rw [aggTree_of_ne i (by rw [hf]; exact Tree.noConfusion), Tree.allInfos, Tree.allInfos, List.append_nil,
        List.mem_cons] at hj
      exact hj.elim (fun h => h ▸ hi) (hk j)

theorem roles_iterOut {Q : Info → Prop} {raw : Bool} {k : Out} (hk : k.roles Q) : (iterOut cfg raw k).roles Q :=
  fun j hj => by
    rw [iterOut_f] at hj
    split at hj
    · exact hk j (by simpa [Tree.allInfos] using hj)
    · cases hj

theorem proc_keeps (var v : String) (t : Tmpl) : ∀ (ctx : Ctx) (loc : Env), noRebind var t = true → ctx.binds var v →
    (lookup loc var = none ∨ lookup loc var = some v) →
    ∀ i ∈ (proc cfg ctx loc t).f.allInfos, lookup i.stack var = some v := by
  induction t with
  | nil => exact fun _ _ _ _ _ => roles_nil rfl
  | agg h kids nx ihk ihn =>
    intro ctx loc hn hb hl
    simp only [noRebind, Bool.and_eq_true] at hn
    refine roles_seq (roles_roleOut fun i c _ hh => ?_) (ihn ctx loc hn.2 hb hl)
    have hp := procHdr_keeps hh var v hn.1.1 hb hl
    exact roles_aggOut hp.2 (ihk c [] hn.1.2 hp.1 (Or.inl rfl))
  | task h x c nx ihn | call h x c nx ihn =>
    intro ctx loc hn hb hl
    simp only [noRebind, Bool.and_eq_true] at hn
    refine roles_seq (roles_roleOut fun i _ _ hh j hj => ?_) (ihn ctx loc hn.2 hb hl)
    rw [List.mem_singleton.1 hj]
    exact (procHdr_keeps hh var v hn.1 hb hl).2
  | iter r w b nx ihb ihn =>
    intro ctx loc hn hb hl
    simp only [noRebind, Bool.and_eq_true, bne_iff_ne, ne_eq] at hn
    rw [proc_iter]
    refine roles_seq ?_ (ihn ctx loc hn.2 hb hl)
    cases evalRange ctx.lookRange r with
    | none => exact roles_nil rfl
    | some vals =>
      -- the iterator's own variable is another one, so each copy still reads `v`
      exact roles_iterOut (fold_forall (roles_nil rfl) (fun _ _ => roles_seq)
        (fun e => ihb ctx [(w, e)] hn.1.2 hb (Or.inl ((Assoc.get_cons w e [] var).trans (if_neg hn.1.1)))) vals)
  | incl h inc docs nx ihd ihn =>
    intro ctx loc hn hb hl
    simp only [noRebind, Bool.and_eq_true] at hn
    exact roles_seq (roles_roleOut fun i c _ hh => ihd c [] hn.1.2 (inclHdrP_keeps hh var v hn.1.1 hb hl) (Or.inl rfl))
      (ihn ctx loc hn.2 hb hl)
  | doc f h kids nx ihk ihn =>
    intro ctx loc hn hb hl
    simp only [noRebind, Bool.and_eq_true] at hn
    refine roles_seq (roles_roleOut fun i c _ hh => ?_) (ihn ctx loc hn.2 hb hl)
    obtain ⟨nm, _, hp'⟩ := docHdr_ok hh
    have hp := procHdr_keeps hp' var v hn.1.1 hb (Or.inl rfl)
    exact roles_aggOut hp.2 (ihk c [] hn.1.2 hp.1 (Or.inl rfl))

end Load
