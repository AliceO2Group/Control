/-
  Proofs/Own — what a destroy, or the failure tail of a creation, leaves behind.

  A teardown that completes releases exactly the environment's tasks (`release_all'`, `tdDone_state`); the sweep that
  follows sends each of them a KILL or puts it back unowned (`RowsAfter`, `clean_core`); a destroy answers success only
  after such a teardown and a sweep without a failing KILL (`Tidy.tac_clean`, `Tidy.destroy_clean`). What these ask of the
  state in which the environment is torn down is `Tidy s k E`; it survives STOP / RESET / GO_ERROR (`SameOwn`,
  `Tidy.sameOwn`: `envWf`, `statusFaithful`, `hooksOk`), the call counters of CONFIGURE (`Tidy.calls`) and lost executors and
  agents (`LossKeeps`, `Tidy.afterLoss`: `envWf`, `statusFaithful`, `hostsAgree`).
-/
import ControlModel.Spec.C06
import ControlModel.Proofs.OwnInv

namespace Own

theorem teardown_done {s : State} {k : EnvId} {force late : Bool} {hf : List TaskId}
    (h : (teardown s k force late hf).2.1 = .ok ∨ (teardown s k force late hf).2.1 = .doneErr) :
    ∃ E, s.env? k = some E ∧ (teardown s k force late hf).1 = tdDone s k E := by
  revert h
  rcases teardown_cases s k force late hf with ⟨_, e⟩ | ⟨E, hE, ⟨_, e⟩ | ⟨_, _, e⟩ | ⟨_, _, e⟩ |
    ⟨_, _, _, ⟨_, e⟩ | ⟨_, _, e⟩ | ⟨_, _, e⟩⟩⟩ <;> rw [e] <;> intro h
  · exact absurd h (by simp)
  · exact absurd h (by simp)
  · exact absurd h (by simp)
  · exact absurd h (by simp)
  · exact absurd h (by simp)
  · exact absurd h (by simp)
  · exact ⟨E, hE, rfl⟩

theorem teardown_done_unlisted (s : State) (k : EnvId) (force late : Bool) (hf : List TaskId)
    (h : (teardown s k force late hf).2.1 = .ok ∨ (teardown s k force late hf).2.1 = .doneErr) :
    ∀ E ∈ (teardown s k force late hf).1.envs, E.id ≠ k := by
  obtain ⟨E, _, e⟩ := teardown_done h
  rw [e]
  exact fun X hX => of_decide_eq_true (List.mem_filter.mp hX).2

theorem cleanupTasks_envs (s : State) (ids : List TaskId) : (cleanupTasks s ids).envs = s.envs := by
  unfold cleanupTasks; split <;> rfl

theorem tcFin_ok (keep : Bool) (ids : List TaskId) (s' : State) (res : TRes) (tr : List TEv) :
    (tcFin keep ids s' res tr).2.1 = .ok → res = .ok ∧ (tcFin keep ids s' res tr).1.envs = s'.envs := by
  fun_cases tcFin keep ids s' res tr
  · exact fun _ => ⟨rfl, rfl⟩
  · exact fun _ => ⟨rfl, cleanupTasks_envs _ _⟩
  all_goals exact fun h => Res.noConfusion h

theorem teardownAndCleanup_ok_unlisted (s : State) (k : EnvId) (ids : List TaskId) (force keep : Bool) (o : DOracle) :
    (teardownAndCleanup s k ids force keep o).2.1 = .ok →
    ∀ E ∈ (teardownAndCleanup s k ids force keep o).1.envs, E.id ≠ k := by
  fun_cases teardownAndCleanup s k ids force keep o <;> intro h <;> obtain ⟨a, b⟩ := tcFin_ok _ _ _ _ _ h <;> rw [b] <;>
    exact teardown_done_unlisted _ _ _ _ _ (Or.inl a)

theorem destroy_ok_unlisted (s : State) (k : EnvId) (force allow keep : Bool) (o : DOracle) :
    (destroy s k force allow keep o).2.1 = .ok →
    ∀ E ∈ (destroy s k force allow keep o).1.envs, E.id ≠ k := by
  rcases destroy_cases s k force allow keep o with ⟨_, h⟩ | ⟨E, s1, f, kp, _, _, _, _, e⟩
  · exact fun hok => absurd hok h
  · rw [e]; exact teardownAndCleanup_ok_unlisted _ _ _ _ _ _

theorem released_unlocked (s : State) (e : EnvId) (ids : List TaskId) (h0 : (releaseTasks s e ids).2 = 0) :
    ∀ t ∈ (releaseTasks s e ids).1.roster, t.id ∈ ids → t.isLocked = false := by
  intro t' ht' hid
  obtain ⟨t, ht, rfl⟩ := List.mem_map.mp ht'
  simp only [releaseTasks, List.length_eq_zero_iff, List.filter_eq_nil_iff] at h0
  have h1 := h0 t ht
  by_cases hi : t.id ∈ ids
  · simp only [hi, decide_true, Bool.true_and, Bool.not_eq_true', Bool.not_eq_false] at h1
    simp [hi, releaseTask, h1, Task.isLocked]
  · rw [if_neg hi] at hid; exact absurd hid hi

theorem teardown_hooks_after_release (s : State) (k : EnvId) (force late : Bool) (hf : List TaskId) (E : Env)
    (hE : s.env? k = some E) (hs : List TaskId) (hh : TEv.hooks hs ∈ (teardown s k force late hf).2.2) :
    (teardown s k force late hf).2.2.head? = some (.release (tdPlain E)) ∧
    (releaseTasks s k (tdPlain E)).2 = 0 ∧
    (∀ t ∈ (releaseTasks s k (tdPlain E)).1.roster, t.id ∈ tdPlain E → t.isLocked = false) ∧
    (∀ x ∈ E.tasks, x ∉ effHooks E.hooks → x ∈ tdPlain E) := by
  have hplain : ∀ x ∈ E.tasks, x ∉ effHooks E.hooks → x ∈ tdPlain E :=
    fun x hx hn => List.mem_filter.mpr ⟨hx, decide_eq_true hn⟩
  revert hh
  rcases teardown_cases s k force late hf with ⟨hn, _⟩ | ⟨E', hE', c⟩
  · exact absurd (hE.symm.trans hn) (by simp)
  · obtain rfl : E = E' := Option.some.inj (hE.symm.trans hE')
    rcases c with ⟨_, e⟩ | ⟨_, _, e⟩ | ⟨_, _, e⟩ | ⟨_, _, h0, ⟨_, e⟩ | ⟨_, _, e⟩ | ⟨_, _, e⟩⟩ <;> rw [e] <;> intro hh
    · exact absurd hh List.not_mem_nil
    · exact absurd hh List.not_mem_nil
    · simp at hh
    all_goals exact ⟨rfl, h0, released_unlocked s k _ h0, hplain⟩

def relAll (tasks : List TaskId) (t : Task) : Task := if t.id ∈ tasks then { t with parent := none } else t

theorem roleActive_map (s : State) (g : Task → Task) (hg : ∀ t, (g t).id = t.id ∧ (g t).active = t.active)
    (s1 : State) (hr : s1.roster = s.roster.map g) (x : TaskId) : roleActive s1 x = roleActive s x := by
  simp only [roleActive, hr, List.any_map, Function.comp_def, fun t => (hg t).1, fun t => (hg t).2]

theorem singleWeight_cases (hs : List HookRef) (h : singleWeight hs = true) :
    weightsOf hs = [] ∨ ∃ w, weightsOf hs = [w] := by
  simp only [singleWeight, decide_eq_true_eq] at h
  match hw : weightsOf hs with
  | [] => left; rfl
  | [w] => right; exact ⟨w, rfl⟩
  | a :: b :: rest => rw [hw] at h; simp at h

/-- The two ReleaseTasks messages of a teardown release exactly the environment's tasks: always in
    the code as it is (the second message names the hook tasks of all weights), under
    `hooksReleasable` in the legacy configuration (`hooksOk`). -/
theorem release_all' (s : State) (k : EnvId) (E : Env) (hpar0 : ∀ t ∈ s.roster, t.id ∈ E.tasks → t.parent = some k)
    (hrel : hooksOk s E.hooks = true) (hhk : ∀ h ∈ E.hooks, h.task ∈ E.tasks)
    (s1 : State) (hs1 : s1.roster = s.roster.map (relMap k (tdPlain E))) (hc1 : s1.cfg = s.cfg) :
    ∀ t ∈ s.roster, relMap k (tdMsg s1 E) (relMap k (tdPlain E) t) = relAll E.tasks t := by
  have hmsgsub := tdMsg_sub s1 E hhk
  -- hook tasks are all in the second message
  have hmsg : ∀ x ∈ effHooks E.hooks, x ∈ tdMsg s1 E := by
    intro x hx
    cases hlw : s.cfg.lastWeightOnly with
    | false => simp only [tdMsg, hc1, hlw, Bool.not_false, if_true]; exact hx
    | true =>
      simp only [hooksOk, hlw, Bool.not_true, Bool.false_or, hooksReleasable, Bool.and_eq_true, List.all_eq_true] at hrel
      obtain ⟨hsw, hact⟩ := hrel
      rcases singleWeight_cases _ hsw with h0 | ⟨w, hw⟩
      · simp [effHooks, h0] at hx
      · simp only [effHooks, hw, List.flatMap_cons, List.flatMap_nil, List.append_nil] at hx
        simp only [tdMsg, hc1, hlw, Bool.not_true, Bool.false_eq_true, if_false, hw, List.getLast?_singleton, tdRun]
        refine List.mem_filter.mpr ⟨hx, ?_⟩
        rw [roleActive_map s _ (fun t => have ⟨hid, _, hact, _⟩ := relMap_props k (tdPlain E) t; ⟨hid, hact⟩) s1 hs1]
        apply hact
        simp only [effHooks, hw, List.flatMap_cons, List.flatMap_nil, List.append_nil]; exact hx
  intro t ht
  by_cases hin : t.id ∈ E.tasks
  · have hok : releaseOk k t = true := releaseOk_of_parent k t (Or.inl (hpar0 t ht hin))
    simp only [relAll, hin, if_true]
    by_cases hpl : t.id ∈ tdPlain E
    · have h1 : relMap k (tdPlain E) t = { t with parent := none } := by simp [relMap, hpl, releaseTask, hok]
      rw [h1]
      by_cases hm : t.id ∈ tdMsg s1 E
      · simp [relMap, hm, releaseTask, releaseOk, Task.isLocked]
      · simp [relMap, hm]
    · have h1 : relMap k (tdPlain E) t = t := by simp [relMap, hpl]
      rw [h1]
      have hm := hmsg _ (Decidable.by_contra fun hne => hpl (List.mem_filter.mpr ⟨hin, decide_eq_true hne⟩))
      simp [relMap, hm, releaseTask, hok]
  · have h1 : t.id ∉ tdPlain E := fun h => hin (tdPlain_sub E _ h)
    have h2 : t.id ∉ tdMsg s1 E := fun h => hin (hmsgsub _ h)
    simp [relAll, hin, relMap, h1, h2]

/-- The six conjuncts of `envWf`, as propositions. -/
structure EnvWf (s : State) (k : EnvId) (tasks : List TaskId) : Prop where
  mine : ∀ t ∈ s.roster, t.parent ≠ some k ∨ t.id ∈ tasks
  parent : ∀ t ∈ s.roster, t.id ∉ tasks ∨ t.parent = some k
  launched : ∀ m ∈ s.master, m.label ≠ k ∨ (m.id ∈ tasks ∧ (m.mesos = .terminal ∨ ∃ t ∈ s.roster, t.id = m.id))
  nodup : (s.roster.map (·.id)).Nodup
  calls : ∀ X ∈ s.envs, X.id ≠ k ∨ X.started = X.cancelled + X.pending
  dead : ∀ d ∈ s.dead, d.1 ≠ k

theorem envWf_iff {s : State} {k : EnvId} {tasks : List TaskId} : envWf s k tasks = true ↔ EnvWf s k tasks := by
  simp only [envWf, Bool.and_eq_true, List.all_eq_true, Bool.or_eq_true, decide_eq_true_eq, List.any_eq_true]
  exact ⟨fun ⟨⟨⟨⟨⟨a, b⟩, c⟩, d⟩, e⟩, f⟩ => ⟨a, b, c, d, e, f⟩,
    fun h => ⟨⟨⟨⟨⟨h.mine, h.parent⟩, h.launched⟩, h.nodup⟩, h.calls⟩, h.dead⟩⟩

theorem freshEnv_iff {s : State} {k : EnvId} : freshEnv s k = true ↔
    (∀ t ∈ s.roster, t.parent ≠ some k) ∧ (∀ m ∈ s.master, m.label ≠ k) ∧ (∀ d ∈ s.dead, d.1 ≠ k) ∧
    ∀ X ∈ s.envs, X.id ≠ k ∨ X.started = X.cancelled + X.pending := by
  simp only [freshEnv, Bool.and_eq_true, List.all_eq_true, Bool.or_eq_true, decide_eq_true_eq, and_assoc]

theorem wf_parent (s : State) (k : EnvId) (tasks : List TaskId) (hwf : envWf s k tasks = true) :
    ∀ t ∈ s.roster, t.id ∈ tasks → t.parent = some k :=
  fun t ht hin => ((envWf_iff.mp hwf).parent t ht).resolve_left (fun h => h hin)

theorem release_all (s : State) (k : EnvId) (E : Env) (hwf : envWf s k E.tasks = true)
    (hrel : hooksOk s E.hooks = true) (hhk : ∀ h ∈ E.hooks, h.task ∈ E.tasks)
    (s1 : State) (hs1 : s1.roster = s.roster.map (relMap k (tdPlain E))) (hc1 : s1.cfg = s.cfg) :
    ∀ t ∈ s.roster, relMap k (tdMsg s1 E) (relMap k (tdPlain E) t) = relAll E.tasks t :=
  release_all' s k E (wf_parent s k E.tasks hwf) hrel hhk s1 hs1 hc1

/-- `s1` differs from `s` only in task states and environment states (what STOP / RESET / GO_ERROR change). -/
structure SameOwn (s s1 : State) : Prop where
  roster : ∃ g : Task → Task, (∀ t, (g t).id = t.id ∧ (g t).parent = t.parent ∧ (g t).idsOk = t.idsOk ∧ (g t).active = t.active) ∧
    s1.roster = s.roster.map g
  master : s1.master = s.master
  dead : s1.dead = s.dead
  killLog : s1.killLog = s.killLog
  cfg : s1.cfg = s.cfg
  envs : ∃ f : Env → Env, (∀ E, (f E).id = E.id ∧ (f E).tasks = E.tasks ∧ (f E).hooks = E.hooks ∧ (f E).tearing = E.tearing ∧
      (f E).dets = E.dets ∧ (f E).started = E.started ∧ (f E).cancelled = E.cancelled ∧ (f E).pending = E.pending) ∧
    s1.envs = s.envs.map f

theorem SameOwn.refl (s : State) : SameOwn s s :=
  ⟨⟨id, fun _ => ⟨rfl, rfl, rfl, rfl⟩, by simp⟩, rfl, rfl, rfl, rfl, ⟨id, fun _ => ⟨rfl, rfl, rfl, rfl, rfl, rfl, rfl, rfl⟩, by simp⟩⟩

theorem SameOwn.trans {a b c : State} (h1 : SameOwn a b) (h2 : SameOwn b c) : SameOwn a c := by
  obtain ⟨g1, hg1, r1⟩ := h1.roster
  obtain ⟨g2, hg2, r2⟩ := h2.roster
  obtain ⟨f1, hf1, e1⟩ := h1.envs
  obtain ⟨f2, hf2, e2⟩ := h2.envs
  refine ⟨⟨g2 ∘ g1, ?_, by rw [r2, r1, List.map_map]⟩, h2.master.trans h1.master, h2.dead.trans h1.dead,
    h2.killLog.trans h1.killLog, h2.cfg.trans h1.cfg, ⟨f2 ∘ f1, ?_, by rw [e2, e1, List.map_map]⟩⟩
  · intro t
    obtain ⟨a1, a2, a3, a4⟩ := hg1 t
    obtain ⟨b1, b2, b3, b4⟩ := hg2 (g1 t)
    exact ⟨b1.trans a1, b2.trans a2, b3.trans a3, b4.trans a4⟩
  · intro E
    obtain ⟨a1, a2, a3, a4, a5, a6, a7, a8⟩ := hf1 E
    obtain ⟨b1, b2, b3, b4, b5, b6, b7, b8⟩ := hf2 (f1 E)
    exact ⟨b1.trans a1, b2.trans a2, b3.trans a3, b4.trans a4, b5.trans a5, b6.trans a6, b7.trans a7, b8.trans a8⟩

theorem sameOwn_stateMap (s : State) (sel : Task → Bool) (dst : TState) (fails : List (TaskId × Bool)) :
    SameOwn s { s with roster := s.roster.map (stateMap sel dst fails) } :=
  ⟨⟨_, fun t => by obtain ⟨st, e⟩ := stateMap_entry sel dst fails t; rw [e]; exact ⟨rfl, rfl, rfl, rfl⟩, rfl⟩, rfl, rfl, rfl, rfl,
    ⟨id, fun _ => ⟨rfl, rfl, rfl, rfl, rfl, rfl, rfl, rfl⟩, (List.map_id _).symm⟩⟩

theorem sameOwn_applyTrans (s : State) (E : Env) (ev : CEv) (fails : List (TaskId × Bool)) :
    SameOwn s (applyTrans s E ev fails).1 := applyTrans_fst s E ev fails ▸ sameOwn_stateMap s _ _ fails

theorem sameOwn_setEnv_state (s : State) (k : EnvId) (st : EState) :
    SameOwn s (setEnv s k (fun X => { X with state := st })) := by
  refine ⟨⟨id, fun _ => ⟨rfl, rfl, rfl, rfl⟩, (List.map_id _).symm⟩, rfl, rfl, rfl, rfl,
    ⟨fun E => if E.id = k then { E with state := st } else E, fun E => ?_, rfl⟩⟩
  by_cases hk : E.id = k <;> simp [hk]

theorem Prep.sameOwn {k : EnvId} {s s1 : State} (h : Prep k s s1) : SameOwn s s1 := by
  induction h with
  | refl => exact SameOwn.refl s
  | trans E ev fails _ ih => exact ih.trans (sameOwn_applyTrans _ E ev fails)
  | state st _ ih => exact ih.trans (sameOwn_setEnv_state _ k st)

/-- The hypotheses of the clean-destroy theorem only look at what `SameOwn` keeps. -/
theorem hyps_transfer {s s1 : State} (h : SameOwn s s1) (k : EnvId) (tasks : List TaskId) (hooks : List HookRef) :
    envWf s1 k tasks = envWf s k tasks ∧ statusFaithful s1 tasks = statusFaithful s tasks ∧
    hooksOk s1 hooks = hooksOk s hooks := by
  obtain ⟨g, hg, hr⟩ := h.roster
  obtain ⟨f, hf, he⟩ := h.envs
  have gid : ∀ t, (g t).id = t.id := fun t => (hg t).1
  have gpar : ∀ t, (g t).parent = t.parent := fun t => (hg t).2.1
  have gact : ∀ t, (g t).active = t.active := fun t => (hg t).2.2.2
  refine ⟨?_, ?_, ?_⟩
  · simp only [envWf, hr, h.master, h.dead, he, List.all_map, List.any_map, List.map_map, Function.comp_def, gid, gpar,
      fun X => (hf X).1, fun X => (hf X).2.2.2.2.2.1, fun X => (hf X).2.2.2.2.2.2.1, fun X => (hf X).2.2.2.2.2.2.2]
  · simp only [statusFaithful, hr, h.master, List.all_map, Function.comp_def, gid, gact]
  · simp only [hooksOk, hooksReleasable, h.cfg, funext (roleActive_map s g (fun t => ⟨gid t, gact t⟩) s1 hr)]

/-- `D` is what a completed teardown of `E`, listed under `k`, leaves of `s` when it releases what it should: exactly the
    environment's tasks released, the master untouched, the environment out of the listing and its call
    counters in `dead`. -/
structure TornDown (s : State) (k : EnvId) (E : Env) (D : State) : Prop where
  roster : D.roster = s.roster.map (relAll E.tasks)
  master : D.master = s.master
  envs : ∀ X ∈ D.envs, X ∈ s.envs ∧ X.id ≠ k
  kept : ∀ X ∈ s.envs, X.id ≠ k → X ∈ D.envs
  dead : D.dead = s.dead ++ (s.envs.filter (fun X => decide (X.id = k))).map (fun X => (X.id, X.started, X.cancelled + X.pending))

theorem tdDone_state (s : State) (k : EnvId) (E : Env) (hpar : ∀ t ∈ s.roster, t.id ∈ E.tasks → t.parent = some k)
    (hrel : hooksOk s E.hooks = true) (hhk : ∀ h ∈ E.hooks, h.task ∈ E.tasks) : TornDown s k E (tdDone s k E) := by
  have henvs : (tdSecond s k E).1.envs =
      s.envs.map (fun X => if X.id = k then { X with cancelled := X.cancelled + X.pending, pending := 0 } else X) := rfl
  -- unfolded first: `rfl` on the folded `tdDone s k E` is slow to check
  have hsame : (tdDone s k E).master = s.master := by
    unfold tdDone tdSecond tdFirst releaseTasks tdCancel setEnv; rfl
  refine ⟨?_, hsame, ?_, ?_, ?_⟩
  · show (s.roster.map (relMap k (tdPlain E))).map (relMap k (tdMsg (tdFirst s k E).1 E)) = _
    rw [List.map_map]
    exact List.map_congr_left (release_all' s k E hpar hrel hhk (tdFirst s k E).1 rfl rfl)
  · intro X hX
    obtain ⟨hm, hne⟩ := List.mem_filter.mp hX
    obtain ⟨Y, hY, rfl⟩ := List.mem_map.mp (henvs ▸ hm)
    by_cases hk : Y.id = k
    · simp [hk] at hne
    · rw [if_neg hk]; exact ⟨hY, hk⟩
  · intro X hX hne
    exact List.mem_filter.mpr ⟨henvs ▸ List.mem_map.mpr ⟨X, hX, if_neg hne⟩, decide_eq_true hne⟩
  · show s.dead ++ _ = _
    congr 1
    rw [henvs, List.filter_map, List.map_map]
    have : (fun X : Env => decide (X.id = k)) ∘ (fun X => if X.id = k then { X with cancelled := X.cancelled + X.pending, pending := 0 } else X) = (fun X => decide (X.id = k)) := by
      funext X; by_cases hk : X.id = k <;> simp [hk]
    rw [this]
    apply List.map_congr_left
    intro X hX
    have hk : X.id = k := of_decide_eq_true (List.mem_filter.mp hX).2
    simp [hk]

theorem teardown_done_state (s : State) (k : EnvId) (force late : Bool) (hf : List TaskId) (E : Env)
    (hE : s.env? k = some E) (hpar : ∀ t ∈ s.roster, t.id ∈ E.tasks → t.parent = some k) (hrel : hooksOk s E.hooks = true)
    (hhk : ∀ h ∈ E.hooks, h.task ∈ E.tasks)
    (hdone : (teardown s k force late hf).2.1 = .ok ∨ (teardown s k force late hf).2.1 = .doneErr) :
    TornDown s k E (teardown s k force late hf).1 := by
  obtain ⟨E', hE', e⟩ := teardown_done hdone
  obtain rfl : E = E' := Option.some.inj (hE.symm.trans hE')
  rw [e]; exact tdDone_state s k E hpar hrel hhk

theorem teardown_err_unchanged (s : State) (k : EnvId) (force late : Bool) (hf : List TaskId)
    (hwf : ∀ E, s.env? k = some E → envWf s k E.tasks = true ∧ (∀ h ∈ E.hooks, h.task ∈ E.tasks))
    (herr : (teardown s k force late hf).2.1 = .err ∨ (teardown s k force late hf).2.1 = .notfound) :
    (teardown s k force late hf).1 = s := by
  cases hE : s.env? k with
  | none => rw [teardown_none hE]
  | some E =>
    rcases teardown_cases_wf force late hf hE (fun _ => wf_parent s k _ (hwf E hE).1) (hwf E hE).2 with
      ⟨_, e⟩ | ⟨_, _, e⟩ | ⟨_, _, _, _, e⟩ | ⟨_, _, _, _, e⟩
    · rw [e]
    · rw [e]
    · rw [e] at herr; exact absurd herr (by simp)
    · rcases e with e | e <;> rw [e] at herr <;> exact absurd herr (by simp)

/-- What became of the master's rows after a completed teardown followed by a kill of the environment's tasks:
    a task launched for `k` was sent a KILL, or has ended, or its KILL call failed and it sits in the roster
    again — unlocked, ACTIVE, without a parent. -/
def RowsAfter (s D F : State) (E : Env) : Prop :=
  ∀ m' ∈ F.master, ∃ m ∈ s.master, m'.id = m.id ∧ m'.label = m.label ∧
    ((m.mesos = .terminal → m'.mesos = .terminal)) ∧
    (∀ t' ∈ D.roster, t'.id = m.id → t'.isLocked = false → t'.active = true → t'.id ∈ E.tasks →
      m'.killed = true ∨ (t'.id ∈ D.refusing ∧ t' ∈ F.roster))

theorem rows_fate (s D F : State) (k : EnvId) (E : Env)
    (hwf : envWf s k E.tasks = true) (hfaith : statusFaithful s E.tasks = true)
    (hD1 : D.roster = s.roster.map (relAll E.tasks)) (hFm : RowsAfter s D F E) :
    ∀ m' ∈ F.master, m'.label = k → m'.killed = true ∨ m'.mesos = .terminal ∨
      ∃ t' ∈ F.roster, t' ∈ D.roster ∧ t'.id = m'.id ∧ t'.parent = none ∧ t'.isLocked = false ∧ t'.active = true
        ∧ t'.id ∈ E.tasks ∧ t'.id ∈ D.refusing := by
  simp only [statusFaithful, List.all_eq_true, Bool.or_eq_true, decide_eq_true_eq] at hfaith
  intro m' hm' hl
  obtain ⟨m, hm, hid, hlab, hterm, hkill⟩ := hFm m' hm'
  have hmk : m.label = k := by rw [← hlab]; exact hl
  rcases (envWf_iff.mp hwf).launched m hm with h | ⟨hin, hterm0 | ⟨t, ht, hte'⟩⟩
  · exact absurd hmk h
  · right; left; exact hterm hterm0
  · have ht' : relAll E.tasks t ∈ D.roster := by rw [hD1]; exact List.mem_map_of_mem ht
    have hrel : relAll E.tasks t = { t with parent := none } := by simp [relAll, hte', hin]
    by_cases ha : t.active = true
    · have hl' : (relAll E.tasks t).isLocked = false := by rw [hrel]; simp [Task.isLocked]
      have hin' : (relAll E.tasks t).id ∈ E.tasks := by rw [hrel]; show t.id ∈ E.tasks; rw [hte']; exact hin
      rcases hkill (relAll E.tasks t) ht' (by rw [hrel]; exact hte') hl' (by rw [hrel]; exact ha) hin' with h | ⟨h1, h2⟩
      · left; exact h
      · right; right
        exact ⟨_, h2, ht', by rw [hrel, hid]; exact hte', by rw [hrel], hl', by rw [hrel]; exact ha, hin', h1⟩
    · right; left
      apply hterm
      rcases hfaith t ht with h | h
      · rcases h with h | h
        · exact absurd (hte' ▸ hin) h
        · exact absurd h ha
      · rcases h m hm with h | h
        · exact absurd hte'.symm h
        · exact h

/-- `s` torn down to `D`, `D` swept to `F`: `cleanAfter` of `F`, given (`hrows`) where the rows of `k`'s tasks ended -/
theorem clean_frame (s D F : State) (k : EnvId) (keep : Bool) (E : Env) (hD : TornDown s k E D)
    (hdead : ∀ d ∈ s.dead, d.1 ≠ k) (hcnt : ∀ X ∈ s.envs, X.id ≠ k ∨ X.started = X.cancelled + X.pending)
    (hFenvs : F.envs = D.envs) (hFdead : F.dead = D.dead) (hpar : ∀ t ∈ F.roster, t.parent ≠ some k)
    (hrows : keep = false → ∀ m ∈ F.master, m.label ≠ k ∨ m.killed = true ∨ m.mesos = .terminal ∨
      ∃ t ∈ F.roster, t.id = m.id ∧ t.parent = none) :
    cleanAfter k keep (viewOf F) = true := by
  simp only [cleanAfter, viewOf, Bool.and_eq_true, List.all_eq_true, List.mem_map, forall_exists_index, and_imp,
    forall_apply_eq_imp_iff₂, decide_eq_true_eq, Bool.or_eq_true, List.any_eq_true, List.mem_append]
  refine ⟨⟨⟨⟨?_, hpar⟩, ?_⟩, ?_⟩, ?_⟩
  · intro X hX; exact (hD.envs X (hFenvs ▸ hX)).2
  · cases keep
    · right
      intro m hm
      rcases hrows rfl m hm with h | h | h | ⟨t, ht, hid, hp⟩
      · exact Or.inl (Or.inl (Or.inl h))
      · exact Or.inl (Or.inl (Or.inr h))
      · exact Or.inl (Or.inr h)
      · exact Or.inr ⟨_, ⟨t, ht, rfl⟩, hid, hp⟩
    · exact Or.inl rfl
  · intro d hd
    obtain ⟨X, hX, hdX⟩ := List.mem_flatMap.mp hd
    exact ⟨_, ⟨X, hX, rfl⟩, hdX⟩
  · intro c hc
    rw [hFenvs, hFdead, hD.dead] at hc
    rcases hc with ⟨X, hX, rfl⟩ | hc
    · exact Or.inl (hD.envs X hX).2
    · rcases List.mem_append.mp hc with hc | hc
      · exact Or.inl (hdead c hc)
      · obtain ⟨X, hX, rfl⟩ := List.mem_map.mp hc
        obtain ⟨hXm, hXk⟩ := List.mem_filter.mp hX
        exact Or.inr ((hcnt X hXm).resolve_left (fun h => h (of_decide_eq_true hXk)))

theorem clean_core (s D F : State) (k : EnvId) (keep : Bool) (E : Env)
    (hwf : envWf s k E.tasks = true) (hfaith : statusFaithful s E.tasks = true) (hD : TornDown s k E D)
    (hFenvs : F.envs = D.envs) (hFdead : F.dead = D.dead) (hFroster : ∀ t' ∈ F.roster, t' ∈ D.roster)
    (hFm : keep = false → RowsAfter s D F E) :
    cleanAfter k keep (viewOf F) = true := by
  have hfate := fun hk => rows_fate s D F k E hwf hfaith hD.roster (hFm hk)
  have W := envWf_iff.mp hwf
  refine clean_frame s D F k keep E hD W.dead W.calls hFenvs hFdead (fun t' ht' => ?_) (fun hk m' hm' => ?_)
  · -- released, or never `k`'s
    obtain ⟨t, ht, rfl⟩ := List.mem_map.mp (hD.roster ▸ hFroster t' ht')
    unfold relAll
    split
    · exact fun e => nomatch e
    · rename_i hin
      exact (W.mine t ht).resolve_right hin
  · by_cases hl : m'.label = k
    · rcases hfate hk m' hm' hl with h | h | ⟨t', ht', _, hid, hpar, _⟩
      · exact Or.inr (Or.inl h)
      · exact Or.inr (Or.inr (Or.inl h))
      · exact Or.inr (Or.inr (Or.inr ⟨t', ht', hid, hpar⟩))
    · exact Or.inl hl

theorem doKill_rows (s D : State) (E : Env) (tk : List Task) (hD2 : D.master = s.master)
    (hP : ∀ t' ∈ D.roster, t'.isLocked = false → t'.active = true → t'.id ∈ E.tasks → t' ∈ tk) :
    RowsAfter s D (doKill D tk) E := by
  intro m' hm'
  obtain ⟨m, hm, rfl⟩ := List.mem_map.mp (show m' ∈ (killMany D.master _) from hm')
  refine ⟨m, hD2 ▸ hm, ?_, ?_, ?_, ?_⟩
  · split <;> rfl
  · split <;> rfl
  · intro h; split
    · rfl
    · exact h
  · intro t' ht' hid hl ha hp
    have hact := List.mem_filter.mpr ⟨hP t' ht' hl ha hp, ha⟩
    by_cases href : t'.id ∈ D.refusing
    · exact Or.inr ⟨href, doKill_roster D tk ▸ List.mem_append_right _ (List.mem_filter.mpr ⟨hact, decide_eq_true href⟩)⟩
    · exact Or.inl (by rw [if_pos (List.mem_map.mpr ⟨t', List.mem_filter.mpr ⟨hact, decide_eq_true href⟩, hid⟩)])

theorem killTasks_rows (s D : State) (E : Env) (hD2 : D.master = s.master) : RowsAfter s D (killTasks D E.tasks) E :=
  doKill_rows s D E _ hD2 (fun t' ht' hl _ hin => List.mem_filter.mpr ⟨ht', by simp [hl, hin]⟩)

theorem mem_cleanupTasks_roster {D : State} {ids : List TaskId} {t' : Task} (ht' : t' ∈ (cleanupTasks D ids).roster) :
    t' ∈ D.roster := by
  obtain ⟨tk, e, hsub, _⟩ := cleanupTasks_doKill D ids
  exact mem_doKill_roster hsub (e ▸ ht')

theorem cleanupTasks_rows (s D : State) (E : Env) (hD2 : D.master = s.master) : RowsAfter s D (cleanupTasks D E.tasks) E := by
  obtain ⟨tk, e, _, _, hall, _⟩ := cleanupTasks_doKill D E.tasks
  rw [e]
  exact doKill_rows s D E tk hD2 (fun t' ht' hl _ hin => hall t' ht' hl hin)

theorem clean_of_done (s D : State) (k : EnvId) (keep : Bool) (E : Env)
    (hwf : envWf s k E.tasks = true) (hfaith : statusFaithful s E.tasks = true) (hD : TornDown s k E D) :
    cleanAfter k keep (viewOf (if keep then D else cleanupTasks D E.tasks)) = true := by
  apply clean_core s D _ k keep E hwf hfaith hD
  · split
    · rfl
    · exact cleanupTasks_envs _ _
  · split
    · rfl
    · unfold cleanupTasks; split <;> rfl
  · intro t' ht'
    split at ht'
    · exact ht'
    · exact mem_cleanupTasks_roster ht'
  · intro hk
    simp only [hk, Bool.false_eq_true, if_false]
    exact cleanupTasks_rows s D E hD.master

theorem killed_of_done (s D : State) (k : EnvId) (E : Env)
    (hwf : envWf s k E.tasks = true) (hfaith : statusFaithful s E.tasks = true) (hD : TornDown s k E D)
    (hne : cleanupTasksErr D E.tasks = false) :
    allKilled k (viewOf (cleanupTasks D E.tasks)) = true := by
  simp only [allKilled, viewOf, List.all_eq_true, List.mem_map, forall_exists_index, and_imp, forall_apply_eq_imp_iff₂,
    Bool.or_eq_true, decide_eq_true_eq]
  intro m' hm'
  by_cases hk : m'.label = k
  case neg => exact Or.inl (Or.inl hk)
  rcases rows_fate s D _ k E hwf hfaith hD.roster (cleanupTasks_rows s D E hD.master) m' hm' hk with
    h | h | ⟨t', _, ht', _, _, hl, ha, hin, href⟩
  · exact Or.inl (Or.inr h)
  · exact Or.inr h
  -- a task whose KILL call failed: then the clean-up reported an error
  obtain ⟨tk, _, _, _, hall, herr⟩ := cleanupTasks_doKill D E.tasks
  have : killErr D tk = true := List.any_eq_true.mpr ⟨t', hall t' ht' hl hin, by simp [ha, href]⟩
  rw [herr, this] at hne; exact absurd hne (by simp)

/-- KillTasks on the environment's tasks as the last step: the failure tail of a creation. -/
theorem clean_of_done_kill (s D : State) (k : EnvId) (E : Env)
    (hwf : envWf s k E.tasks = true) (hfaith : statusFaithful s E.tasks = true) (hD : TornDown s k E D) :
    cleanAfter k false (viewOf (killTasks D E.tasks)) = true := by
  apply clean_core s D _ k false E hwf hfaith hD
  · rfl
  · rfl
  · intro t' ht'; exact mem_doKill_roster List.filter_sublist ht'
  · intro _; exact killTasks_rows s D E hD.master

theorem destroyedClean_clean {k : EnvId} {keep : Bool} {v : View} (h : destroyedClean k keep v = true) :
    cleanAfter k keep v = true := by
  simp only [destroyedClean, Bool.and_eq_true] at h; exact h.1

theorem destroyedClean_killed {k : EnvId} {v : View} (h : destroyedClean k false v = true) : allKilled k v = true := by
  simp only [destroyedClean, Bool.and_eq_true, Bool.false_or] at h; exact h.2

/-- doTeardownAndCleanup answers success only through a teardown OF THE STATE IT WAS CALLED IN that completed without
    error — the first attempt, or the forced retry after a first attempt that answered an error and, the bookkeeping being
    well-formed, changed nothing (one that completed with an error has deleted the environment: the retry finds none). -/
theorem tac_ok (s : State) (k : EnvId) (ids : List TaskId) (force keep : Bool) (o : DOracle) (E : Env)
    (hE : s.env? k = some E) (hpar : ∀ t ∈ s.roster, t.id ∈ E.tasks → t.parent = some k) (hhk : ∀ h ∈ E.hooks, h.task ∈ E.tasks)
    (hok : (teardownAndCleanup s k ids force keep o).2.1 = .ok) :
    ∃ f l tr, (teardown s k f l o.hookFails).2.1 = .ok ∧
      teardownAndCleanup s k ids force keep o = tcFin keep ids (teardown s k f l o.hookFails).1 .ok tr := by
  unfold teardownAndCleanup at hok ⊢
  simp only [] at hok ⊢
  split at hok
  · rename_i hc
    rw [if_pos hc]
    obtain ⟨a, _⟩ := tcFin_ok _ _ _ _ _ hok
    exact ⟨force, o.late1, _, a, by rw [a]⟩
  · rename_i hc
    rw [if_neg hc]
    obtain ⟨a, _⟩ := tcFin_ok _ _ _ _ _ hok
    rcases teardown_cases_wf force o.late1 o.hookFails hE (fun _ => hpar) hhk with
      ⟨_, e⟩ | ⟨_, _, e⟩ | ⟨_, _, _, _, e⟩ | ⟨_, _, _, e1, e2⟩
    · exact absurd (Or.inr (Or.inl (e ▸ rfl))) hc
    · rw [e] at a ⊢
      exact ⟨true, o.late2, _, a, by rw [a]⟩
    · exact absurd (Or.inr (Or.inl e)) hc
    · rcases e2 with e2 | e2
      · exact absurd (Or.inl e2) hc
      · -- the environment is gone: the retry answers "not found"
        rw [teardown_none (env?_none_of_unlisted _ k (teardown_done_unlisted s k force o.late1 o.hookFails (Or.inr e2)))] at a
        exact nomatch a

theorem hooksOk_code {s : State} (hc : s.cfg = codeCfg) (hs : List HookRef) : hooksOk s hs = true := by
  simp [hooksOk, hc, codeCfg]

theorem hooksOk_of_releasable {s : State} {hs : List HookRef} (h : hooksReleasable s hs = true) : hooksOk s hs = true := by
  simp [hooksOk, h]

theorem env?_sameOwn {s s1 : State} (h : SameOwn s s1) (k : EnvId) (E : Env) (hE : s.env? k = some E) :
    ∃ E1, s1.env? k = some E1 ∧ E1.tasks = E.tasks ∧ E1.hooks = E.hooks ∧ E1.tearing = E.tearing := by
  obtain ⟨f, hf, he⟩ := h.envs
  exact ⟨f E, by rw [env?_map (fun X => (hf X).1) he, hE]; rfl, (hf E).2.1, (hf E).2.2.1, (hf E).2.2.2.1⟩

/-- What the clean-destroy theorems (`Tidy.tac_clean`, `Tidy.destroy_clean`, `Tidy.createFail_clean`) ask of the state `s`
    in which an environment `k` is torn down: it is listed, as `E`; the bookkeeping around it is well-formed; its hooks are among its
    tasks; a task of it that the core believes inactive has ended. (In a configuration with `lastWeightOnly` they ask for
    `hooksOk` as well.) -/
structure Tidy (s : State) (k : EnvId) (E : Env) : Prop where
  listed : s.env? k = some E
  wf : envWf s k E.tasks = true
  hooks : ∀ h ∈ E.hooks, h.task ∈ E.tasks
  faithful : statusFaithful s E.tasks = true

section
variable {s : State} {k : EnvId} {E : Env}

/-- STOP / RESET / GO_ERROR / CONFIGURE keep it, and whether the second ReleaseTasks message will name every hook task. -/
theorem Tidy.sameOwn {s1 : State} (R : Tidy s k E) (h : SameOwn s s1) :
    ∃ E1, Tidy s1 k E1 ∧ E1.tasks = E.tasks ∧ hooksOk s1 E1.hooks = hooksOk s E.hooks := by
  obtain ⟨E1, hE1, t, hh, _⟩ := env?_sameOwn h k E R.listed
  obtain ⟨a1, a2, a3⟩ := hyps_transfer h k E.tasks E.hooks
  exact ⟨E1, ⟨hE1, by rw [t, a1]; exact R.wf, by rw [hh, t]; exact R.hooks, by rw [t, a2]; exact R.faithful⟩, t, by rw [hh, a3]⟩

/-- `started` and `pending` grow together when the before_CONFIGURE calls are started: `envWf` does not notice. -/
theorem envWf_setEnv_calls (s : State) (k : EnvId) (c : Nat) (k' : EnvId) (tasks : List TaskId) :
    envWf (setEnv s k (fun X => { X with pending := X.pending + c, started := X.started + c })) k' tasks = envWf s k' tasks := by
  simp only [envWf, setEnv, List.all_map]
  congr 2
  congr 1
  funext X
  by_cases hk : X.id = k
  · simp only [Function.comp, hk, if_true]
    by_cases hkk : k = k'
    · simp [hkk]; omega
    · simp [hkk]
  · simp [Function.comp, hk]

theorem Tidy.calls (R : Tidy s k E) (c : Nat) :
    Tidy (setEnv s k (fun X => { X with pending := X.pending + c, started := X.started + c })) k
      { E with pending := E.pending + c, started := E.started + c } := by
  refine ⟨?_, (envWf_setEnv_calls s k c k E.tasks).trans R.wf, R.hooks, R.faithful⟩
  rw [env?_setEnv_self, R.listed]
  · rfl
  · exact fun _ => rfl

theorem Tidy.tac_clean (R : Tidy s k E) (hrel : hooksOk s E.hooks = true) (force keep : Bool) (o : DOracle)
    (hok : (teardownAndCleanup s k E.tasks force keep o).2.1 = .ok) :
    destroyedClean k keep (viewOf (teardownAndCleanup s k E.tasks force keep o).1) = true := by
  have hpar := wf_parent s k _ R.wf
  obtain ⟨f, l, tr, hdone, e⟩ := tac_ok s k E.tasks force keep o E R.listed hpar R.hooks hok
  rw [e] at hok ⊢
  have hD := teardown_done_state s k f l o.hookFails E R.listed hpar hrel R.hooks (Or.inl hdone)
  have hc := clean_of_done s _ k keep E R.wf R.faithful hD
  simp only [destroyedClean, Bool.and_eq_true, Bool.or_eq_true]
  cases keep
  · refine ⟨hc, Or.inr (killed_of_done s _ k E R.wf R.faithful hD ?_)⟩
    cases he : cleanupTasksErr (teardown s k f l o.hookFails).1 E.tasks
    · rfl
    · rw [show (tcFin false E.tasks (teardown s k f l o.hookFails).1 .ok tr).2.1 = .err by simp [tcFin, he]] at hok
      exact nomatch hok
  · exact ⟨hc, Or.inl rfl⟩

theorem cleanAfter_keep_of_kill (k : EnvId) (v : View) (h : cleanAfter k false v = true) : cleanAfter k true v = true := by
  simp only [cleanAfter, Bool.and_eq_true, Bool.or_eq_true, Bool.false_eq_true, false_or, true_or, and_true] at h ⊢
  exact ⟨⟨⟨h.1.1.1.1, h.1.1.1.2⟩, h.1.2⟩, h.2⟩

theorem destroyedClean_keep_of_kill (k : EnvId) (v : View) (h : destroyedClean k false v = true) : destroyedClean k true v = true := by
  simp only [destroyedClean, Bool.and_eq_true, Bool.true_or, and_true]
  exact cleanAfter_keep_of_kill k v (destroyedClean_clean h)

theorem Tidy.destroy_clean (R : Tidy s k E) (hrel : hooksOk s E.hooks = true) (force allow keep : Bool) (o : DOracle)
    (hok : (destroy s k force allow keep o).2.1 = .ok) :
    destroyedClean k keep (viewOf (destroy s k force allow keep o).1) = true := by
  rcases destroy_cases s k force allow keep o with ⟨_, h⟩ | ⟨E', s1, f, kp, hE', _, h1, hkp, e⟩
  · exact absurd hok h
  · obtain rfl : E = E' := Option.some.inj (R.listed.symm.trans hE')
    obtain ⟨E1, R1, ht, hr⟩ := R.sameOwn h1.sameOwn
    rw [e, ← ht] at hok ⊢
    have hc := R1.tac_clean (hr.trans hrel) f kp o hok
    rcases hkp with rfl | rfl
    · exact hc
    · cases keep
      · exact hc
      · exact destroyedClean_keep_of_kill k _ hc

theorem teardown_forced_res (s : State) (k : EnvId) (late : Bool) (hf : List TaskId) (E : Env)
    (hE : s.env? k = some E) (hte : E.tearing = false) (hnd : E.state ≠ .DONE)
    (hpar : ∀ t ∈ s.roster, t.id ∈ E.tasks → t.parent = some k) (hhk : ∀ h ∈ E.hooks, h.task ∈ E.tasks) :
    (teardown s k true late hf).2.1 = .ok ∨ (teardown s k true late hf).2.1 = .doneErr ∨
    (teardown s k true late hf).2.1 = .hang := by
  rcases teardown_cases_wf true late hf hE (fun _ => hpar) hhk with ⟨a, _⟩ | ⟨_, a, _⟩ | ⟨_, _, _, _, e⟩ | ⟨_, _, _, _, e⟩
  · rw [hte] at a; exact Bool.noConfusion a
  · exact (a.elim hnd Bool.noConfusion).elim
  · exact Or.inr (Or.inr e)
  · exact e.elim Or.inl (fun e => Or.inr (Or.inl e))

/-- A teardown only hangs in an environment in which an earlier one hung, or by the oracle of the
    rendezvous race — which has a say in a configuration with the late delete only. -/
theorem teardown_not_hang (s : State) (k : EnvId) (force late : Bool) (hf : List TaskId)
    (hte : ∀ E, s.env? k = some E → E.tearing = false) (hl : (late && s.cfg.lateDelete) = false) :
    (teardown s k force late hf).2.1 ≠ .hang := by
  rcases teardown_cases s k force late hf with ⟨_, e⟩ | ⟨E, hE, ⟨a, _⟩ | ⟨_, _, e⟩ | ⟨_, _, e⟩ |
    ⟨_, _, _, ⟨l, _⟩ | ⟨_, _, e⟩ | ⟨_, _, e⟩⟩⟩
  · rw [e]; exact TRes.noConfusion
  · rw [hte E hE] at a; exact Bool.noConfusion a
  · rw [e]; exact TRes.noConfusion
  · rw [e]; exact TRes.noConfusion
  · rw [hl] at l; exact Bool.noConfusion l
  · rw [e]; exact TRes.noConfusion
  · rw [e]; show (if _ then TRes.doneErr else TRes.ok) ≠ _; split <;> exact TRes.noConfusion

theorem createFail_res (s : State) (k : EnvId) (ids : List TaskId) (late : Bool) (res : Res) (hf : List TaskId) :
    (createFail s k ids late res hf).2 = .hang ∨ (createFail s k ids late res hf).2 = res := by
  fun_cases createFail s k ids late res hf
  · exact .inl rfl
  · exact .inr rfl

theorem createFail_not_hang (s : State) (k : EnvId) (ids : List TaskId) (late : Bool) (res : Res) (hf : List TaskId)
    (hte : ∀ E, s.env? k = some E → E.tearing = false) (hl : (late && s.cfg.lateDelete) = false) (hres : res ≠ .hang) :
    (createFail s k ids late res hf).2 ≠ .hang := by
  fun_cases createFail s k ids late res hf
  · rename_i hr
    refine absurd hr (teardown_not_hang _ k true late hf (fun E1 hE1 => ?_) hl)
    rw [env?_setEnv_state] at hE1
    obtain ⟨E, hs, rfl⟩ := Option.map_eq_some_iff.mp hE1
    exact hte E hs
  · exact hres

/-- A failure tail that returns is GO_ERROR, a forced teardown that completed, and KillTasks. -/
theorem createFail_done (hE : s.env? k = some E) (hte : E.tearing = false)
    (hpar : ∀ t ∈ s.roster, t.id ∈ E.tasks → t.parent = some k) (hhk : ∀ h ∈ E.hooks, h.task ∈ E.tasks)
    (hrel : hooksOk s E.hooks = true) (ids : List TaskId) (late : Bool) (res : Res) (hf : List TaskId)
    (hnh : (createFail s k ids late res hf).2 ≠ .hang) :
    ∃ D, TornDown (setEnv s k (fun X => { X with state := .ERROR })) k { E with state := .ERROR } D ∧
      (createFail s k ids late res hf).1 = killTasks D ids := by
  have hE1 : (setEnv s k (fun X => { X with state := .ERROR })).env? k = some { E with state := .ERROR } := by
    rw [env?_setEnv_state, hE]; rfl
  revert hnh
  fun_cases createFail s k ids late res hf
  · exact fun hnh => absurd rfl hnh
  · rename_i hne
    -- forced, on an environment in ERROR, and it did not hang: it completed
    have hdone := (teardown_forced_res _ k late hf _ hE1 hte EState.noConfusion hpar hhk).imp_right
      fun h => h.resolve_right hne
    exact fun _ => ⟨_, teardown_done_state _ k true late hf _ hE1 hpar hrel hhk hdone, rfl⟩

theorem Tidy.createFail_clean (R : Tidy s k E) (hte : E.tearing = false) (hrel : hooksOk s E.hooks = true)
    (late : Bool) (res : Res) (hf : List TaskId) (hnh : (createFail s k E.tasks late res hf).2 ≠ .hang) :
    cleanAfter k false (viewOf (createFail s k E.tasks late res hf).1) = true := by
  obtain ⟨D, hD, e⟩ := createFail_done R.listed hte (wf_parent s k _ R.wf) R.hooks hrel E.tasks late res hf hnh
  obtain ⟨a1, a2, _⟩ := hyps_transfer (sameOwn_setEnv_state s k .ERROR) k E.tasks E.hooks
  rw [e]
  exact clean_of_done_kill _ D k { E with state := .ERROR } (a1.trans R.wf) (a2.trans R.faithful) hD

/-- The code as it is: the failure tail returns, and leaves the environment clean. -/
theorem Tidy.createFail_code (R : Tidy s k E) (hte : E.tearing = false) (hc : s.cfg = codeCfg)
    (late : Bool) (res : Res) (hf : List TaskId) (hres : res ≠ .hang) :
    (createFail s k E.tasks late res hf).2 ≠ .hang ∧
    cleanAfter k false (viewOf (createFail s k E.tasks late res hf).1) = true :=
  have hnh := createFail_not_hang s k E.tasks late res hf (fun _ hE' => Option.some.inj (R.listed.symm.trans hE') ▸ hte)
    (by simp [hc, codeCfg]) hres
  ⟨hnh, R.createFail_clean hte (hooksOk_code hc _) late res hf hnh⟩

end

theorem hostLost_mem_roster {s : State} {h : Host} {agent : Bool} {t' : Task} (ht' : t' ∈ (hostLost s h agent).roster) :
    ∃ t ∈ s.roster, (t' = t ∧ t.hitBy agent h = false) ∨ (t' = t.lose agent ∧ t.hitBy agent h = true) := by
  rw [hostLost_roster] at ht'
  obtain ⟨t, ht, rfl⟩ := List.mem_map.mp ht'
  refine ⟨t, ht, ?_⟩
  by_cases hh : t.hitBy agent h = true
  · right; simp [hh]
  · left; simp [hh]

theorem hostLost_roster_ids (s : State) (h : Host) (agent : Bool) :
    (hostLost s h agent).roster.map (·.id) = s.roster.map (·.id) := by
  rw [hostLost_roster]
  refine map_map_keep (fun t => ?_) _
  split
  · exact lose_id agent t
  · rfl

theorem hostLost_mem_master {s : State} {h : Host} {agent : Bool} {m' : MTask} (hm' : m' ∈ (hostLost s h agent).master) :
    ∃ m ∈ s.master, m'.id = m.id ∧ m'.label = m.label ∧ m'.host = m.host ∧
      (m.mesos = .terminal → m'.mesos = .terminal) ∧ (m.host = h → m'.mesos = .terminal) := by
  simp only [hostLost, List.mem_map] at hm'
  obtain ⟨m, hm, rfl⟩ := hm'
  refine ⟨m, hm, ?_⟩
  by_cases hh : m.host = h
  · simp [hh]
  · simp [hh]

theorem envWf_hostLost (s : State) (h : Host) (agent : Bool) (k : EnvId) (tasks : List TaskId)
    (hwf : envWf s k tasks = true) : envWf (hostLost s h agent) k tasks = true := by
  have W := envWf_iff.mp hwf
  refine envWf_iff.mpr ⟨?_, ?_, ?_, ?_, W.calls, W.dead⟩
  · intro t' ht'
    obtain ⟨t, ht, ⟨e, _⟩ | ⟨e, _⟩⟩ := hostLost_mem_roster ht' <;> rw [e]
    · exact W.mine t ht
    · rw [lose_id agent t, lose_parent agent t]; exact W.mine t ht
  · intro t' ht'
    obtain ⟨t, ht, ⟨e, _⟩ | ⟨e, _⟩⟩ := hostLost_mem_roster ht' <;> rw [e]
    · exact W.parent t ht
    · rw [lose_id agent t, lose_parent agent t]; exact W.parent t ht
  · intro m' hm'
    obtain ⟨m, hm, a1, a2, _, a4, _⟩ := hostLost_mem_master hm'
    rw [a1, a2]
    rcases W.launched m hm with hl | ⟨hin, hterm | ⟨t, ht, hte⟩⟩
    · left; exact hl
    · right; exact ⟨hin, Or.inl (a4 hterm)⟩
    · right
      refine ⟨hin, Or.inr ⟨if t.hitBy agent h then t.lose agent else t, ?_, ?_⟩⟩
      · rw [hostLost_roster]; exact List.mem_map_of_mem ht
      · split
        · rw [lose_id agent t]; exact hte
        · exact hte
  · rw [hostLost_roster_ids]; exact W.nodup

theorem hostsAgree_hostLost (s : State) (h : Host) (agent : Bool) (tasks : List TaskId)
    (hag : hostsAgree s tasks = true) : hostsAgree (hostLost s h agent) tasks = true := by
  simp only [hostsAgree, List.all_eq_true, Bool.or_eq_true, decide_eq_true_eq] at hag ⊢
  intro t' ht'
  have key : ∀ t ∈ s.roster, t'.id = t.id → t'.host = t.host →
      (t'.id ∉ tasks ∨ ∀ m' ∈ (hostLost s h agent).master, m'.id ≠ t'.id ∨ m'.host = t'.host) := by
    intro t ht e1 e2
    rcases hag t ht with hn | hall
    · left; rw [e1]; exact hn
    · right
      intro m' hm'
      obtain ⟨m, hm, a1, _, a3, _, _⟩ := hostLost_mem_master hm'
      rw [a1, a3, e1, e2]
      exact hall m hm
  obtain ⟨t, ht, ⟨e, _⟩ | ⟨e, _⟩⟩ := hostLost_mem_roster ht'
  · exact key t ht (by rw [e]) (by rw [e])
  · exact key t ht (by rw [e]; exact lose_id agent t) (by rw [e]; exact lose_host agent t)

/-- A task hit by the failure has ended at the master; the others are as active as before and
    the master's rows have only moved towards "ended". -/
theorem statusFaithful_hostLost (s : State) (h : Host) (agent : Bool) (tasks : List TaskId)
    (hag : hostsAgree s tasks = true) (hf : statusFaithful s tasks = true) :
    statusFaithful (hostLost s h agent) tasks = true := by
  simp only [hostsAgree, List.all_eq_true, Bool.or_eq_true, decide_eq_true_eq] at hag
  simp only [statusFaithful, List.all_eq_true, Bool.or_eq_true, decide_eq_true_eq] at hf ⊢
  intro t' ht'
  obtain ⟨t, ht, ⟨e, _⟩ | ⟨e, hhit⟩⟩ := hostLost_mem_roster ht' <;> rw [e]
  · rcases hf t ht with (hn | ha) | hall
    · left; left; exact hn
    · left; right; exact ha
    · right
      intro m' hm'
      obtain ⟨m, hm, a1, _, _, a4, _⟩ := hostLost_mem_master hm'
      rw [a1]
      rcases hall m hm with hne | hterm
      · left; exact hne
      · right; exact a4 hterm
  · by_cases hin : t.id ∈ tasks
    · right
      intro m' hm'
      obtain ⟨m, hm, a1, _, _, _, a5⟩ := hostLost_mem_master hm'
      rw [a1, lose_id agent t]
      by_cases hid : m.id = t.id
      · right
        apply a5
        have hth : t.host = h := by
          simp only [Task.hitBy, Bool.and_eq_true, decide_eq_true_eq] at hhit
          exact hhit.1
        rcases hag t ht with hn | hall
        · exact absurd hin hn
        · rcases hall m hm with hne | hh
          · exact absurd hid hne
          · rw [hh, hth]
      · left; exact hid
    · left; left; rw [lose_id agent t]; exact hin

theorem env?_hostLost (s : State) (h : Host) (agent : Bool) (k : EnvId) : (hostLost s h agent).env? k = s.env? k := rfl

theorem sameOwn_watchError (s : State) (k : EnvId) (fails : List (TaskId × Bool)) : SameOwn s (watchError s k fails) := by
  rcases watchError_cases s k fails with e | ⟨E, _, e⟩ <;> rw [e]
  · exact SameOwn.refl s
  · exact (sameOwn_stateMap s _ _ fails).trans (sameOwn_setEnv_state _ _ _)

theorem hostsAgree_watchError (s : State) (k : EnvId) (fails : List (TaskId × Bool)) (tasks : List TaskId) :
    hostsAgree (watchError s k fails) tasks = hostsAgree s tasks := by
  rcases watchError_cases s k fails with e | ⟨E, _, e⟩ <;> rw [e]
  simp only [hostsAgree, setEnv, List.all_map, Function.comp_def]
  congr 1; funext t
  obtain ⟨st, e⟩ := stateMap_entry _ .CONFIGURED fails t
  rw [e]

/-- The steps the environment does not ask for: an executor or agent is lost, a watcher reacts. -/
def Step.isLoss : Step → Bool
  | .execLost _ | .agentLost _ | .watchError _ _ => true
  | _ => false

theorem run_loss {P : State → Prop} (hh : ∀ s h agent, P s → P (hostLost s h agent))
    (hw : ∀ s k fails, P s → P (watchError s k fails)) (steps : List Step) (hl : steps.all Step.isLoss = true)
    (s : State) (h : P s) : P (run s steps) := by
  induction steps generalizing s with
  | nil => exact h
  | cons st rest ih =>
    simp only [List.all_cons, Bool.and_eq_true] at hl
    refine ih hl.2 _ ?_
    unfold step
    split
    · exact h
    · cases st with
      | execLost x => exact hh s x false h
      | agentLost x => exact hh s x true h
      | watchError k fails => exact hw s k fails h
      | _ => exact Bool.noConfusion hl.1

/-- What `Step.isLoss` steps keep of a listed environment. -/
structure LossKeeps (s : State) (k : EnvId) (tasks : List TaskId) (hooks : List HookRef) : Prop where
  listed : ∃ E, s.env? k = some E ∧ E.tasks = tasks ∧ E.hooks = hooks ∧ E.tearing = false
  wf : envWf s k tasks = true
  hosts : hostsAgree s tasks = true
  faithful : statusFaithful s tasks = true

theorem lossKeeps_hostLost (s : State) (h : Host) (agent : Bool) (k : EnvId) (tasks : List TaskId) (hooks : List HookRef)
    (hk : LossKeeps s k tasks hooks) : LossKeeps (hostLost s h agent) k tasks hooks :=
  ⟨hk.listed, envWf_hostLost s h agent k tasks hk.wf, hostsAgree_hostLost s h agent tasks hk.hosts,
    statusFaithful_hostLost s h agent tasks hk.hosts hk.faithful⟩

theorem lossKeeps_watchError (s : State) (k' : EnvId) (fails : List (TaskId × Bool)) (k : EnvId) (tasks : List TaskId)
    (hooks : List HookRef) (hk : LossKeeps s k tasks hooks) : LossKeeps (watchError s k' fails) k tasks hooks := by
  have hso := sameOwn_watchError s k' fails
  obtain ⟨t1, t2, _⟩ := hyps_transfer hso k tasks hooks
  obtain ⟨E, hE, a, b, c⟩ := hk.listed
  obtain ⟨E1, hE1, a1, b1, c1⟩ := env?_sameOwn hso k E hE
  exact ⟨⟨E1, hE1, a1.trans a, b1.trans b, c1.trans c⟩, t1.trans hk.wf, (hostsAgree_watchError ..).trans hk.hosts, t2.trans hk.faithful⟩

theorem lossKeeps_run (steps : List Step) (hl : steps.all Step.isLoss = true) (s : State) (k : EnvId) (tasks : List TaskId)
    (hooks : List HookRef) (hk : LossKeeps s k tasks hooks) : LossKeeps (run s steps) k tasks hooks :=
  run_loss (fun s h agent => lossKeeps_hostLost s h agent k tasks hooks)
    (fun s k' fails => lossKeeps_watchError s k' fails k tasks hooks) steps hl s hk

theorem LossKeeps.tidy {s : State} {k : EnvId} {tasks : List TaskId} {hooks : List HookRef} (h : LossKeeps s k tasks hooks)
    (hhk : ∀ x ∈ hooks, x.task ∈ tasks) : ∃ E, Tidy s k E ∧ E.tasks = tasks ∧ E.hooks = hooks ∧ E.tearing = false := by
  obtain ⟨E, hE, rfl, rfl, c⟩ := h.listed
  exact ⟨E, ⟨hE, h.wf, hhk, h.faithful⟩, rfl, rfl, c⟩

/-- Lost executors / agents and the watcher's reactions keep it (roster and master agreeing on the hosts). `hooksOk`
    is not kept: a lost DESTROY hook task is no longer ACTIVE. -/
theorem Tidy.afterLoss {s : State} {k : EnvId} {E : Env} (R : Tidy s k E) (hte : E.tearing = false)
    (hag : hostsAgree s E.tasks = true) (steps : List Step) (hl : steps.all Step.isLoss = true) :
    ∃ E', Tidy (run s steps) k E' ∧ E'.tasks = E.tasks ∧ E'.hooks = E.hooks ∧ E'.tearing = false :=
  (lossKeeps_run steps hl s k E.tasks E.hooks ⟨⟨E, R.listed, rfl, rfl, hte⟩, R.wf, hag, R.faithful⟩).tidy R.hooks

end Own
