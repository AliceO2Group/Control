/-
  Proofs/OwnBasic — roster entries and look-ups of Model/Own: when an entry is locked, what holds of its id strings
  (`Task.sound`), what `env?` / `pending?` return.
-/
import ControlModel.Spec.C04
import ControlModel.Proofs.TaskIds
import ControlModel.Proofs.Lists

namespace Own

theorem map_map_keep {α β} {f : α → β} {g : α → α} (hg : ∀ a, f (g a) = f a) (l : List α) : (l.map g).map f = l.map f := by
  rw [List.map_map]; exact List.map_congr_left fun a _ => hg a

theorem lookup_mem {α β} [BEq α] [LawfulBEq α] (l : List (α × β)) (a : α) (b : β) (h : l.lookup a = some b) : (a, b) ∈ l := by
  obtain ⟨l₁, l₂, rfl, _⟩ := List.lookup_eq_some_iff.mp h
  exact List.mem_append_right _ List.mem_cons_self

theorem owner_none_of_unlocked (t : Task) (h : t.isLocked = false) : t.owner = none := by
  simp [Task.owner, h]

theorem parent_none_of_unlocked (t : Task) (hi : t.idsOk = true) (h : t.isLocked = false) : t.parent = none := by
  cases hp : t.parent with
  | none => rfl
  | some e => simp [Task.isLocked, hi, hp] at h

theorem locked_of_parent (t : Task) (hi : t.idsOk = true) (e : EnvId) (hp : t.parent = some e) : t.isLocked = true := by
  simp [Task.isLocked, hi, hp]

/-- What holds of the id strings of every roster entry: the offer id is never blanked;
    agent id and executor id are blanked only by a lost agent / executor, which also makes the
    task INACTIVE (and TASK_RUNNING, which makes it ACTIVE, writes both again). (The hostname is
    written once, from the offer, and may be empty from birth: `hostOk` is not part of this.) -/
def Task.sound (t : Task) : Prop :=
  t.offer = true ∧ (t.active = true → t.agent = true ∧ t.executor = true)

theorem sound_of_idsOk (t : Task) (h : t.idsOk = true) : t.sound := by
  simp only [Task.idsOk, Bool.and_eq_true] at h
  exact ⟨h.1.2, fun _ => ⟨h.1.1.2, h.2⟩⟩

theorem idsOk_of_sound_active (t : Task) (h : t.sound) (hh : t.hostOk = true) (ha : t.active = true) : t.idsOk = true := by
  simp [Task.idsOk, hh, h.1, h.2 ha]

theorem sound_congr {t t' : Task} (h2 : t'.offer = t.offer) (h3 : t'.agent = t.agent)
    (h4 : t'.executor = t.executor) (h5 : t'.active = t.active) : t.sound → t'.sound := by
  intro h; unfold Task.sound at *; rw [h2, h3, h4, h5]; exact h

theorem env?_some {s : State} {k : EnvId} {E : Env} (h : s.env? k = some E) : E ∈ s.envs ∧ E.id = k := by
  unfold State.env? at h
  exact ⟨List.mem_of_find?_eq_some h, by simpa using List.find?_some h⟩

theorem env?_none_of_unlisted (s : State) (k : EnvId) (h : ∀ E ∈ s.envs, E.id ≠ k) : s.env? k = none := by
  unfold State.env?
  rw [List.find?_eq_none]
  intro E hE
  simpa using h E hE

theorem env?_map {s s' : State} {f : Env → Env} (hf : ∀ X, (f X).id = X.id) (he : s'.envs = s.envs.map f) (k : EnvId) :
    s'.env? k = (s.env? k).map f := by
  unfold State.env?
  rw [he, List.find?_map, show ((fun E => decide (E.id = k)) ∘ f) = (fun E : Env => decide (E.id = k)) from
    funext fun X => by simp [hf X]]

theorem env?_setEnv_self (s : State) (k : EnvId) (f : Env → Env) (hf : ∀ X, (f X).id = X.id) :
    (setEnv s k f).env? k = (s.env? k).map f := by
  rw [env?_map (s := s) (f := fun E => if E.id = k then f E else E) (fun X => by split; exact hf X; rfl) rfl]
  cases hE : s.env? k with
  | none => rfl
  | some E => simp [(env?_some hE).2]

theorem env?_setEnv_state (s : State) (k : EnvId) (st : EState) :
    (setEnv s k (fun X => { X with state := st })).env? k = (s.env? k).map (fun E => { E with state := st }) :=
  env?_setEnv_self s k _ (fun _ => rfl)

theorem pending?_some {s : State} {k : EnvId} {b : Bool} {p : Pending} (h : s.pending? k b = some p) :
    p ∈ s.creating ∧ p.id = k ∧ p.inserted = b := by
  unfold State.pending? at h
  have hp := List.find?_some h
  simp only [Bool.and_eq_true, decide_eq_true_eq, beq_iff_eq] at hp
  exact ⟨List.mem_of_find?_eq_some h, hp.1.1, hp.2⟩

end Own
