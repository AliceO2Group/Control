/-
  Proofs/OwnInv — what holds of every state of a run of Model/Own.

  Whatever the core does on behalf of one environment `k` — a control request, a destroy, the settling of a creation —
  is a sequence of ten elementary updates (a record of `k` rewritten, a transition sent to its tasks, a teardown, a
  sweep of unowned tasks, …). `Keeps k P` says that `P` survives each of them; the composite operations are walked
  once, for every such `P` (`Keeps.destroy`, `Keeps.createSettle`, `Keeps.control`), and so are the steps of a run
  (`KeepsSteps`). The structural invariant `Inv` is one instance. What a step leaves of the fields it is not about — flag,
  configuration and the kill log (`Frame0`), the listing and the pending creations (`NoNew`), the other environments
  (`Frame k`) — is proved once per elementary update, as a relation between the state before and after; whatever these
  relations carry along is an instance through `keeps_of_frame` / `steps_of_frame0` ("every KILL names an unowned task",
  no crash, the detectors). What an operation does, branch by branch, is Proofs/OwnOps; `Inv` and the shapes of update
  that keep it Proofs/OwnInvariant.
-/
import ControlModel.Proofs.OwnInvariant
import ControlModel.Proofs.OwnOps

namespace Own

theorem inv_doKill (s : State) (tk : List Task) (hsub : List.Sublist tk s.roster) (h : Inv s) : Inv (doKill s tk) :=
  inv_of_roster_mem h (fun _ ht => mem_doKill_roster hsub ht) (doKill_roster_nodup s tk hsub h.rosterNodup) rfl rfl rfl rfl

theorem inv_cleanup (s : State) (h : Inv s) : Inv (cleanup s) := inv_doKill s _ List.filter_sublist h

theorem inv_killTasks (s : State) (ids : List TaskId) (h : Inv s) : Inv (killTasks s ids) := inv_doKill s _ List.filter_sublist h

theorem inv_setEnv (s : State) (k : EnvId) (f : Env → Env) (h : Inv s)
    (hf : ∀ E, (f E).id = E.id ∧ (f E).tasks = E.tasks ∧ (f E).hooks = E.hooks ∧ (f E).tearing = E.tearing) :
    Inv (setEnv s k f) :=
  inv_of_maps (K := fun _ => False) h id (fun _ => ⟨rfl, id, Or.inl rfl⟩) (List.map_id _).symm
    (envsLess_map s.envs _ _ (fun E => by
      split
      · exact ⟨(hf E).1, (hf E).2.1, (hf E).2.2.1, False.elim, fun _ => (hf E).2.2.2⟩
      · exact ⟨rfl, rfl, rfl, False.elim, fun _ => rfl⟩) h.envNodup)
    (fun _ _ => id) rfl rfl rfl

theorem inv_stateMap {s : State} (h : Inv s) (sel : Task → Bool) (dst : TState) (fails : List (TaskId × Bool)) :
    Inv { s with roster := s.roster.map (stateMap sel dst fails) } :=
  inv_of_roster_map h _ (fun t => by
    obtain ⟨st, e⟩ := stateMap_entry sel dst fails t
    rw [e]; exact ⟨rfl, sound_congr rfl rfl rfl rfl, rfl⟩) rfl rfl rfl rfl rfl

theorem inv_applyTrans (s : State) (E : Env) (ev : CEv) (fails : List (TaskId × Bool)) (h : Inv s) :
    Inv (applyTrans s E ev fails).1 := applyTrans_fst s E ev fails ▸ inv_stateMap h _ _ _

theorem inv_mesosStart (s : State) (k : EnvId) (h : Inv s) : Inv (mesosStart s k) := by
  refine inv_of_roster_map h _ (fun t => ?_) rfl rfl rfl rfl rfl
  split
  · exact ⟨rfl, fun hs => ⟨hs.1, fun _ => ⟨rfl, rfl⟩⟩, rfl⟩
  · exact ⟨rfl, id, rfl⟩

theorem inv_statusUpdate (s : State) (x : TaskId) (u : StatusUpd) (h : Inv s) :
    Inv (statusUpdate TaskIds.codeGuards s x u) :=
  inv_of_roster_map h _ (fun t => by
    obtain ⟨hid, hpar, _, _, _, _, _, _, hsound, _⟩ := statusUpdate_code_entry x u t
    exact ⟨hid, hsound, hpar⟩) rfl rfl rfl rfl rfl

theorem inv_hostLost (s : State) (h : Host) (agent : Bool) (hi : Inv s) : Inv (hostLost s h agent) := by
  refine inv_of_roster_map hi _ (fun t => ?_) (hostLost_roster s h agent) rfl rfl rfl rfl
  split
  · exact ⟨lose_id agent t, lose_sound agent t, lose_parent agent t⟩
  · exact ⟨rfl, id, rfl⟩

theorem inv_watchError (s : State) (k : EnvId) (fails : List (TaskId × Bool)) (h : Inv s) : Inv (watchError s k fails) := by
  rcases watchError_cases s k fails with e | ⟨E, _, e⟩ <;> rw [e]
  · exact h
  · exact inv_setEnv _ _ _ (inv_stateMap h _ _ _) (fun _ => ⟨rfl, rfl, rfl, rfl⟩)

theorem inv_teardown (s : State) (k : EnvId) (force late : Bool) (hf : List TaskId) (h : Inv s)
    (hp : ∀ p ∈ s.creating, p.id ≠ k) : Inv (teardown s k force late hf).1 := by
  cases hE : s.env? k with
  | none => rw [teardown_none hE]; exact h
  | some E =>
    obtain ⟨hEm, rfl⟩ := env?_some hE
    have hhk := h.hooksSub E hEm
    -- what a live `E` referenced, no environment live afterwards references: the released tasks may lose their parent
    have free : E.tearing = false → ∀ {envs' : List Env}, EnvsLess (· = E.id) s.envs envs' →
        ∀ x ∈ E.tasks, ∀ E' ∈ envs', E'.tearing = false → x ∉ E'.tasks := by
      intro hte envs' he x hx E' hE' ht
      obtain ⟨E'', hE'', _, a2, _, a4⟩ := he.sub E' hE'
      rw [a2]; exact h.disjoint E hEm E'' hE'' hte (a4 ht).1 (fun e => (a4 ht).2 e.symm) x hx
    rcases teardown_cases_wf force late hf hE (fun hte => h.owned E hEm hte) hhk with
      ⟨_, e⟩ | ⟨_, _, e⟩ | ⟨hte, _, _, e, _⟩ | ⟨hte, _, _, e, _⟩ <;> rw [e]
    · exact h
    · exact h
    · have he : EnvsLess (· = E.id) s.envs (tdHung s E.id E).envs := by
        show EnvsLess _ s.envs ((s.envs.map _).map _)
        rw [List.map_map]
        exact envsLess_map s.envs _ _ (fun X => by by_cases hk : X.id = E.id <;> simp [hk]) h.envNodup
      refine inv_of_maps h (relMap E.id (tdPlain E)) (fun t => ?_) rfl he hp rfl rfl rfl
      obtain ⟨x, y, _, z⟩ := relMap_props E.id (tdPlain E) t
      exact ⟨x, y, z.imp_right fun z => free hte he t.id (tdPlain_sub E _ z.2)⟩
    · have he : EnvsLess (· = E.id) s.envs (tdDone s E.id E).envs :=
        envsLess_delete s.envs E.id _ (fun X => by by_cases hk : X.id = E.id <;> simp [hk]) h.envNodup
      refine inv_of_maps h (fun t => relMap E.id (tdMsg (tdFirst s E.id E).1 E) (relMap E.id (tdPlain E) t)) (fun t => ?_)
        (List.map_map ..) he hp rfl rfl rfl
      obtain ⟨x1, y1, _, z1⟩ := relMap_props E.id (tdPlain E) t
      obtain ⟨x2, y2, _, z2⟩ := relMap_props E.id (tdMsg (tdFirst s E.id E).1 E) (relMap E.id (tdPlain E) t)
      refine ⟨x2.trans x1, fun hs => y2 (y1 hs), ?_⟩
      rcases z2 with z2 | z2
      · rw [z2]; exact z1.imp_right fun z => free hte he t.id (tdPlain_sub E _ z.2)
      · exact Or.inr (free hte he t.id (tdMsg_sub _ E hhk _ (x1 ▸ z2.2)))

theorem inv_dropPending (s : State) (k : EnvId) (h : Inv s) : Inv (dropPending s k) :=
  inv_of_creating h (fun p hp => ⟨p, (List.mem_filter.mp hp).1, rfl, rfl, rfl⟩)
    (h.pendNodup.sublist (List.filter_sublist.map _)) rfl rfl rfl rfl

theorem inv_createBegin (s : State) (k : EnvId) (spec : EnvSpec) (h : Inv s) : Inv (createBegin s k spec).1 := by
  have e0 : EnvsOk s.envs (k :: s.used) s.nextTask :=
    { h.envsOk with used := fun E hE => List.mem_cons_of_mem _ (h.envUsed E hE) }
  fun_cases createBegin s k spec with
  | case1 => exact h
  | case2 =>
    exact .of_parts h.rosterOk e0 h.owned { h.pendOk with used := fun p hp => List.mem_cons_of_mem _ (h.pendUsed p hp) }
  | case3 hk =>
    -- the new record: its id was not handed out before, so nothing pending or listed carries it
    refine .of_parts h.rosterOk e0 h.owned ⟨?_, ?_, ?_, ?_, ?_⟩
    · exact List.forall_mem_cons.mpr ⟨List.mem_cons_self, fun p hp => List.mem_cons_of_mem _ (h.pendUsed p hp)⟩
    · refine List.nodup_cons.mpr ⟨fun hm => ?_, h.pendNodup⟩
      obtain ⟨p, hp, hpk⟩ := List.mem_map.mp hm
      exact hk ((show p.id = k from hpk) ▸ h.pendUsed p hp)
    · exact List.forall_mem_cons.mpr ⟨fun _ E hE he => hk ((show E.id = k from he) ▸ h.envUsed E hE), h.pendFresh⟩
    · exact List.forall_mem_cons.mpr ⟨fun hi => Bool.noConfusion hi, h.pendListed⟩
    · exact List.forall_mem_cons.mpr ⟨rfl, h.pendClaims⟩

theorem inv_createCleanup (s : State) (k : EnvId) (h : Inv s) : Inv (createCleanup s k) := by
  fun_cases createCleanup s k with
  | case2 => exact h
  | case1 =>
    refine inv_of_creating (inv_cleanup s h) (List.forall_mem_map.mpr fun p hp => ⟨p, hp, ?_⟩) ?_ rfl rfl rfl rfl
    · split <;> exact ⟨rfl, rfl, rfl⟩
    · show ((s.creating.map fun q => if q.id = k then { q with cleaned := true } else q).map (·.id)).Nodup
      rw [map_map_keep fun q => by split <;> rfl]
      exact h.pendNodup

theorem inv_createInsert (s : State) (k : EnvId) (h : Inv s) : Inv (createInsert s k).1 := by
  rcases createInsert_cases s k with e | e | ⟨p, hp, _, e⟩ <;> rw [e]
  · exact h
  · exact inv_dropPending s k h
  obtain ⟨hpm, hpk, hpi⟩ := pending?_some hp
  have hkfresh : ∀ E ∈ s.envs, E.id ≠ k := fun E hE => hpk ▸ h.pendFresh p hpm hpi E hE
  have memE : ∀ {P : Env → Prop}, (∀ E ∈ s.envs, P E) → P (newEnv k p) → ∀ E ∈ s.envs ++ [newEnv k p], P E := by
    intro P ho hn E hE
    rcases List.mem_append.mp hE with hE | hE
    · exact ho E hE
    · exact List.mem_singleton.mp hE ▸ hn
  refine .of_parts h.rosterOk ⟨?_, ?_, ?_, ?_, ?_⟩ ?_ ⟨?_, ?_, ?_, ?_, ?_⟩
  · exact memE h.envFresh (fun x hx => absurd hx List.not_mem_nil)
  · exact memE h.envUsed (hpk ▸ h.pendUsed p hpm)
  · rw [List.map_append, List.nodup_append]
    refine ⟨h.envNodup, List.nodup_cons.mpr ⟨List.not_mem_nil, List.nodup_nil⟩, fun a ha b hb => ?_⟩
    obtain ⟨E, hE, rfl⟩ := List.mem_map.mp ha
    rw [List.mem_singleton.mp hb]
    exact hkfresh E hE
  · exact memE h.hooksSub (fun x hx => absurd hx List.not_mem_nil)
  · exact memE (fun E1 h1 => memE (h.disjoint E1 h1) (fun _ _ _ _ _ hx => List.not_mem_nil hx))
      (fun _ _ _ _ _ x hx => absurd hx List.not_mem_nil)
  · exact memE h.owned (fun _ _ _ hx => absurd hx List.not_mem_nil)
  · refine List.forall_mem_map.mpr fun q hq => ?_
    split <;> exact h.pendUsed q hq
  · rw [map_map_keep fun q => by split <;> rfl]
    exact h.pendNodup
  · refine List.forall_mem_map.mpr fun q hq => ?_
    by_cases hk : q.id = k
    · rw [if_pos hk]; exact fun hi => Bool.noConfusion hi
    · rw [if_neg hk]; exact fun hi => memE (h.pendFresh q hq hi) (fun e => hk e.symm)
  · refine List.forall_mem_map.mpr fun q hq => ?_
    by_cases hk : q.id = k
    · rw [if_pos hk]; exact fun _ => ⟨_, List.mem_append_right _ (List.mem_singleton_self _), hk.symm, rfl, rfl, rfl⟩
    · rw [if_neg hk]; exact fun hi => (h.pendListed q hq hi).imp fun E a => ⟨List.mem_append_left _ a.1, a.2⟩
  · refine List.forall_mem_map.mpr fun q hq => ?_
    split <;> exact h.pendClaims q hq

theorem inv_acquire_fn (s : State) (k : EnvId) (spec : EnvSpec) (claims : List (Nat × TaskId)) (o : SettleOracle)
    (h : Inv s) (hp : ∀ p ∈ s.creating, p.id ≠ k)
    (hc : ∀ c ∈ claims, ∃ t ∈ s.roster, t.id = c.2 ∧ t.claimable = true ∧ t.hostOk = true) :
    Inv (acquire s k spec claims o).s := by
  unfold acquire
  simp only []
  have hr := assignNew_range ((descriptors spec).filter (fun d => decide (d.1 ∉ claims.map (·.1)))) s.nextTask
  rw [← assignNew_length _ s.nextTask] at hr
  apply inv_acquire s k h hp (claims.map (·.2))
  · intro c hcm
    obtain ⟨x, hx, rfl⟩ := List.mem_map.mp hcm
    exact hc x hx
  · intro nt hnt
    obtain ⟨x, hx, rfl⟩ := List.mem_map.mp hnt
    exact ⟨rfl, rfl, (hr x hx).1, (hr x hx).2⟩
  · rw [List.map_map]
    exact assignNew_nodup _ _
  · intro i hi
    obtain ⟨d, _, hd⟩ := List.mem_filterMap.mp hi
    split at hd
    · rename_i t ht
      injection hd with hd; subst hd
      left
      exact List.mem_map.mpr ⟨(d.1, t), lookup_mem _ _ _ ht, rfl⟩
    · right
      simp only [Option.map_eq_some_iff] at hd
      obtain ⟨x, hx, rfl⟩ := hd
      exact hr x (List.mem_of_find?_eq_some hx)
  · intro x hx
    obtain ⟨d, hd, hdx⟩ := List.mem_filterMap.mp hx
    split at hdx
    · simp only [Option.map_eq_some_iff] at hdx
      obtain ⟨t, ht, rfl⟩ := hdx
      exact List.mem_filterMap.mpr ⟨d, hd, ht⟩
    · simp at hdx

/-- In every configuration: the appended entries have fresh ids, are sound, and no environment references them. -/
theorem inv_acquireUnlocked (s : State) (k : EnvId) (toRun : List (Nat × RoleSpec)) (o : SettleOracle) (h : Inv s) :
    Inv (acquireUnlocked s k toRun o) := by
  refine inv_append h _ _ _ (fun t ht => ?_) (acquireUnlocked_new_ids s k toRun o ▸ assignNew_nodup _ _)
  obtain ⟨x, hx, he, h1, h2, h3⟩ := acquireUnlocked_new s k toRun o t ht
  have hr := assignNew_range toRun s.nextTask x hx
  exact ⟨⟨h1, fun _ => ⟨h2, h3⟩⟩, he ▸ hr.1, he ▸ assignNew_length toRun s.nextTask ▸ hr.2⟩

/-! What a step leaves of the fields it is not about, as three nested relations between the state before and the state
  after. Each elementary update satisfies them (`Frame.of_same` where it writes none of the fields they read); hence
  (`keeps_of_frame`, `steps_of_frame0`) so does whatever an operation, or a run, makes of a state. -/

/-- What EVERY step leaves as it was: flag and configuration; the process dies only where the legacy acquireTasks unlocks
    a mutex it did not lock; every KILL it adds names a task without owner. -/
structure Frame0 (s s' : State) : Prop where
  reuse : s'.reuse = s.reuse
  cfg : s'.cfg = s.cfg
  crashed : s'.crashed = s.crashed ∨ (s.reuse = true ∧ s.cfg.unlockUnpaired = true)
  kills : ∀ e ∈ s'.killLog, e ∈ s.killLog ∨ e.2 = none

/-- Listing and pending creations only lose entries (identity, detectors, snapshot and progress of what stays are kept):
    every step but the snapshot and the insertion of a creation. -/
structure NoNew (s s' : State) : Prop where
  envs : ∀ E' ∈ s'.envs, ∃ E ∈ s.envs, E'.id = E.id ∧ E'.dets = E.dets
  pend : ∀ p' ∈ s'.creating, ∃ p ∈ s.creating, p.id = p'.id ∧ p.inserted = p'.inserted ∧ p.snapshot = p'.snapshot

/-- What work done for a listed environment `k` (control, destroy, the settling of its creation) leaves of the rest:
    the two above, and the record of every other environment. -/
structure Frame (k : EnvId) (s s' : State) : Prop extends Frame0 s s', NoNew s s' where
  others : ∀ E ∈ s.envs, E.id ≠ k → E ∈ s'.envs

theorem Frame0.refl (s : State) : Frame0 s s := ⟨rfl, rfl, .inl rfl, fun _ h => .inl h⟩

theorem Frame0.trans {a b c : State} (h1 : Frame0 a b) (h2 : Frame0 b c) : Frame0 a c :=
  ⟨h2.reuse.trans h1.reuse, h2.cfg.trans h1.cfg,
    h2.crashed.elim (fun e => h1.crashed.imp_left e.trans) (fun e => .inr ⟨h1.reuse ▸ e.1, h1.cfg ▸ e.2⟩),
    fun e he => (h2.kills e he).elim (h1.kills e) .inr⟩

theorem NoNew.refl (s : State) : NoNew s s := ⟨fun E hE => ⟨E, hE, rfl, rfl⟩, fun p hp => ⟨p, hp, rfl, rfl, rfl⟩⟩

theorem NoNew.trans {a b c : State} (h1 : NoNew a b) (h2 : NoNew b c) : NoNew a c := by
  constructor
  · intro E'' hE''
    obtain ⟨E', hE', a1, a2⟩ := h2.envs E'' hE''
    obtain ⟨E, hE, b1, b2⟩ := h1.envs E' hE'
    exact ⟨E, hE, a1.trans b1, a2.trans b2⟩
  · intro p'' hp''
    obtain ⟨p', hp', a1, a2, a3⟩ := h2.pend p'' hp''
    obtain ⟨p, hp, b1, b2, b3⟩ := h1.pend p' hp'
    exact ⟨p, hp, b1.trans a1, b2.trans a2, b3.trans a3⟩

theorem Frame.refl (k : EnvId) (s : State) : Frame k s s := ⟨.refl s, .refl s, fun _ h _ => h⟩

theorem Frame.trans {k : EnvId} {a b c : State} (h1 : Frame k a b) (h2 : Frame k b c) : Frame k a c :=
  ⟨h1.toFrame0.trans h2.toFrame0, h1.toNoNew.trans h2.toNoNew, fun E hE hne => h2.others E (h1.others E hE hne) hne⟩

theorem NoNew.notPending {s s' : State} (h : NoNew s s') {k : EnvId} (hp : ∀ p ∈ s.creating, p.id ≠ k) :
    ∀ p ∈ s'.creating, p.id ≠ k := fun p' hp' => by
  obtain ⟨p, hpm, e, _⟩ := h.pend p' hp'
  exact e ▸ hp p hpm

theorem Frame0.of_same {s s' : State} (hr : s'.reuse = s.reuse) (hc : s'.cfg = s.cfg) (hx : s'.crashed = s.crashed)
    (hk : s'.killLog = s.killLog) : Frame0 s s' := ⟨hr, hc, .inl hx, fun _ he => .inl (hk ▸ he)⟩

theorem NoNew.of_same {s s' : State} (he : s'.envs = s.envs) (hp : s'.creating = s.creating) : NoNew s s' :=
  ⟨fun E hE => ⟨E, he ▸ hE, rfl, rfl⟩, fun p hp' => ⟨p, hp ▸ hp', rfl, rfl, rfl⟩⟩

/-- An update that writes none of the fields the relation reads (it writes roster, master, hosts, task ids, `dead`,
    `refusing`, …). -/
theorem Frame.of_same {k : EnvId} {s s' : State} (hr : s'.reuse = s.reuse) (hc : s'.cfg = s.cfg) (hx : s'.crashed = s.crashed)
    (hk : s'.killLog = s.killLog) (he : s'.envs = s.envs) (hp : s'.creating = s.creating) : Frame k s s' :=
  ⟨.of_same hr hc hx hk, .of_same he hp, fun _ hE _ => he ▸ hE⟩

theorem frame_setEnv (s : State) (k : EnvId) (f : Env → Env) (hf : ∀ E, (f E).id = E.id ∧ (f E).dets = E.dets) :
    Frame k s (setEnv s k f) := by
  refine ⟨.of_same rfl rfl rfl rfl, ⟨List.forall_mem_map.mpr fun E hE => ⟨E, hE, ?_⟩, fun p hp => ⟨p, hp, rfl, rfl, rfl⟩⟩,
    fun E hE hne => List.mem_map.mpr ⟨E, hE, if_neg hne⟩⟩
  split
  · exact hf E
  · exact ⟨rfl, rfl⟩

theorem frame_drop (s : State) (k : EnvId) : Frame k s (dropPending s k) :=
  ⟨.of_same rfl rfl rfl rfl, ⟨fun E hE => ⟨E, hE, rfl, rfl⟩, fun p hp => ⟨p, (List.mem_filter.mp hp).1, rfl, rfl, rfl⟩⟩,
    fun _ h _ => h⟩

theorem Frame0.killOk {s s' : State} (h : Frame0 s s') (hk : ∀ e ∈ s.killLog, e.2 = none) : ∀ e ∈ s'.killLog, e.2 = none :=
  fun e he => (h.kills e he).elim (hk e) id

/-- Without reuseUnlockedTasks nothing kills the process. -/
theorem Frame0.crashFree {s s' : State} (h : Frame0 s s') (hr : s.reuse = false) (hc : s.crashed = false) :
    s'.reuse = false ∧ s'.crashed = false :=
  ⟨h.reuse.trans hr, (h.crashed.resolve_right fun e => Bool.noConfusion (hr.symm.trans e.1)).trans hc⟩

theorem frame_doKill (k : EnvId) (s : State) (tk : List Task) (hu : ∀ t ∈ tk, t.isLocked = false) : Frame k s (doKill s tk) := by
  refine ⟨⟨rfl, rfl, .inl rfl, fun e he => ?_⟩, .of_same rfl rfl, fun _ h _ => h⟩
  rcases List.mem_append.mp (killLog_doKill s tk ▸ he) with he | he
  · exact .inl he
  · obtain ⟨t, ht, rfl⟩ := List.mem_map.mp he
    exact .inr (owner_none_of_unlocked t (hu t (List.mem_filter.mp ht).1))

/-- The environment deleted (the end of a teardown that completes). -/
theorem frame_delete (s : State) (k : EnvId) (d : List (EnvId × Nat × Nat)) :
    Frame k s { s with envs := s.envs.filter (fun X => decide (X.id ≠ k)), dead := d } :=
  ⟨.of_same rfl rfl rfl rfl, ⟨fun X hX => ⟨X, (List.mem_filter.mp hX).1, rfl, rfl⟩, fun p hp => ⟨p, hp, rfl, rfl, rfl⟩⟩,
    fun _ hX hne => List.mem_filter.mpr ⟨hX, decide_eq_true hne⟩⟩

theorem frame_teardown (s : State) (k : EnvId) (force late : Bool) (hf : List TaskId) :
    Frame k s (teardown s k force late hf).1 := by
  have rel : ∀ (s1 : State) (ids : List TaskId), Frame k s s1 → Frame k s (releaseTasks s1 k ids).1 :=
    fun s1 ids h => h.trans (.of_same rfl rfl rfl rfl rfl rfl)
  have set : ∀ (s1 : State) (f : Env → Env), (∀ X, (f X).id = X.id ∧ (f X).dets = X.dets) → Frame k s s1 →
      Frame k s (setEnv s1 k f) := fun s1 f hf h => h.trans (frame_setEnv s1 k f hf)
  rcases teardown_cases s k force late hf with ⟨_, e⟩ | ⟨E, _, ⟨_, e⟩ | ⟨_, _, e⟩ | ⟨_, _, e⟩ |
    ⟨_, _, _, ⟨_, e⟩ | ⟨_, _, e⟩ | ⟨_, _, e⟩⟩⟩ <;> rw [e]
  · exact .refl k s
  · exact .refl k s
  · exact .refl k s
  · exact rel s _ (.refl k s)
  · exact set _ _ (fun _ => ⟨rfl, rfl⟩) (set _ _ (fun _ => ⟨rfl, rfl⟩) (rel s _ (.refl k s)))
  · exact rel _ _ (set _ _ (fun _ => ⟨rfl, rfl⟩) (rel s _ (.refl k s)))
  · have h2 : Frame k s (tdSecond s k E).1 := rel _ _ (set _ _ (fun _ => ⟨rfl, rfl⟩) (rel s _ (.refl k s)))
    exact h2.trans (frame_delete _ k _)

theorem frame_acquire (s : State) (k : EnvId) (p : Pending) (o : SettleOracle) : Frame k s (settleAcq s k p o).s := by
  unfold settleAcq acquire
  simp only []
  refine (frame_drop s k).trans (.trans ?_ (frame_setEnv _ k _ fun _ => ⟨rfl, rfl⟩))
  exact .of_same rfl rfl rfl rfl rfl rfl

/-- `P` survives each elementary update the core makes to a listed environment `k` and its tasks, and what DEPLOY does
    for a creation of `k`: the pending record dropped, acquireTasks' commit, its failed lock loop, the legacy fatal error. -/
structure Keeps (k : EnvId) (P : State → Prop) : Prop where
  setEnv : ∀ {s : State} (f : Env → Env), (∀ E, (f E).id = E.id ∧ (f E).dets = E.dets ∧ (f E).tasks = E.tasks ∧
    (f E).hooks = E.hooks ∧ (f E).tearing = E.tearing) → P s → P (setEnv s k f)
  trans : ∀ {s : State} (E : Env) (ev : CEv) (fails : List (TaskId × Bool)), P s → P (applyTrans s E ev fails).1
  teardown : ∀ {s : State} (force late : Bool) (hf : List TaskId), (∀ p ∈ s.creating, p.id ≠ k) → P s →
    P (teardown s k force late hf).1
  cleanup : ∀ {s : State}, P s → P (cleanup s)
  killTasks : ∀ {s : State} (ids : List TaskId), P s → P (killTasks s ids)
  lost : ∀ {s : State} (h : Host) (agent : Bool), P s → P (hostLost s h agent)
  drop : ∀ {s : State}, P s → P (dropPending s k)
  acquire : ∀ {s : State} {p : Pending} (o : SettleOracle), s.pending? k true = some p → P s → P (settleAcq s k p o).s
  lockFail : ∀ {s : State} (toRun : List (Nat × RoleSpec)) (o : SettleOracle), P s → P (acquireUnlocked s k toRun o)
  crash : ∀ {s : State}, s.reuse = true → s.cfg.unlockUnpaired = true → P s → P { s with crashed := true }

/-- What `Frame k` carries from one state to the other survives everything done for `k`. -/
theorem keeps_of_frame {k : EnvId} {P : State → Prop} (mono : ∀ {a b}, Frame k a b → P a → P b) : Keeps k P where
  setEnv f hf := mono (frame_setEnv _ k f fun E => ⟨(hf E).1, (hf E).2.1⟩)
  trans _ _ _ := mono (.of_same rfl rfl rfl rfl rfl rfl)
  teardown force late hf _ := mono (frame_teardown _ k force late hf)
  cleanup := mono (frame_doKill k _ _ (cleanup_unlocked _))
  killTasks ids := mono (frame_doKill k _ _ (killTasks_unlocked _ ids))
  lost _ _ := mono (.of_same rfl rfl rfl rfl rfl rfl)
  drop := mono (frame_drop _ k)
  acquire {_ p} o _ := mono (frame_acquire _ k p o)
  lockFail _ _ := mono (.of_same rfl rfl rfl rfl rfl rfl)
  crash hr hu := mono ⟨⟨rfl, rfl, .inr ⟨hr, hu⟩, fun _ he => .inl he⟩, .of_same rfl rfl, fun _ hE _ => hE⟩

theorem frame_keeps (k : EnvId) (s0 : State) : Keeps k (Frame k s0) := keeps_of_frame fun f h => h.trans f

section

variable {k : EnvId} {P : State → Prop} (K : Keeps k P)

include K

theorem Keeps.setState {s : State} (st : EState) (h : P s) : P (Own.setEnv s k (fun X => { X with state := st })) :=
  K.setEnv _ (fun _ => ⟨rfl, rfl, rfl, rfl, rfl⟩) h

theorem Keeps.lostAll (ls : List (Host × Bool)) {s : State} (h : P s) : P (Own.lostAll s ls) := by
  induction ls generalizing s with
  | nil => exact h
  | cons l rest ih => exact ih (K.lost l.1 l.2 h)

theorem Keeps.cleanupTasks {s : State} (ids : List TaskId) (h : P s) : P (Own.cleanupTasks s ids) := by
  fun_cases Own.cleanupTasks s ids with
  | case1 => exact K.cleanup h
  | case2 => exact K.killTasks ids h

theorem Keeps.tcFin (keep : Bool) (ids : List TaskId) {s' : State} (res : TRes) (tr : List TEv) (h : P s') :
    P (Own.tcFin keep ids s' res tr).1 := by
  fun_cases Own.tcFin keep ids s' res tr with
  | case2 => exact K.cleanupTasks ids h
  | case1 | case3 | case4 | case5 => exact h

theorem Keeps.teardownAndCleanup {s : State} (ids : List TaskId) (force keep : Bool) (o : DOracle)
    (hp : ∀ p ∈ s.creating, p.id ≠ k) (h : P s) : P (Own.teardownAndCleanup s k ids force keep o).1 := by
  have h1 := K.teardown force o.late1 o.hookFails hp h
  fun_cases Own.teardownAndCleanup s k ids force keep o with
  | case1 => exact K.tcFin _ _ _ _ h1
  | case2 =>
    exact K.tcFin _ _ _ _ (K.teardown true o.late2 o.hookFails ((frame_teardown s k force o.late1 o.hookFails).notPending hp) h1)

theorem Prep.keeps {s s1 : State} (hp : Prep k s s1) (h : P s) : P s1 := by
  induction hp with
  | refl => exact h
  | trans E ev fails _ ih => exact K.trans E ev fails ih
  | state st _ ih => exact K.setState st ih

theorem Keeps.destroy {s : State} (force allow keep : Bool) (o : DOracle) (h : P s) :
    P (Own.destroy s k force allow keep o).1 := by
  rcases destroy_cases s k force allow keep o with ⟨e, _⟩ | ⟨E, s1, f, kp, _, hp, h1, _, e⟩ <;> rw [e]
  · exact h
  · exact K.teardownAndCleanup _ _ _ _ ((h1.keeps (frame_keeps k s) (.refl k s)).notPending hp) (h1.keeps K h)

theorem Keeps.control {s : State} (ev : CEv) (fails : List (TaskId × Bool)) (pre : Bool) (h : P s) :
    P (Own.control s k ev fails pre).1 := by
  -- not served (1–4); only `k`'s state forced to ERROR (5: illegal event, 6: cancelled before its body); the transition sent
  fun_cases Own.control s k ev fails pre with
  | case1 | case2 | case3 | case4 => exact h
  | case5 | case6 => exact K.setState _ h
  | case7 _ E | case8 _ E =>
    refine K.setState _ (K.trans E ev fails ?_)
    fun_cases restartCalls s k E ev with
    | case1 => exact K.setEnv _ (fun _ => ⟨rfl, rfl, rfl, rfl, rfl⟩) h
    | case2 => exact h

theorem Keeps.createFail {s : State} (ids : List TaskId) (late : Bool) (res : Res) (hf : List TaskId)
    (hp : ∀ p ∈ s.creating, p.id ≠ k) (h : P s) : P (Own.createFail s k ids late res hf).1 := by
  have h1 := K.teardown (s := Own.setEnv s k _) true late hf hp (K.setState .ERROR h)
  fun_cases Own.createFail s k ids late res hf with
  | case1 => exact h1
  | case2 => exact K.killTasks ids h1

end

theorem Keeps.settleDeploy {k : EnvId} {P : State → Prop} (K : Keeps k P) {s : State} (o : SettleOracle) (h : P s) :
    P (Own.settleDeploy s k o).1 := by
  rcases settleDeploy_cases s k o with ⟨_, e⟩ | ⟨p, hp, e | ⟨hr, hu, e⟩ | e | e⟩ <;> rw [e]
  · exact h
  · exact K.drop h
  · exact K.crash hr hu (K.drop h)
  · exact K.lockFail _ o (K.drop h)
  · exact K.acquire o hp h

theorem Keeps.settleConfigure {P : State → Prop} {s : State} (m : Mid) (K : Keeps m.k P) (h : P s) :
    P (Own.settleConfigure s m).1 := by
  have h3 (E : Env) := K.lostAll m.lost (K.setEnv (fun X => { X with pending := X.pending + callCount m.spec, started := X.started + callCount m.spec })
    (fun _ => ⟨rfl, rfl, rfl, rfl, rfl⟩) (K.trans { E with state := .DEPLOYED } .CONFIGURE m.fails h))
  fun_cases Own.settleConfigure s m with
  | case1 => exact h
  | case2 E => exact K.setState _ (h3 E)
  | case3 E => exact h3 E

theorem Keeps.settleRest {P : State → Prop} {s : State} (m : Mid) (K : Keeps m.k P) (hp : ∀ p ∈ s.creating, p.id ≠ m.k)
    (h : P s) : P (Own.settleRest s m).1 := by
  fun_cases Own.settleRest s m with
  | case1 => exact K.settleConfigure m h
  | case2 =>
    rw [settleTail_eq]
    refine Keeps.createFail (settleConfigure_k s m ▸ K) _ _ _ _ ?_ (K.settleConfigure m h)
    exact settleConfigure_k s m ▸ ((frame_keeps m.k s).settleConfigure m (.refl _ s)).notPending hp
  | case3 =>
    rw [settleTail_eq]
    exact K.createFail _ _ _ _ hp h

theorem Keeps.createSettle {k : EnvId} {P : State → Prop} (K : Keeps k P) {s : State} (o : SettleOracle) (h : P s) :
    P (Own.createSettle s k o).1 := by
  have h1 := K.settleDeploy o h
  rcases settle_pieces s k o with e | ⟨_, _, _, e⟩ <;> rw [e]
  · -- DEPLOY keeps `P`, and so does what follows it: the creation is no longer pending then
    obtain ⟨_, f⟩ := settleDeploy_mid s k o
    rw [settleRest_seq]
    revert h1 f
    rcases Own.settleDeploy s k o with ⟨s1, _ | m, r⟩
    · exact fun h1 _ => h1
    · intro h1 f
      obtain ⟨rfl, _, hp⟩ := f m rfl
      exact K.settleRest m hp h1
  · exact h1

/-- `P` survives every step that `ok` admits: the requests about an environment through `Keeps`, the others one by one. -/
structure KeepsSteps (ok : Step → Prop) (P : State → Prop) : Prop where
  env : ∀ k, Keeps k P
  begin : ∀ {s : State} (k : EnvId) (spec : EnvSpec), ok (.createBegin k spec) → P s → P (createBegin s k spec).1
  clean : ∀ {s : State} (k : EnvId), P s → P (createCleanup s k)
  insert : ∀ {s : State} (k : EnvId), ok (.createInsert k) → P s → P (createInsert s k).1
  claim : ∀ {s : State} (k : EnvId), ok (.createClaim k) → P s → P (createClaim s k)
  start : ∀ {s : State} (k : EnvId), P s → P (mesosStart s k)
  watch : ∀ {s : State} (k : EnvId) (fails : List (TaskId × Bool)), P s → P (watchError s k fails)
  fault : ∀ {s : State} (ids : List TaskId), P s → P { s with refusing := ids }
  status : ∀ {s : State} (t : TaskId) (u : StatusUpd), P s → P (statusUpdate idGuardsInCode s t u)

theorem KeepsSteps.step {ok : Step → Prop} {P : State → Prop} (K : KeepsSteps ok P) {s : State} (st : Step) (hok : ok st)
    (h : P s) : P (Own.step s st).1 := by
  unfold Own.step
  split
  · exact h
  · cases st with
    | createBegin k spec => exact K.begin k spec hok h
    | createCleanup k => exact K.clean k h
    | createInsert k => exact K.insert k hok h
    | createClaim k => exact K.claim k hok h
    | createSettle k o => exact (K.env k).createSettle o h
    | control k ev fails pre => exact (K.env k).control ev fails pre h
    | destroy k f a kp o => exact (K.env k).destroy f a kp o h
    -- `cleanup`, `killTasks`, `lost` of `Keeps k` do not mention `k`: any instance serves
    | cleanup => exact (K.env 0).cleanup h
    | killIds ids => exact (K.env 0).cleanupTasks ids h
    | mesosStart k => exact K.start k h
    | execLost hh => exact (K.env 0).lost hh false h
    | agentLost hh => exact (K.env 0).lost hh true h
    | watchError k fails => exact K.watch k fails h
    | killFault ids => exact K.fault ids h
    | statusUpdate t u => exact K.status t u h

theorem KeepsSteps.run {ok : Step → Prop} {P : State → Prop} (K : KeepsSteps ok P) (steps : List Step)
    (hok : ∀ st ∈ steps, ok st) {s : State} (h : P s) : P (Own.run s steps) := by
  induction steps generalizing s with
  | nil => exact h
  | cons st rest ih =>
    exact ih (fun x hx => hok x (List.mem_cons_of_mem _ hx)) (K.step st (hok st List.mem_cons_self) h)

theorem inv_keeps (k : EnvId) : Keeps k Inv where
  setEnv f hf h := inv_setEnv _ k f h (fun E => ⟨(hf E).1, (hf E).2.2.1, (hf E).2.2.2.1, (hf E).2.2.2.2⟩)
  trans E ev fails h := inv_applyTrans _ E ev fails h
  teardown force late hf hp h := inv_teardown _ k force late hf h hp
  cleanup h := inv_cleanup _ h
  killTasks ids h := inv_killTasks _ ids h
  lost hh agent h := inv_hostLost _ hh agent h
  drop h := inv_dropPending _ k h
  acquire {s p} o hp h := by
    -- no free-standing claim step ran (`pendClaims`): the claims are computed here, from unlocked tasks
    unfold settleAcq
    rw [show claimsOf (dropPending s k) p = computeClaims (dropPending s k) p.spec by
      unfold claimsOf; rw [h.pendClaims p (pending?_some hp).1]]
    exact inv_acquire_fn _ k p.spec _ o (inv_dropPending s k h) (dropPending_creating s k) (computeClaims_sound _ _)
  lockFail toRun o h := inv_acquireUnlocked _ k toRun o h
  crash _ _ h := inv_of_roster_mem h (fun _ ht => ht) h.rosterNodup rfl rfl rfl rfl

def Step.isClaim : Step → Bool
  | .createClaim _ => true
  | _ => false

/-- No free-standing claim step (acquireTasks' claim and commit happen in one go). -/
def noClaimSteps (steps : List Step) : Bool := steps.all (fun st => !st.isClaim)

theorem inv_steps : KeepsSteps (fun st => st.isClaim = false) Inv where
  env := inv_keeps
  begin k spec _ h := inv_createBegin _ k spec h
  clean k h := inv_createCleanup _ k h
  insert k _ h := inv_createInsert _ k h
  claim _ hok _ := Bool.noConfusion hok
  start k h := inv_mesosStart _ k h
  watch k fails h := inv_watchError _ k fails h
  fault _ h := inv_of_roster_mem h (fun _ ht => ht) h.rosterNodup rfl rfl rfl rfl
  status t u h := inv_statusUpdate _ t u h

theorem noClaimSteps_iff {steps : List Step} : noClaimSteps steps = true ↔ ∀ st ∈ steps, st.isClaim = false := by
  simp [noClaimSteps]

theorem inv_run (s : State) (steps : List Step) (hs : noClaimSteps steps = true) (h : Inv s) : Inv (run s steps) :=
  inv_steps.run steps (noClaimSteps_iff.mp hs) h

/-- What `Frame0` carries from one state to the other survives every step. -/
theorem steps_of_frame0 {P : State → Prop} (mono : ∀ {a b}, Frame0 a b → P a → P b) : KeepsSteps (fun _ => True) P where
  env k := keeps_of_frame fun f => mono f.toFrame0
  begin k spec _ := by obtain ⟨u, c, e⟩ := createBegin_writes _ k spec; rw [e]; exact mono (.of_same rfl rfl rfl rfl)
  clean {s} k h := by
    rcases createCleanup_writes s k with e | ⟨c, e⟩ <;> rw [e]
    · exact h
    · exact mono ((frame_doKill k s _ (cleanup_unlocked s)).toFrame0.trans (.of_same (s := cleanup s) rfl rfl rfl rfl)) h
  insert k _ := by
    rcases createInsert_cases _ k with e | e | ⟨p, _, _, e⟩ <;> rw [e] <;> exact mono (.of_same rfl rfl rfl rfl)
  claim k _ := by obtain ⟨c, e⟩ := createClaim_writes _ k; rw [e]; exact mono (.of_same rfl rfl rfl rfl)
  start _ := mono (.of_same rfl rfl rfl rfl)
  watch k fails h := by
    rcases watchError_cases _ k fails with e | ⟨E, _, e⟩ <;> rw [e]
    · exact h
    · refine mono ?_ h
      exact .of_same rfl rfl rfl rfl
  fault _ := mono (.of_same rfl rfl rfl rfl)
  status _ _ := mono (.of_same rfl rfl rfl rfl)

theorem frame0_run (s : State) (steps : List Step) : Frame0 s (run s steps) :=
  (steps_of_frame0 (P := Frame0 s) fun f h => h.trans f).run steps (fun _ _ => trivial) (.refl s)

theorem noNew_steps (s0 : State) :
    KeepsSteps (fun st => (∀ k spec, st ≠ .createBegin k spec) ∧ ∀ k, st ≠ .createInsert k) (NoNew s0) where
  env k := keeps_of_frame fun f h => h.trans f.toNoNew
  begin k spec hok _ := absurd rfl (hok.1 k spec)
  clean {s} k h := by
    fun_cases createCleanup s k with
    | case2 => exact h
    | case1 =>
      refine h.trans ⟨fun E hE => ⟨E, hE, rfl, rfl⟩, List.forall_mem_map.mpr fun p hp => ⟨p, hp, ?_⟩⟩
      split <;> exact ⟨rfl, rfl, rfl⟩
  insert k hok _ := absurd rfl (hok.2 k)
  claim {s} k _ h := by
    fun_cases createClaim s k with
    | case1 => exact h
    | case2 =>
      refine h.trans ⟨fun E hE => ⟨E, hE, rfl, rfl⟩, List.forall_mem_map.mpr fun p hp => ⟨p, hp, ?_⟩⟩
      split <;> exact ⟨rfl, rfl, rfl⟩
  start _ h := h.trans (.of_same rfl rfl)
  watch k fails h := by
    rcases watchError_cases _ k fails with e | ⟨E, _, e⟩ <;> rw [e]
    · exact h
    · refine h.trans (.trans ?_ (Frame.toNoNew (frame_setEnv _ k _ fun _ => ⟨rfl, rfl⟩)))
      exact .of_same rfl rfl
  fault _ h := h.trans (.of_same rfl rfl)
  status _ _ h := h.trans (.of_same rfl rfl)

def DetOk (s : State) : Prop := ∀ E1 ∈ s.envs, ∀ E2 ∈ s.envs, E1.id ≠ E2.id → ∀ d ∈ E1.dets, d ∉ E2.dets

/-- The snapshot of every creation that still has to pass its detector check covers the active detectors. -/
def SnapOk (s : State) : Prop := ∀ p ∈ s.creating, p.inserted = false → ∀ E ∈ s.envs, ∀ d ∈ E.dets, d ∈ p.snapshot

/-- A detector check-and-insert is safe when no other creation is between its detector
    snapshot and its own check (what a lock around the two would guarantee). -/
def safeStep (s : State) : Step → Bool
  | .createInsert k => s.creating.all (fun p => p.inserted || decide (p.id = k))
  | _ => true

def overlapFree (s : State) : List Step → Bool
  | [] => true
  | st :: rest => safeStep s st && overlapFree (step s st).1 rest

theorem det_of_noNew {s s' : State} (h : NoNew s s') (hd : DetOk s) (hs : SnapOk s) : DetOk s' ∧ SnapOk s' := by
  constructor
  · intro E1' h1 E2' h2 hne d hd1
    obtain ⟨E1, hE1, a1, a2⟩ := h.envs E1' h1
    obtain ⟨E2, hE2, b1, b2⟩ := h.envs E2' h2
    rw [b2]; rw [a2] at hd1; rw [a1, b1] at hne
    exact hd E1 hE1 E2 hE2 hne d hd1
  · intro p' hp' hi E' hE' d hdm
    obtain ⟨p, hp, _, a2, a3⟩ := h.pend p' hp'
    obtain ⟨E, hE, _, b2⟩ := h.envs E' hE'
    rw [← a3]; rw [b2] at hdm
    exact hs p hp (a2.trans hi) E hE d hdm

theorem det_step (s : State) (st : Step) (hsafe : safeStep s st = true) (hd : DetOk s) (hs : SnapOk s) :
    DetOk (step s st).1 ∧ SnapOk (step s st).1 := by
  by_cases hc : s.crashed = true
  · rw [show step s st = (s, .crash) by unfold step; rw [if_pos hc]]; exact ⟨hd, hs⟩
  cases st with
  | createBegin k spec =>
    rw [show step s (.createBegin k spec) = createBegin s k spec by unfold step; rw [if_neg hc]]
    fun_cases createBegin s k spec with
    | case1 | case2 => exact ⟨hd, hs⟩
    | case3 =>
      -- the snapshot just taken covers the active detectors
      refine ⟨hd, fun p hp hi E hE d hdm => ?_⟩
      rcases List.mem_cons.mp hp with rfl | hp
      · exact List.mem_flatMap.mpr ⟨E, hE, hdm⟩
      · exact hs p hp hi E hE d hdm
  | createInsert k =>
    rw [show step s (.createInsert k) = createInsert s k by unfold step; rw [if_neg hc]]
    rcases createInsert_cases s k with e | e | ⟨p, hpk, hfree, e⟩ <;> rw [e]
    · exact ⟨hd, hs⟩
    · exact det_of_noNew (frame_drop s k).toNoNew hd hs
    · obtain ⟨hpm, _, hpins⟩ := pending?_some hpk
      -- the new environment's detectors are outside the snapshot, which covers those of every listed one
      have hcov := hs p hpm hpins
      constructor
      · intro E1 h1 E2 h2 hne d hd1
        rcases List.mem_append.mp h1 with h1 | h1 <;> rcases List.mem_append.mp h2 with h2 | h2
        · exact hd E1 h1 E2 h2 hne d hd1
        · rw [List.mem_singleton.mp h2]
          exact fun hin => hfree d hin (hcov E1 h1 d hd1)
        · rw [List.mem_singleton.mp h1] at hd1
          exact fun hin => hfree d hd1 (hcov E2 h2 d hin)
        · exact absurd ((List.mem_singleton.mp h1).trans (List.mem_singleton.mp h2).symm ▸ rfl) hne
      · -- no other creation is between its snapshot and its check
        intro q' hq' hqi
        obtain ⟨q, hq, rfl⟩ := List.mem_map.mp hq'
        simp only [safeStep, List.all_eq_true, Bool.or_eq_true, decide_eq_true_eq] at hsafe
        rcases hsafe q hq with hin | hk
        · by_cases hk : q.id = k <;> simp [hk, hin] at hqi
        · simp [hk] at hqi
  | _ => exact det_of_noNew ((noNew_steps s).step _ ⟨fun _ _ e => (nomatch e), fun _ e => (nomatch e)⟩ (.refl s)) hd hs

theorem det_run (s : State) (steps : List Step) (hsafe : overlapFree s steps = true) (hd : DetOk s) (hs : SnapOk s) :
    DetOk (run s steps) := by
  induction steps generalizing s with
  | nil => exact hd
  | cons st rest ih =>
    simp only [overlapFree, Bool.and_eq_true] at hsafe
    obtain ⟨a, b⟩ := det_step s st hsafe.1 hd hs
    exact ih _ hsafe.2 a b

theorem exclusiveDets_of_detOk (s : State) (h : DetOk s) : exclusiveDets (viewOf s) = true := by
  simp only [exclusiveDets, viewOf, List.all_eq_true, List.mem_map, Bool.or_eq_true,
    decide_eq_true_eq, forall_exists_index, and_imp, forall_apply_eq_imp_iff₂]
  exact fun E1 h1 E2 h2 => Decidable.or_iff_not_imp_left.mpr fun hid d hdm => h E1 h1 E2 h2 hid d hdm

theorem crash_free_settle (s : State) (k : EnvId) (o : SettleOracle) (hr : s.reuse = false) (hc : s.crashed = false) :
    (createSettle s k o).1.reuse = false ∧ (createSettle s k o).1.crashed = false :=
  ((frame_keeps k s).createSettle o (.refl k s)).crashFree hr hc

theorem crash_free_control (s : State) (k : EnvId) (ev : CEv) (fails : List (TaskId × Bool)) (pre : Bool)
    (hr : s.reuse = false) (hc : s.crashed = false) :
    (control s k ev fails pre).1.reuse = false ∧ (control s k ev fails pre).1.crashed = false :=
  ((frame_keeps k s).control ev fails pre (.refl k s)).crashFree hr hc

theorem crash_free_destroy (s : State) (k : EnvId) (f a kp : Bool) (o : DOracle)
    (hr : s.reuse = false) (hc : s.crashed = false) :
    (destroy s k f a kp o).1.reuse = false ∧ (destroy s k f a kp o).1.crashed = false :=
  ((frame_keeps k s).destroy f a kp o (.refl k s)).crashFree hr hc

end Own
