/-
  Proofs/OwnInvariant — the structural invariant `Inv` of Model/Own and the shapes of update that keep it.

  `Inv` is four facts about four groups of fields (`Inv.of_parts`). The lemmas here speak of a state and ANY state that
  differs from it in one of a few ways — roster entries dropped (`inv_of_roster_mem`), rewritten in place while records of
  the listing are rewritten, marked or dropped (`inv_of_maps`, `EnvsLess`), pending records rewritten (`inv_of_creating`),
  entries appended (`inv_append`), tasks assigned to an environment (`inv_setTasks`), acquireTasks' commit as their
  composition (`inv_acquire`) — not of the operations of the model: that each operation is such an update is
  Proofs/OwnInv, what the operations do Proofs/OwnOps.
-/
import ControlModel.Proofs.OwnBasic

namespace Own

/-- What holds of every state reachable without a free-standing claim step. -/
structure Inv (s : State) : Prop where
  ids : ∀ t ∈ s.roster, t.sound
  fresh : ∀ t ∈ s.roster, t.id < s.nextTask
  rosterNodup : (s.roster.map (·.id)).Nodup
  envFresh : ∀ E ∈ s.envs, ∀ x ∈ E.tasks, x < s.nextTask
  envUsed : ∀ E ∈ s.envs, E.id ∈ s.used
  envNodup : (s.envs.map (·.id)).Nodup
  hooksSub : ∀ E ∈ s.envs, ∀ h ∈ E.hooks, h.task ∈ E.tasks
  disjoint : ∀ E1 ∈ s.envs, ∀ E2 ∈ s.envs, E1.tearing = false → E2.tearing = false → E1.id ≠ E2.id →
    ∀ x ∈ E1.tasks, x ∉ E2.tasks
  owned : ∀ E ∈ s.envs, E.tearing = false → ∀ t ∈ s.roster, t.id ∈ E.tasks → t.parent = some E.id
  pendUsed : ∀ p ∈ s.creating, p.id ∈ s.used
  pendNodup : (s.creating.map (·.id)).Nodup
  pendFresh : ∀ p ∈ s.creating, p.inserted = false → ∀ E ∈ s.envs, E.id ≠ p.id
  pendListed : ∀ p ∈ s.creating, p.inserted = true → ∃ E ∈ s.envs, E.id = p.id ∧ E.tasks = [] ∧ E.hooks = [] ∧ E.tearing = false
  pendClaims : ∀ p ∈ s.creating, p.claims = none

theorem inv_init (reuse : Bool) (hosts : List Host) (c : Cfg := codeCfg) : Inv (init reuse hosts c) := by
  constructor <;> simp [init]

theorem env?_of_mem {s : State} (h : Inv s) (E : Env) (hE : E ∈ s.envs) : s.env? E.id = some E :=
  List.find?_key h.envNodup hE fun _ => decide_eq_true_iff

theorem pending_listed {s : State} (h : Inv s) {k : EnvId} {p : Pending} (hp : s.pending? k true = some p) :
    ∃ E0, s.env? k = some E0 ∧ E0.tasks = [] ∧ E0.hooks = [] ∧ E0.tearing = false := by
  obtain ⟨hpm, hpid, hpins⟩ := pending?_some hp
  obtain ⟨E0, hE0m, hE0id, ht, hh, hte⟩ := h.pendListed p hpm hpins
  exact ⟨E0, hpid ▸ hE0id ▸ env?_of_mem h E0 hE0m, ht, hh, hte⟩

/-! `Inv` is four facts, each about its own group of fields: an update that leaves a group alone leaves its fact alone. -/

structure RosterOk (roster : List Task) (next : TaskId) : Prop where
  ids : ∀ t ∈ roster, t.sound
  fresh : ∀ t ∈ roster, t.id < next
  nodup : (roster.map (·.id)).Nodup

structure EnvsOk (envs : List Env) (used : List EnvId) (next : TaskId) : Prop where
  fresh : ∀ E ∈ envs, ∀ x ∈ E.tasks, x < next
  used : ∀ E ∈ envs, E.id ∈ used
  nodup : (envs.map (·.id)).Nodup
  hooksSub : ∀ E ∈ envs, ∀ h ∈ E.hooks, h.task ∈ E.tasks
  disjoint : ∀ E1 ∈ envs, ∀ E2 ∈ envs, E1.tearing = false → E2.tearing = false → E1.id ≠ E2.id →
    ∀ x ∈ E1.tasks, x ∉ E2.tasks

structure PendOk (creating : List Pending) (used : List EnvId) (envs : List Env) : Prop where
  used : ∀ p ∈ creating, p.id ∈ used
  nodup : (creating.map (·.id)).Nodup
  fresh : ∀ p ∈ creating, p.inserted = false → ∀ E ∈ envs, E.id ≠ p.id
  listed : ∀ p ∈ creating, p.inserted = true → ∃ E ∈ envs, E.id = p.id ∧ E.tasks = [] ∧ E.hooks = [] ∧ E.tearing = false
  claims : ∀ p ∈ creating, p.claims = none

theorem Inv.rosterOk {s : State} (h : Inv s) : RosterOk s.roster s.nextTask := ⟨h.ids, h.fresh, h.rosterNodup⟩

theorem Inv.envsOk {s : State} (h : Inv s) : EnvsOk s.envs s.used s.nextTask :=
  ⟨h.envFresh, h.envUsed, h.envNodup, h.hooksSub, h.disjoint⟩

theorem Inv.pendOk {s : State} (h : Inv s) : PendOk s.creating s.used s.envs :=
  ⟨h.pendUsed, h.pendNodup, h.pendFresh, h.pendListed, h.pendClaims⟩

theorem Inv.of_parts {s : State} (r : RosterOk s.roster s.nextTask) (e : EnvsOk s.envs s.used s.nextTask)
    (o : ∀ E ∈ s.envs, E.tearing = false → ∀ t ∈ s.roster, t.id ∈ E.tasks → t.parent = some E.id)
    (p : PendOk s.creating s.used s.envs) : Inv s :=
  ⟨r.ids, r.fresh, r.nodup, e.fresh, e.used, e.nodup, e.hooksSub, e.disjoint, o, p.used, p.nodup, p.fresh, p.listed, p.claims⟩

theorem inv_of_roster_mem {s s' : State} (h : Inv s)
    (hr : ∀ t ∈ s'.roster, t ∈ s.roster) (hnd : (s'.roster.map (·.id)).Nodup) (he : s'.envs = s.envs) (hu : s'.used = s.used)
    (hn : s'.nextTask = s.nextTask) (hc : s'.creating = s.creating) : Inv s' :=
  .of_parts ⟨fun t ht => h.ids t (hr t ht), fun t ht => hn ▸ h.fresh t (hr t ht), hnd⟩
    (by rw [he, hu, hn]; exact h.envsOk) (by rw [he]; exact fun E hE ht t htr => h.owned E hE ht t (hr t htr))
    (by rw [hc, hu, he]; exact h.pendOk)

/-- `envs'` is `envs` with records rewritten — ids, task and hook references kept — and the environments in `K` not live
    any more: dropped, or marked as being torn down. -/
structure EnvsLess (K : EnvId → Prop) (envs envs' : List Env) : Prop where
  sub : ∀ E' ∈ envs', ∃ E ∈ envs, E'.id = E.id ∧ E'.tasks = E.tasks ∧ E'.hooks = E.hooks ∧
    (E'.tearing = false → E.tearing = false ∧ ¬ K E.id)
  nodup : (envs'.map (·.id)).Nodup
  keep : ∀ E ∈ envs, ¬ K E.id → ∃ E' ∈ envs', E'.id = E.id ∧ E'.tasks = E.tasks ∧ E'.hooks = E.hooks ∧ E'.tearing = E.tearing

theorem EnvsLess.refl {envs : List Env} (hnd : (envs.map (·.id)).Nodup) : EnvsLess (fun _ => False) envs envs :=
  ⟨fun E hE => ⟨E, hE, rfl, rfl, rfl, fun ht => ⟨ht, id⟩⟩, hnd, fun E hE _ => ⟨E, hE, rfl, rfl, rfl, rfl⟩⟩

theorem envsLess_map (envs : List Env) (K : EnvId → Prop) (f : Env → Env)
    (hf : ∀ E, (f E).id = E.id ∧ (f E).tasks = E.tasks ∧ (f E).hooks = E.hooks ∧
      (K E.id → (f E).tearing = true) ∧ (¬ K E.id → (f E).tearing = E.tearing))
    (hnd : (envs.map (·.id)).Nodup) : EnvsLess K envs (envs.map f) := by
  refine ⟨?_, ?_, ?_⟩
  · intro E' hE'
    obtain ⟨E, hE, rfl⟩ := List.mem_map.mp hE'
    refine ⟨E, hE, (hf E).1, (hf E).2.1, (hf E).2.2.1, fun ht => ?_⟩
    by_cases hk : K E.id
    · rw [(hf E).2.2.2.1 hk] at ht; exact Bool.noConfusion ht
    · exact ⟨(hf E).2.2.2.2 hk ▸ ht, hk⟩
  · rw [map_map_keep fun E => (hf E).1]; exact hnd
  · intro E hE hne
    exact ⟨f E, List.mem_map_of_mem hE, (hf E).1, (hf E).2.1, (hf E).2.2.1, (hf E).2.2.2.2 hne⟩

theorem envsLess_delete (envs : List Env) (k : EnvId) (f : Env → Env)
    (hf : ∀ E, (f E).id = E.id ∧ (f E).tasks = E.tasks ∧ (f E).hooks = E.hooks ∧ (f E).tearing = E.tearing)
    (hnd : (envs.map (·.id)).Nodup) : EnvsLess (· = k) envs ((envs.map f).filter (fun X => decide (X.id ≠ k))) := by
  refine ⟨?_, ?_, ?_⟩
  · intro E' hE'
    obtain ⟨hm, hne⟩ := List.mem_filter.mp hE'
    obtain ⟨E, hE, rfl⟩ := List.mem_map.mp hm
    exact ⟨E, hE, (hf E).1, (hf E).2.1, (hf E).2.2.1, fun ht => ⟨(hf E).2.2.2 ▸ ht, (hf E).1 ▸ of_decide_eq_true hne⟩⟩
  · refine hnd.sublist ?_
    rw [← map_map_keep (fun E => (hf E).1) envs]
    exact List.filter_sublist.map _
  · intro E hE hne
    exact ⟨f E, List.mem_filter.mpr ⟨List.mem_map_of_mem hE, decide_eq_true ((hf E).1 ▸ hne)⟩,
      (hf E).1, (hf E).2.1, (hf E).2.2.1, (hf E).2.2.2⟩

theorem inv_of_maps {s s' : State} {K : EnvId → Prop} (h : Inv s) (g : Task → Task)
    (hg : ∀ t, (g t).id = t.id ∧ (t.sound → (g t).sound) ∧
      ((g t).parent = t.parent ∨ ∀ E' ∈ s'.envs, E'.tearing = false → t.id ∉ E'.tasks))
    (hr : s'.roster = s.roster.map g) (he : EnvsLess K s.envs s'.envs) (hp : ∀ p ∈ s.creating, ¬ K p.id)
    (hu : s'.used = s.used) (hn : s'.nextTask = s.nextTask) (hc : s'.creating = s.creating) : Inv s' := by
  have memT : ∀ t' ∈ s'.roster, ∃ t ∈ s.roster, t' = g t := by
    intro t' ht'; rw [hr] at ht'; obtain ⟨t, ht, rfl⟩ := List.mem_map.mp ht'; exact ⟨t, ht, rfl⟩
  refine .of_parts ⟨?_, ?_, ?_⟩ ⟨?_, ?_, he.nodup, ?_, ?_⟩ ?_ ⟨hc ▸ hu ▸ h.pendUsed, hc ▸ h.pendNodup, ?_, ?_, hc ▸ h.pendClaims⟩
  · intro t' ht'; obtain ⟨t, ht, rfl⟩ := memT t' ht'; exact (hg t).2.1 (h.ids t ht)
  · intro t' ht'; obtain ⟨t, ht, rfl⟩ := memT t' ht'; rw [(hg t).1, hn]; exact h.fresh t ht
  · rw [hr, map_map_keep fun t => (hg t).1]; exact h.rosterNodup
  · intro E' hE'; obtain ⟨E, hE, _, h2, _, _⟩ := he.sub E' hE'; rw [h2, hn]; exact h.envFresh E hE
  · intro E' hE'; obtain ⟨E, hE, h1, _, _, _⟩ := he.sub E' hE'; rw [h1, hu]; exact h.envUsed E hE
  · intro E' hE'; obtain ⟨E, hE, _, h2, h3, _⟩ := he.sub E' hE'; rw [h2, h3]; exact h.hooksSub E hE
  · intro E1' h1 E2' h2 t1 t2 hne
    obtain ⟨E1, hE1, a1, a2, _, a4⟩ := he.sub E1' h1
    obtain ⟨E2, hE2, b1, b2, _, b4⟩ := he.sub E2' h2
    rw [a2, b2]; rw [a1, b1] at hne
    exact h.disjoint E1 hE1 E2 hE2 (a4 t1).1 (b4 t2).1 hne
  · intro E' hE' ht t' ht' hx
    obtain ⟨E, hE, a1, a2, _, a4⟩ := he.sub E' hE'
    obtain ⟨t, htm, rfl⟩ := memT t' ht'
    rw [(hg t).1] at hx
    rcases (hg t).2.2 with hpar | hfree
    · rw [hpar, a1]; exact h.owned E hE (a4 ht).1 t htm (a2 ▸ hx)
    · exact absurd hx (hfree E' hE' ht)
  · rw [hc]; intro p hp' hi E' hE'
    obtain ⟨E, hE, a1, _, _, _⟩ := he.sub E' hE'; rw [a1]; exact h.pendFresh p hp' hi E hE
  · rw [hc]; intro p hp' hi
    obtain ⟨E, hE, a1, a2, a3, a4⟩ := h.pendListed p hp' hi
    obtain ⟨E', hE', b1, b2, b3, b4⟩ := he.keep E hE (a1 ▸ hp p hp')
    exact ⟨E', hE', b1.trans a1, b2.trans a2, b3.trans a3, b4.trans a4⟩

theorem inv_of_roster_map {s s' : State} (h : Inv s) (g : Task → Task)
    (hg : ∀ t, (g t).id = t.id ∧ (t.sound → (g t).sound) ∧ (g t).parent = t.parent)
    (hr : s'.roster = s.roster.map g) (he : s'.envs = s.envs) (hu : s'.used = s.used)
    (hn : s'.nextTask = s.nextTask) (hc : s'.creating = s.creating) : Inv s' :=
  inv_of_maps (K := fun _ => False) h g (fun t => ⟨(hg t).1, (hg t).2.1, Or.inl (hg t).2.2⟩) hr
    (by rw [he]; exact .refl h.envNodup) (fun _ _ => id) hu hn hc

theorem inv_of_creating {s s' : State} (h : Inv s)
    (hc : ∀ p' ∈ s'.creating, ∃ p ∈ s.creating, p'.id = p.id ∧ p'.inserted = p.inserted ∧ p'.claims = p.claims)
    (hnd : (s'.creating.map (·.id)).Nodup) (hr : s'.roster = s.roster) (he : s'.envs = s.envs)
    (hu : s'.used = s.used) (hn : s'.nextTask = s.nextTask) : Inv s' := by
  refine .of_parts (by rw [hr, hn]; exact h.rosterOk) (by rw [he, hu, hn]; exact h.envsOk) (by rw [he, hr]; exact h.owned)
    ⟨?_, hnd, ?_, ?_, ?_⟩
  · intro p' hp'; obtain ⟨p, hp, a, _, _⟩ := hc p' hp'; rw [a, hu]; exact h.pendUsed p hp
  · intro p' hp' hi; obtain ⟨p, hp, a, b, _⟩ := hc p' hp'; rw [he, a]; exact h.pendFresh p hp (b ▸ hi)
  · intro p' hp' hi; obtain ⟨p, hp, a, b, _⟩ := hc p' hp'; rw [he, a]; exact h.pendListed p hp (b ▸ hi)
  · intro p' hp'; obtain ⟨p, hp, _, _, c⟩ := hc p' hp'; rw [c]; exact h.pendClaims p hp

theorem inv_append {s : State} (h : Inv s) (new : List Task) (n : Nat) (M : List MTask)
    (hnew : ∀ t ∈ new, t.sound ∧ s.nextTask ≤ t.id ∧ t.id < s.nextTask + n) (hnd : (new.map (·.id)).Nodup) :
    Inv { s with roster := s.roster ++ new, master := M, nextTask := s.nextTask + n } := by
  refine .of_parts ⟨?_, ?_, ?_⟩ { h.envsOk with fresh := fun E hE x hx => Nat.lt_add_right n (h.envFresh E hE x hx) } ?_ h.pendOk
  · intro t ht
    rcases List.mem_append.mp ht with ho | hn
    · exact h.ids t ho
    · exact (hnew t hn).1
  · intro t ht
    rcases List.mem_append.mp ht with ho | hn
    · exact Nat.lt_add_right n (h.fresh t ho)
    · exact (hnew t hn).2.2
  · rw [List.map_append, List.nodup_append]
    refine ⟨h.rosterNodup, hnd, fun a ha b hb => ?_⟩
    obtain ⟨t, ht, rfl⟩ := List.mem_map.mp ha
    obtain ⟨u, hu, rfl⟩ := List.mem_map.mp hb
    exact fun e => absurd (e ▸ h.fresh t ht) (Nat.not_lt.mpr (hnew u hu).2.1)
  · intro E hE hte t ht hin
    rcases List.mem_append.mp ht with ho | hn
    · exact h.owned E hE hte t ho hin
    · exact absurd (h.envFresh E hE t.id hin) (Nat.not_lt.mpr (hnew t hn).2.1)

theorem inv_setTasks {s : State} (h : Inv s) (k : EnvId) (ids : List TaskId) (hooks : List HookRef)
    (hp : ∀ p ∈ s.creating, p.id ≠ k) (hfresh : ∀ i ∈ ids, i < s.nextTask)
    (hfree : ∀ i ∈ ids, ∀ E ∈ s.envs, E.tearing = false → i ∉ E.tasks)
    (hown : ∀ t ∈ s.roster, t.id ∈ ids → t.parent = some k) (hh : ∀ x ∈ hooks, x.task ∈ ids) :
    Inv (setEnv s k (fun X => { X with tasks := ids, hooks := hooks })) := by
  -- the listing is the old one mapped: each clause speaks of `if E.id = k then { E with tasks, hooks } else E`, `E` listed
  refine .of_parts h.rosterOk ⟨?_, ?_, ?_, ?_, ?_⟩ ?_ ⟨h.pendUsed, h.pendNodup, ?_, ?_, h.pendClaims⟩
  · refine List.forall_mem_map.mpr fun E hE => ?_
    by_cases hk : E.id = k
    · rw [if_pos hk]; exact hfresh
    · rw [if_neg hk]; exact h.envFresh E hE
  · refine List.forall_mem_map.mpr fun E hE => ?_
    split <;> exact h.envUsed E hE
  · show ((s.envs.map _).map (fun X : Env => X.id)).Nodup
    rw [map_map_keep fun E => by split <;> rfl]
    exact h.envNodup
  · refine List.forall_mem_map.mpr fun E hE => ?_
    by_cases hk : E.id = k
    · rw [if_pos hk]; exact hh
    · rw [if_neg hk]; exact h.hooksSub E hE
  · refine List.forall_mem_map.mpr fun E1 h1 => List.forall_mem_map.mpr fun E2 h2 => ?_
    by_cases k1 : E1.id = k <;> by_cases k2 : E2.id = k
    · rw [if_pos k1, if_pos k2]; exact fun _ _ hne => absurd (k1.trans k2.symm) hne
    · rw [if_pos k1, if_neg k2]; exact fun _ t2 _ x hx => hfree x hx E2 h2 t2
    · rw [if_neg k1, if_pos k2]; exact fun t1 _ _ x hx hx2 => hfree x hx2 E1 h1 t1 hx
    · rw [if_neg k1, if_neg k2]; exact h.disjoint E1 h1 E2 h2
  · refine List.forall_mem_map.mpr fun E hE => ?_
    by_cases hk : E.id = k
    · rw [if_pos hk]; exact fun _ => hk ▸ hown
    · rw [if_neg hk]; exact h.owned E hE
  · refine fun p hpm hi => List.forall_mem_map.mpr fun E hE => ?_
    split <;> exact h.pendFresh p hpm hi E hE
  · intro p hpm hi
    obtain ⟨E, hE, a1, a2, a3, a4⟩ := h.pendListed p hpm hi
    exact ⟨E, List.mem_map.mpr ⟨E, hE, if_neg (a1 ▸ hp p hpm)⟩, a1, a2, a3, a4⟩

/-- acquireTasks' commit: claimed (unlocked) tasks and newly launched tasks become the
    tasks of the environment being created. -/
theorem inv_acquire (s : State) (k : EnvId) (h : Inv s) (hp : ∀ p ∈ s.creating, p.id ≠ k)
    (cids : List TaskId) (hc : ∀ c ∈ cids, ∃ t ∈ s.roster, t.id = c ∧ t.claimable = true ∧ t.hostOk = true)
    (newTasks : List Task) (n : Nat)
    (hnew : ∀ nt ∈ newTasks, nt.idsOk = true ∧ nt.parent = some k ∧ s.nextTask ≤ nt.id ∧ nt.id < s.nextTask + n)
    (hnd : (newTasks.map (·.id)).Nodup)
    (ids : List TaskId) (hids : ∀ i ∈ ids, i ∈ cids ∨ (s.nextTask ≤ i ∧ i < s.nextTask + n))
    (hooks : List HookRef) (hh : ∀ x ∈ hooks, x.task ∈ ids) (M : List MTask) :
    Inv (setEnv { s with roster := s.roster.map (fun t => if t.id ∈ cids then { t with parent := some k } else t) ++ newTasks,
                         master := M, nextTask := s.nextTask + n } k (fun X => { X with tasks := ids, hooks := hooks })) := by
  -- a claimable task with a hostname is unlocked for want of a parent: no live environment references it
  have cidFree : ∀ c ∈ cids, ∀ E ∈ s.envs, E.tearing = false → c ∉ E.tasks := by
    intro c hcm E hE ht hx
    obtain ⟨t, htm, rfl, hl, hho⟩ := hc c hcm
    simp only [Task.claimable, Bool.and_eq_true, Bool.not_eq_true', decide_eq_true_eq] at hl
    rw [locked_of_parent t (idsOk_of_sound_active t (h.ids t htm) hho hl.1.2) _ (h.owned E hE ht t htm hx)] at hl
    exact Bool.noConfusion hl.1.1
  have h1 : Inv { s with roster := s.roster.map (fun t => if t.id ∈ cids then { t with parent := some k } else t) } := by
    refine inv_of_maps (K := fun _ => False) h _ (fun t => ?_) rfl (.refl h.envNodup) (fun _ _ => id) rfl rfl rfl
    split
    · rename_i hcm
      exact ⟨rfl, sound_congr rfl rfl rfl rfl, Or.inr (cidFree t.id hcm)⟩
    · exact ⟨rfl, id, Or.inl rfl⟩
  refine inv_setTasks (inv_append h1 newTasks n M (fun t ht => ⟨sound_of_idsOk t (hnew t ht).1, (hnew t ht).2.2⟩) hnd)
    k ids hooks hp (fun i hi => ?_) (fun i hi E hE ht hx => ?_) (fun t' ht' hx => ?_) hh
  · rcases hids i hi with hcm | ⟨_, hlt⟩
    · obtain ⟨t, ht, rfl, _⟩ := hc i hcm
      exact Nat.lt_add_right n (h.fresh t ht)
    · exact hlt
  · rcases hids i hi with hcm | ⟨hge, _⟩
    · exact cidFree i hcm E hE ht hx
    · exact absurd (h.envFresh E hE i hx) (Nat.not_lt.mpr hge)
  · rcases List.mem_append.mp ht' with ho | hn
    · obtain ⟨t, ht, rfl⟩ := List.mem_map.mp ho
      split
      · rfl
      · rename_i hnc
        rw [if_neg hnc] at hx
        exact (hids t.id hx).elim (fun hcm => absurd hcm hnc) (fun hr => absurd (h.fresh t ht) (Nat.not_lt.mpr hr.1))
    · exact (hnew t' hn).2.1

theorem claimsOf_nil {s : State} (h : Inv s) (hr : s.reuse = false) {k : EnvId} {p : Pending}
    (hp : s.pending? k true = some p) : claimsOf (dropPending s k) p = [] := by
  unfold claimsOf computeClaims
  rw [h.pendClaims p (pending?_some hp).1, show (dropPending s k).reuse = false from hr]
  rfl

theorem exclusiveTasks_of_inv (s : State) (h : Inv s) : exclusiveTasks (viewOf s) = true := by
  simp only [exclusiveTasks, viewOf, Bool.and_eq_true, List.all_eq_true, List.mem_map, Bool.or_eq_true,
    decide_eq_true_eq, forall_exists_index, and_imp, forall_apply_eq_imp_iff₂]
  -- each clause `a ∨ b` of the predicate read as `¬a → b`
  constructor
  · refine fun E1 hE1 => Decidable.or_iff_not_imp_left.mpr fun t1 E2 hE2 => Decidable.or_iff_not_imp_left.mpr fun h12 x hx => ?_
    exact h.disjoint E1 hE1 E2 hE2 (eq_false_of_ne_true t1) (eq_false_of_ne_true (not_or.mp h12).1) (not_or.mp h12).2 x hx
  · refine fun E hE => Decidable.or_iff_not_imp_left.mpr fun t1 t ht => Decidable.or_iff_not_imp_left.mpr fun hx => ?_
    exact h.owned E hE (eq_false_of_ne_true t1) t ht (Decidable.not_not.mp (not_or.mp hx).1)

end Own
