/-
  Proofs/OwnListed — over whole runs: no roster task is ever parented by an environment that is not listed.

  Every step but two only drops parents or roster entries, adds un-parented entries and keeps every listed environment
  (`Shr`). The two: a teardown that completes deletes the environment only after its ReleaseTasks messages have released
  every task it references (the code's second message names the hook tasks of all weights), and acquireTasks' commit
  parents what it launched to the environment being created, which is listed and is given exactly these tasks.
-/
import ControlModel.Proofs.Own

namespace Own

/-- The converse direction — a task a live environment references carries its id — is `Inv.owned`. -/
def OwnersListed (s : State) : Prop :=
  ∀ t ∈ s.roster, ∀ e, t.parent = some e → ∃ E ∈ s.envs, E.id = e ∧ t.id ∈ E.tasks

/-- The steps of the header's first sentence; they keep `OwnersListed` (`Shr.ol`). -/
structure Shr (s s' : State) : Prop where
  roster : ∀ t' ∈ s'.roster, t'.parent = none ∨ ∃ t ∈ s.roster, t'.id = t.id ∧ t'.parent = t.parent
  envs : ∀ E ∈ s.envs, ∃ E' ∈ s'.envs, E'.id = E.id ∧ E'.tasks = E.tasks

theorem Shr.trans {a b c : State} (h1 : Shr a b) (h2 : Shr b c) : Shr a c := by
  constructor
  · intro t'' ht''
    rcases h2.roster t'' ht'' with h | ⟨t', ht', e1, e2⟩
    · exact Or.inl h
    · rcases h1.roster t' ht' with h | ⟨t, ht, f1, f2⟩
      · left; rw [e2]; exact h
      · exact Or.inr ⟨t, ht, e1.trans f1, e2.trans f2⟩
  · intro E hE
    obtain ⟨E', hE', a1, a2⟩ := h1.envs E hE
    obtain ⟨E'', hE'', b1, b2⟩ := h2.envs E' hE'
    exact ⟨E'', hE'', b1.trans a1, b2.trans a2⟩

theorem Shr.ol {s s' : State} (h : Shr s s') (ho : OwnersListed s) : OwnersListed s' := by
  intro t' ht' e hpe
  rcases h.roster t' ht' with hn | ⟨t, ht, e1, e2⟩
  · rw [hn] at hpe; exact absurd hpe (by simp)
  · obtain ⟨E, hE, hid, hin⟩ := ho t ht e (by rw [← e2]; exact hpe)
    obtain ⟨E', hE', a1, a2⟩ := h.envs E hE
    exact ⟨E', hE', a1.trans hid, by rw [a2, e1]; exact hin⟩

theorem shr_roster_mem {s s' : State} (hr : ∀ t' ∈ s'.roster, t' ∈ s.roster) (he : s'.envs = s.envs) : Shr s s' :=
  ⟨fun t ht => Or.inr ⟨t, hr t ht, rfl, rfl⟩, fun E hE => ⟨E, by rw [he]; exact hE, rfl, rfl⟩⟩

theorem shr_roster_map {s s' : State} (g : Task → Task)
    (hg : ∀ t, (g t).id = t.id ∧ ((g t).parent = t.parent ∨ (g t).parent = none))
    (hr : s'.roster = s.roster.map g) (he : s'.envs = s.envs) : Shr s s' := by
  constructor
  · intro t' ht'
    rw [hr] at ht'
    obtain ⟨t, ht, rfl⟩ := List.mem_map.mp ht'
    rcases (hg t).2 with h | h
    · exact Or.inr ⟨t, ht, (hg t).1, h⟩
    · exact Or.inl h
  · intro E hE; exact ⟨E, by rw [he]; exact hE, rfl, rfl⟩

theorem shr_setEnv (s : State) (k : EnvId) (f : Env → Env) (hf : ∀ X, (f X).id = X.id ∧ (f X).tasks = X.tasks) :
    Shr s (setEnv s k f) := by
  constructor
  · intro t ht; exact Or.inr ⟨t, ht, rfl, rfl⟩
  · intro E hE
    refine ⟨if E.id = k then f E else E, List.mem_map.mpr ⟨E, hE, rfl⟩, ?_, ?_⟩
    · by_cases hk : E.id = k <;> simp [hk, (hf E).1]
    · by_cases hk : E.id = k <;> simp [hk, (hf E).2]

theorem shr_of_sameOwn {s s1 : State} (h : SameOwn s s1) : Shr s s1 := by
  obtain ⟨g, hg, hr⟩ := h.roster
  obtain ⟨f, hf, he⟩ := h.envs
  constructor
  · intro t' ht'
    rw [hr] at ht'
    obtain ⟨t, ht, rfl⟩ := List.mem_map.mp ht'
    exact Or.inr ⟨t, ht, (hg t).1, (hg t).2.1⟩
  · intro E hE
    exact ⟨f E, by rw [he]; exact List.mem_map_of_mem hE, (hf E).1, (hf E).2.1⟩

theorem shr_doKill (s : State) (tk : List Task) (hsub : List.Sublist tk s.roster) : Shr s (doKill s tk) :=
  shr_roster_mem (fun _ ht => mem_doKill_roster hsub ht) rfl

theorem shr_releaseTasks (s : State) (e : EnvId) (ids : List TaskId) : Shr s (releaseTasks s e ids).1 :=
  shr_roster_map (relMap e ids)
    (fun t => have ⟨hid, _, _, hpar⟩ := relMap_props e ids t; ⟨hid, hpar.imp_right And.left⟩) rfl rfl

theorem shr_hostLost (s : State) (h : Host) (agent : Bool) : Shr s (hostLost s h agent) :=
  shr_roster_map (fun t => if t.hitBy agent h then t.lose agent else t)
    (fun t => by
      by_cases hh : t.hitBy agent h
      · simp only [hh, if_true]; exact ⟨lose_id agent t, Or.inl (lose_parent agent t)⟩
      · simp [hh]) rfl rfl

theorem shr_acquireUnlocked (s : State) (k : EnvId) (toRun : List (Nat × RoleSpec)) (o : SettleOracle)
    (hc : s.cfg.detachOnSpot = false) : Shr s (acquireUnlocked s k toRun o) := by
  constructor
  · intro t' ht'
    rcases lockFail_unowned s k toRun o hc t' ht' with ho | ⟨hn, _⟩
    · exact Or.inr ⟨t', ho, rfl, rfl⟩
    · exact Or.inl hn
  · intro E hE; exact ⟨E, hE, rfl, rfl⟩

/-- `hl` is for `release_all'`: without `lastWeightOnly` the second ReleaseTasks message names the hook tasks of all
    weights. -/
theorem ol_teardown (s : State) (k : EnvId) (force late : Bool) (hf : List TaskId) (h : Inv s)
    (hl : s.cfg.lastWeightOnly = false) (ho : OwnersListed s) : OwnersListed (teardown s k force late hf).1 := by
  cases hE : s.env? k with
  | none => rw [teardown_none hE]; exact ho
  | some E =>
    obtain ⟨hEm, rfl⟩ := env?_some hE
    have hhk := h.hooksSub E hEm
    rcases teardown_cases_wf force late hf hE (fun hte => h.owned E hEm hte) hhk with
      ⟨_, e⟩ | ⟨_, _, e⟩ | ⟨_, _, _, e, _⟩ | ⟨hte, _, _, e, _⟩ <;> rw [e]
    · exact ho
    · exact ho
    · -- hung in the rendezvous: the first message, the cancelled calls, the mark
      exact (((shr_releaseTasks s E.id _).trans
        (shr_setEnv _ E.id (fun X => { X with cancelled := X.cancelled + X.pending, pending := 0 }) fun _ => ⟨rfl, rfl⟩)).trans
        (shr_setEnv _ E.id (fun X => { X with tearing := true }) fun _ => ⟨rfl, rfl⟩)).ol ho
    · -- completed: the environment is gone and so is every parent that pointed to it
      obtain ⟨a1, _, _, a5, _⟩ := tdDone_state s E.id E (h.owned E hEm hte) (by simp [hooksOk, hl]) hhk
      intro t' ht' e hpe
      obtain ⟨t, ht, rfl⟩ := List.mem_map.mp (a1 ▸ ht')
      by_cases hin : t.id ∈ E.tasks
      · simp [relAll, hin] at hpe
      · have hrt : relAll E.tasks t = t := if_neg hin
        rw [hrt] at hpe ⊢
        obtain ⟨E1, hE1, hid, hin1⟩ := ho t ht e hpe
        have hne : E1.id ≠ E.id := fun hk1 => hin (List.inj_of_nodup_map h.envNodup hE1 hEm hk1 ▸ hin1)
        exact ⟨E1, a5 E1 hE1 hne, hid, hin1⟩

/-- `hr`: no reuseUnlockedTasks, so nothing is claimed. -/
theorem ol_acquire {s : State} {k : EnvId} {p : Pending} (o : SettleOracle) (hp : s.pending? k true = some p) (h : Inv s)
    (hr : s.reuse = false) (ho : OwnersListed s) : OwnersListed (settleAcq s k p o).s := by
  obtain ⟨E0, hE0, ht0, _⟩ := pending_listed h hp
  have hko := (frame_acquire s k p o).others
  unfold settleAcq at hko ⊢
  rw [claimsOf_nil h hr hp] at hko ⊢
  obtain ⟨f1, _, _, f4, _⟩ := acquire_nil_facts (dropPending s k) k p.spec o
  obtain ⟨hooks, hE⟩ := acquire_env? (dropPending s k) k p.spec [] o
  rw [show (dropPending s k).env? k = some E0 from hE0] at hE
  intro t' ht' e hpe
  rcases f1 t' ht' with hold | ⟨x, hx, hid, hpar, _⟩
  · -- an old entry: its environment is not `k` (whose entry referenced nothing) and is still listed as it was
    obtain ⟨E1, hE1, hid1, hin1⟩ := ho t' hold e hpe
    have hne : E1.id ≠ k := by
      intro hk1
      rw [List.inj_of_nodup_map h.envNodup hE1 (env?_some hE0).1 (hk1.trans (env?_some hE0).2.symm), ht0] at hin1
      exact absurd hin1 List.not_mem_nil
    exact ⟨E1, hko E1 hE1 hne, hid1, hin1⟩
  · obtain rfl : k = e := Option.some.inj (hpar.symm.trans hpe)
    exact ⟨_, (env?_some hE).1, (env?_some hE).2, hid ▸ f4 x hx⟩

/-- The runs `ol_run` is about: no reuseUnlockedTasks, the code's blanket un-parenting after a failed lock loop and its
    release of the DESTROY hook tasks of all weights. -/
def CodeLike (s : State) : Prop := s.reuse = false ∧ s.cfg.detachOnSpot = false ∧ s.cfg.lastWeightOnly = false

theorem CodeLike.of_frame {s s' : State} (h : CodeLike s) (r : Frame0 s s') : CodeLike s' :=
  ⟨r.reuse.trans h.1, r.cfg ▸ h.2.1, r.cfg ▸ h.2.2⟩

/-- What the induction carries: the invariant, that the run is of that kind, the claim. -/
def OL (s : State) : Prop := Inv s ∧ CodeLike s ∧ OwnersListed s

theorem ol_keeps (k : EnvId) : Keeps k OL :=
  have I := inv_keeps k
  have C : Keeps k CodeLike := keeps_of_frame fun f h => h.of_frame f.toFrame0
  { setEnv f hf h := ⟨I.setEnv f hf h.1, C.setEnv f hf h.2.1, (shr_setEnv _ k f (fun X => ⟨(hf X).1, (hf X).2.2.1⟩)).ol h.2.2⟩
    trans E ev fails h := ⟨I.trans E ev fails h.1, C.trans E ev fails h.2.1, (shr_of_sameOwn (sameOwn_applyTrans _ E ev fails)).ol h.2.2⟩
    teardown force late hf hp h := ⟨I.teardown force late hf hp h.1, C.teardown force late hf hp h.2.1,
      ol_teardown _ k force late hf h.1 h.2.1.2.2 h.2.2⟩
    cleanup h := ⟨I.cleanup h.1, C.cleanup h.2.1, (shr_doKill _ _ List.filter_sublist).ol h.2.2⟩
    killTasks ids h := ⟨I.killTasks ids h.1, C.killTasks ids h.2.1, (shr_doKill _ _ List.filter_sublist).ol h.2.2⟩
    lost hh agent h := ⟨I.lost hh agent h.1, C.lost hh agent h.2.1, (shr_hostLost _ hh agent).ol h.2.2⟩
    drop h := ⟨I.drop h.1, C.drop h.2.1, h.2.2⟩
    acquire o hp h := ⟨I.acquire o hp h.1, C.acquire o hp h.2.1, ol_acquire o hp h.1 h.2.1.1 h.2.2⟩
    lockFail toRun o h := ⟨I.lockFail toRun o h.1, C.lockFail toRun o h.2.1, (shr_acquireUnlocked _ k toRun o h.2.1.2.1).ol h.2.2⟩
    crash hr _ h := absurd (h.2.1.1.symm.trans hr) Bool.noConfusion }

theorem ol_steps : KeepsSteps (fun st => st.isClaim = false) OL :=
  have C := steps_of_frame0 (P := CodeLike) fun f h => h.of_frame f
  { env := ol_keeps
    begin k spec hok h := by
      refine ⟨inv_steps.begin k spec hok h.1, C.begin k spec trivial h.2.1, ?_⟩
      obtain ⟨u, c, e⟩ := createBegin_writes _ k spec; rw [e]; exact h.2.2
    clean k h := by
      refine ⟨inv_steps.clean k h.1, C.clean k h.2.1, ?_⟩
      rcases createCleanup_writes _ k with e | ⟨c, e⟩ <;> rw [e]
      · exact h.2.2
      · -- by way of `cleanup _`: unifying the record `{ cleanup _ with creating := c }` with a `doKill _ _` is slow to check
        exact (shr_roster_mem (s := cleanup _) (fun _ ht => ht) rfl).ol ((shr_doKill _ _ List.filter_sublist).ol h.2.2)
    insert {s} k hok h := by
      refine ⟨inv_steps.insert k hok h.1, C.insert k trivial h.2.1, ?_⟩
      rcases createInsert_cases s k with e | e | ⟨p, _, _, e⟩ <;> rw [e]
      · exact h.2.2
      · exact h.2.2
      · exact Shr.ol (s := s) ⟨fun t ht => Or.inr ⟨t, ht, rfl, rfl⟩, fun E hE => ⟨E, List.mem_append_left _ hE, rfl, rfl⟩⟩ h.2.2
    claim _ hok _ := Bool.noConfusion hok
    start k h := by
      refine ⟨inv_steps.start k h.1, C.start k h.2.1, Shr.ol (shr_roster_map _ (fun t => ?_) rfl rfl) h.2.2⟩
      split <;> exact ⟨rfl, Or.inl rfl⟩
    watch k fails h := ⟨inv_steps.watch k fails h.1, C.watch k fails h.2.1, (shr_of_sameOwn (sameOwn_watchError _ k fails)).ol h.2.2⟩
    fault ids h := ⟨inv_steps.fault ids h.1, C.fault ids h.2.1, h.2.2⟩
    status x u h := ⟨inv_steps.status x u h.1, C.status x u h.2.1, Shr.ol (shr_roster_map _
      (fun t => ⟨(statusUpdate_code_entry x u t).1, Or.inl (statusUpdate_code_entry x u t).2.1⟩) rfl rfl) h.2.2⟩ }

theorem ol_run (steps : List Step) (hs : noClaimSteps steps = true) (s : State) (h : Inv s) (hr : s.reuse = false)
    (hd : s.cfg.detachOnSpot = false) (hl : s.cfg.lastWeightOnly = false) (ho : OwnersListed s) :
    OwnersListed (run s steps) :=
  (ol_steps.run steps (noClaimSteps_iff.mp hs) (s := s) ⟨h, ⟨hr, hd, hl⟩, ho⟩).2.2

end Own
