/-
  Proofs/OwnLock — a deployment that fails in acquireTasks' own tail: everything was launched, a new task cannot be
  locked (Model/Own, section "a deployment that fails in acquireTasks' own tail").

  The code un-parents everything the failed lock loop launched, so the failure tail of the creation — which finds no task
  of the environment to release or kill — leaves the environment clean all the same: the tasks sit unowned in the roster,
  where the next Cleanup reaches every one of them.
-/
import ControlModel.Proofs.Own

namespace Own

theorem killTasks_nil (s : State) : (killTasks s []).roster = s.roster ∧ (killTasks s []).master = s.master := by
  have none : ∀ l : List Task, l.filter (fun _ => false) = [] := fun l => List.filter_eq_nil_iff.mpr (by simp)
  have all : ∀ l : List Task, l.filter (fun _ => true) = l := fun l => List.filter_eq_self.mpr (by simp)
  simp [killTasks, doKill, killMany, none, all]

theorem hooksOk_nil (s : State) : hooksOk s [] = true := by
  simp [hooksOk, hooksReleasable, singleWeight, weightsOf, effHooks]

/-- A launched task can be locked iff the offer for its host carried a hostname. -/
theorem launched_locked (s : State) (k : EnvId) (toRun : List (Nat × RoleSpec)) (o : SettleOracle) :
    ∀ t ∈ launchedTasks s k toRun o, t.fields.locked = decide (t.host ∉ blankHosts s o) := by
  intro t ht
  obtain ⟨x, _, rfl⟩ := List.mem_map.mp ht
  simp [Task.fields, TaskIds.Fields.locked]

/-- `hhosts`: every wanted host made an offer; `hnc`: the process does not die at a complete claim (legacy). The failure
    tail of CreateEnvironment then has NO task of the environment to release or kill. -/
theorem createSettle_lockFail (s : State) (k : EnvId) (o : SettleOracle) (p : Pending) (hp : s.pending? k true = some p)
    (hhosts : ∀ d ∈ descriptors p.spec, d.2.host ∈ s.hosts)
    (hnc : s.reuse = false ∨ s.cfg.unlockUnpaired = false)
    (hlf : lockFailure (launchedTasks (dropPending s k) k (settleToRun s k p) o) = true) :
    createSettle s k o = createFail (acquireUnlocked (dropPending s k) k (settleToRun s k p) o) k [] o.late .errDeploy := by
  unfold settleToRun at hlf ⊢
  unfold createSettle
  rw [hp]
  simp only []
  have h1 : ((descriptors p.spec).any fun d => decide (d.2.host ∉ (dropPending s k).hosts)) = false := by
    rw [List.any_eq_false]; intro d hd
    have : d.2.host ∈ (dropPending s k).hosts := hhosts d hd
    simpa using this
  have h2 : ((dropPending s k).reuse && (dropPending s k).cfg.unlockUnpaired) = false := by
    show (s.reuse && s.cfg.unlockUnpaired) = false
    rcases hnc with h | h <;> simp [h]
  simp only [h1, h2, hlf, Bool.false_and, Bool.false_eq_true, if_false, if_true]

theorem lockFail_rows (s : State) (k : EnvId) (toRun : List (Nat × RoleSpec)) (o : SettleOracle)
    (hc : s.cfg.detachOnSpot = false) :
    ∀ m ∈ (acquireUnlocked s k toRun o).master, m ∈ s.master ∨
      ∃ t ∈ (acquireUnlocked s k toRun o).roster, t.id = m.id ∧ t.parent = none := by
  intro m hm
  rcases List.mem_append.mp hm with ho | hn
  · exact Or.inl ho
  · obtain ⟨x, hx, rfl⟩ := List.mem_map.mp hn
    have : x.2.2 ∈ ((launchedTasks s k toRun o).map (Task.afterLockFailure s.cfg)).map (·.id) := by
      rw [acquireUnlocked_new_ids]; exact List.mem_map.mpr ⟨x, hx, rfl⟩
    obtain ⟨t, ht, hid⟩ := List.mem_map.mp this
    obtain ⟨t0, _, rfl⟩ := List.mem_map.mp ht
    exact Or.inr ⟨_, List.mem_append_right _ ht, hid, afterLockFailure_code s.cfg hc t0⟩

/-- The hypotheses describe where every inserted creation finds itself: nothing refers to `k` yet (`freshEnv`), `k` is
    listed without tasks. `hnh` holds in the code as it is (`settle_lockFail_not_hang`). -/
theorem lockFail_clean (s : State) (k : EnvId) (toRun : List (Nat × RoleSpec)) (o : SettleOracle)
    (late : Bool) (res : Res) (hf : List TaskId) (E0 : Env)
    (hc : s.cfg.detachOnSpot = false) (hfr : freshEnv s k = true)
    (hE0 : s.env? k = some E0) (ht0 : E0.tasks = []) (hh0 : E0.hooks = []) (hte : E0.tearing = false)
    (hnh : (createFail (acquireUnlocked s k toRun o) k [] late res hf).2 ≠ .hang) :
    cleanAfter k false (viewOf (createFail (acquireUnlocked s k toRun o) k [] late res hf).1) = true := by
  obtain ⟨g1, g2, g3, g4⟩ := freshEnv_iff.mp hfr
  -- the environment references nothing: a completed teardown has released nothing, and KillTasks kills nothing
  obtain ⟨D, hD, e⟩ := createFail_done (s := acquireUnlocked s k toRun o) hE0 hte
    (fun t _ hin => absurd (ht0 ▸ hin) List.not_mem_nil) (fun h hh => absurd (hh0 ▸ hh) List.not_mem_nil)
    (hh0 ▸ hooksOk_nil _) [] late res hf hnh
  rw [e]
  obtain ⟨k1, k2⟩ := killTasks_nil D
  have hro : D.roster = (acquireUnlocked s k toRun o).roster := by
    rw [hD.roster, show ({ E0 with state := .ERROR } : Env).tasks = [] from ht0]
    exact (List.map_congr_left (g := id) fun _ _ => if_neg List.not_mem_nil).trans (List.map_id _)
  refine clean_frame _ D _ k false _ hD g3 (fun X hX => ?_) rfl rfl (fun t ht => ?_) (fun _ m hm => ?_)
  · -- the entry of `k` after GO_ERROR has the counters of the listed entry
    obtain ⟨Y, hY, rfl⟩ := List.mem_map.mp hX
    split <;> exact g4 Y hY
  · rcases lockFail_unowned s k toRun o hc t (hro ▸ k1 ▸ ht) with ho | ⟨hn, _⟩
    · exact g1 t ho
    · rw [hn]; exact fun e => nomatch e
  · rcases lockFail_rows s k toRun o hc m (hD.master ▸ k2 ▸ hm) with ho | ⟨t, ht, hid, hp⟩
    · exact Or.inl (g2 m ho)
    · exact Or.inr (Or.inr (Or.inr ⟨t, k1 ▸ hro ▸ ht, hid, hp⟩))

/-- What the failed lock loop appended is unlocked, so the next `cleanup` takes it out of the roster (with a KILL call
    if the core believes it ACTIVE). -/
theorem lockFail_next_cleanup (s : State) (k : EnvId) (toRun : List (Nat × RoleSpec)) (o : SettleOracle)
    (hc : s.cfg.detachOnSpot = false) (s' : State) (hr : s'.roster = (acquireUnlocked s k toRun o).roster)
    (href : s'.refusing = []) :
    ∀ t ∈ (cleanup s').roster, t ∈ s.roster ∧ t.isLocked = true := by
  intro t ht
  unfold cleanup at ht
  rw [doKill_roster] at ht
  rcases List.mem_append.mp ht with h | h
  · -- not swept: it is locked, so none of the appended entries
    obtain ⟨htm, hnot⟩ := List.mem_filter.mp h
    have hl : t.isLocked = true := by
      cases hl : t.isLocked
      · exact absurd (List.mem_map.mpr ⟨t, List.mem_filter.mpr ⟨htm, by simp [hl]⟩, rfl⟩) (of_decide_eq_true hnot)
      · rfl
    rcases lockFail_unowned s k toRun o hc t (hr ▸ htm) with ho | ⟨_, hu, _⟩
    · exact ⟨ho, hl⟩
    · rw [hl] at hu; exact Bool.noConfusion hu
  · -- put back: no KILL call fails
    exact absurd (mem_doKill_back h).2.2 (href ▸ List.not_mem_nil)

theorem cleanAfter_parent {s : State} {k : EnvId} {keep : Bool} (h : cleanAfter k keep (viewOf s) = true) :
    ∀ t ∈ s.roster, t.parent ≠ some k := by
  simp only [cleanAfter, viewOf, Bool.and_eq_true, List.all_eq_true, decide_eq_true_eq] at h
  exact fun t ht => h.1.1.1.2 _ (List.mem_map.mpr ⟨t, ht, rfl⟩)

theorem settle_lockFail_clean (s : State) (h : Inv s) (hc : s.cfg.detachOnSpot = false)
    (k : EnvId) (o : SettleOracle) (p : Pending) (hp : s.pending? k true = some p) (hfr : freshEnv s k = true)
    (hhosts : ∀ d ∈ descriptors p.spec, d.2.host ∈ s.hosts) (hnc : s.reuse = false ∨ s.cfg.unlockUnpaired = false)
    (hlf : lockFailure (launchedTasks (dropPending s k) k (settleToRun s k p) o) = true)
    (hnh : (createSettle s k o).2 ≠ .hang) :
    (createSettle s k o).2 = .errDeploy ∧ cleanAfter k false (viewOf (createSettle s k o).1) = true ∧
    (∀ t ∈ (createSettle s k o).1.roster, t.parent ≠ some k) := by
  obtain ⟨E0, hE0, hE0t, hE0h, hE0te⟩ := pending_listed h hp
  rw [createSettle_lockFail s k o p hp hhosts hnc hlf] at hnh ⊢
  have hcl := lockFail_clean (dropPending s k) k _ o o.late .errDeploy [] E0 hc hfr hE0 hE0t hE0h hE0te hnh
  exact ⟨(createFail_res _ k [] o.late .errDeploy []).resolve_left hnh, hcl, cleanAfter_parent hcl⟩

/-- `lateDelete = false` is the code as it is: no late delete of the pending-teardown entry. -/
theorem settle_lockFail_not_hang (s : State) (h : Inv s) (hl : s.cfg.lateDelete = false)
    (k : EnvId) (o : SettleOracle) (p : Pending) (hp : s.pending? k true = some p)
    (hhosts : ∀ d ∈ descriptors p.spec, d.2.host ∈ s.hosts) (hnc : s.reuse = false ∨ s.cfg.unlockUnpaired = false)
    (hlf : lockFailure (launchedTasks (dropPending s k) k (settleToRun s k p) o) = true) :
    (createSettle s k o).2 ≠ .hang := by
  obtain ⟨E0, hE0, _, _, hE0te⟩ := pending_listed h hp
  rw [createSettle_lockFail s k o p hp hhosts hnc hlf]
  refine createFail_not_hang _ k [] o.late .errDeploy [] (fun E hE => ?_) ?_ Res.noConfusion
  · obtain rfl := Option.some.inj (hE0.symm.trans hE); exact hE0te
  · show (o.late && s.cfg.lateDelete) = false
    simp [hl]

end Own
