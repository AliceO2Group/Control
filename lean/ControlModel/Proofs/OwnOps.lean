/-
  Proofs/OwnOps — what the operations of Model/Own do, for every state (no invariant is assumed).

  What an elementary update does to a roster entry (`stateMap_entry`, `lose_id` … `lose_isLocked`, `relMap_props`,
  `statusUpdate_code_entry`, `afterLockFailure_props`) and to the roster (`doKill_roster`, `cleanupTasks_doKill`); an
  operation branch by branch: `teardown_cases` (with `tdFirst` … `tdDone` naming the messages and end states; under "the
  environment's tasks are parented by it" the two release-error branches vanish: `teardown_cases_wf`), `watchError_cases`,
  `createInsert_cases`, `settleDeploy_cases`, `destroy_cases` (`Prep`: what DestroyEnvironment does before it tears down);
  `createSettle` as the critical sections of the creation run one after the other (`settle_pieces`); the ids acquireTasks
  hands out (`assignNew_…`, `acquire_nil_facts`).
-/
import ControlModel.Proofs.OwnBasic

namespace Own

theorem doKill_roster (s : State) (tk : List Task) :
    (doKill s tk).roster = s.roster.filter (fun t => decide (t.id ∉ tk.map (·.id)))
      ++ (tk.filter (·.active)).filter (fun t => decide (t.id ∈ s.refusing)) := rfl

theorem mem_doKill_back {s : State} {tk : List Task} {t : Task}
    (ht : t ∈ (tk.filter (·.active)).filter (fun t => decide (t.id ∈ s.refusing))) :
    t ∈ tk ∧ t.active = true ∧ t.id ∈ s.refusing := by
  obtain ⟨h1, h2⟩ := List.mem_filter.mp ht
  obtain ⟨h3, h4⟩ := List.mem_filter.mp h1
  exact ⟨h3, h4, by simpa using h2⟩

theorem mem_doKill_roster {s : State} {tk : List Task} (hsub : List.Sublist tk s.roster) {t : Task}
    (ht : t ∈ (doKill s tk).roster) : t ∈ s.roster := by
  rw [doKill_roster] at ht
  rcases List.mem_append.mp ht with h | h
  · exact (List.mem_filter.mp h).1
  · exact hsub.subset (mem_doKill_back h).1

theorem doKill_roster_nodup (s : State) (tk : List Task) (hsub : List.Sublist tk s.roster)
    (hnd : (s.roster.map (·.id)).Nodup) : ((doKill s tk).roster.map (·.id)).Nodup := by
  rw [doKill_roster, List.map_append]
  refine List.nodup_append.mpr ⟨?_, ?_, ?_⟩
  · exact hnd.sublist (List.Sublist.map _ (List.filter_sublist))
  · exact hnd.sublist (List.Sublist.map _ ((List.filter_sublist).trans ((List.filter_sublist).trans hsub)))
  · intro a ha b hb hab
    obtain ⟨x, hx, rfl⟩ := List.mem_map.mp ha
    obtain ⟨y, hy, rfl⟩ := List.mem_map.mp hb
    have hx2 := (List.mem_filter.mp hx).2
    simp only [decide_eq_true_eq] at hx2
    apply hx2
    rw [hab]
    exact List.mem_map_of_mem (mem_doKill_back hy).1

theorem cleanup_unlocked (s : State) : ∀ t ∈ s.roster.filter (fun t => !t.isLocked), t.isLocked = false :=
  fun t ht => by simpa using (List.mem_filter.mp ht).2

theorem killTasks_unlocked (s : State) (ids : List TaskId) :
    ∀ t ∈ s.roster.filter (fun t => !t.isLocked && decide (t.id ∈ ids)), t.isLocked = false := by
  intro t ht
  have := (List.mem_filter.mp ht).2
  simp only [Bool.and_eq_true, Bool.not_eq_true'] at this
  exact this.1

/-- doCleanupTasks is doKillTasks on some unlocked roster entries, among them every unlocked entry that `ids` names;
    its error is that call's. -/
theorem cleanupTasks_doKill (s : State) (ids : List TaskId) :
    ∃ tk, cleanupTasks s ids = doKill s tk ∧ tk.Sublist s.roster ∧ (∀ t ∈ tk, t.isLocked = false) ∧
      (∀ t ∈ s.roster, t.isLocked = false → t.id ∈ ids → t ∈ tk) ∧ cleanupTasksErr s ids = killErr s tk := by
  unfold cleanupTasks cleanupTasksErr
  by_cases h : ids = []
  · rw [if_pos h, if_pos h]
    exact ⟨_, rfl, List.filter_sublist, cleanup_unlocked s, fun t ht hl _ => List.mem_filter.mpr ⟨ht, by simp [hl]⟩, rfl⟩
  · rw [if_neg h, if_neg h]
    exact ⟨_, rfl, List.filter_sublist, killTasks_unlocked s ids,
      fun t ht hl hin => List.mem_filter.mpr ⟨ht, by simp [hl, hin]⟩, rfl⟩

theorem cleanupTasks_creating (s : State) (ids : List TaskId) : (cleanupTasks s ids).creating = s.creating := by
  unfold cleanupTasks; split <;> rfl

theorem killLog_doKill (s : State) (tk : List Task) :
    (doKill s tk).killLog = s.killLog ++ (tk.filter (·.active)).map (fun t => (t.id, t.owner)) := rfl

theorem doKill_master_mem (s : State) (tk : List Task) (m : MTask) (hm : m ∈ s.master)
    (hno : ∀ u ∈ tk, u.active = true → u.id ∉ s.refusing → u.id ≠ m.id) : m ∈ (doKill s tk).master := by
  refine List.mem_map.mpr ⟨m, hm, if_neg fun hin => ?_⟩
  obtain ⟨u, hu, hue⟩ := List.mem_map.mp hin
  obtain ⟨hu1, hu2⟩ := List.mem_filter.mp hu
  exact hno u (List.mem_filter.mp hu1).1 (List.mem_filter.mp hu1).2 (of_decide_eq_true hu2) hue

theorem locked_survives_doKill (s : State) (tk : List Task) (hsub : ∀ u ∈ tk, u ∈ s.roster ∧ u.isLocked = false)
    (hnd : (s.roster.map (·.id)).Nodup) (t : Task) (ht : t ∈ s.roster) (hl : t.isLocked = true) :
    t ∈ (doKill s tk).roster ∧ (∀ m ∈ s.master, m.id = t.id → m ∈ (doKill s tk).master) ∧
    (∀ e ∈ (doKill s tk).killLog, e ∈ s.killLog ∨ e.1 ≠ t.id) := by
  have hnot : ∀ u ∈ tk, u.id ≠ t.id := by
    intro u hu hid
    have : u = t := List.inj_of_nodup_map hnd (hsub u hu).1 ht hid
    subst this
    rw [(hsub u hu).2] at hl
    exact Bool.noConfusion hl
  refine ⟨?_, ?_, ?_⟩
  · rw [doKill_roster]
    refine List.mem_append.mpr (Or.inl (List.mem_filter.mpr ⟨ht, ?_⟩))
    simp only [decide_eq_true_eq, List.mem_map, not_exists, not_and]
    intro u hu hid
    exact hnot u hu hid
  · exact fun m hm hid => doKill_master_mem s tk m hm (fun u hu _ _ hue => hnot u hu (hue.trans hid))
  · intro e he
    rcases List.mem_append.mp (killLog_doKill s tk ▸ he) with he | he
    · exact Or.inl he
    · obtain ⟨u, hu, rfl⟩ := List.mem_map.mp he
      exact Or.inr (hnot u (List.mem_filter.mp hu).1)

theorem locked_survives_cleanupTasks (s : State) (ids : List TaskId) (hnd : (s.roster.map (·.id)).Nodup)
    (t : Task) (ht : t ∈ s.roster) (hl : t.isLocked = true) :
    t ∈ (cleanupTasks s ids).roster ∧ (∀ m ∈ s.master, m.id = t.id → m ∈ (cleanupTasks s ids).master) ∧
    (∀ e ∈ (cleanupTasks s ids).killLog, e ∈ s.killLog ∨ e.1 ≠ t.id) := by
  obtain ⟨tk, e, hsub, hu, _⟩ := cleanupTasks_doKill s ids
  rw [e]
  exact locked_survives_doKill s tk (fun u hu' => ⟨hsub.subset hu', hu u hu'⟩) hnd t ht hl

theorem setEnv_envs (s : State) (k : EnvId) (f : Env → Env) :
    (setEnv s k f).envs = s.envs.map (fun E => if E.id = k then f E else E) := rfl

/-- A command sent to the roster entries `sel` picks: an entry goes to `dst`, or to ERROR if it answers with an error
    that ends it there, or stays where it is (`applyTrans`, the watcher's STOP). -/
def stateMap (sel : Task → Bool) (dst : TState) (fails : List (TaskId × Bool)) (t : Task) : Task :=
  if sel t then
    match fails.lookup t.id with
    | some true => { t with state := .ERROR }
    | some false => t
    | none => { t with state := dst }
  else t

theorem stateMap_entry (sel : Task → Bool) (dst : TState) (fails : List (TaskId × Bool)) (t : Task) :
    ∃ st, stateMap sel dst fails t = { t with state := st } := by
  unfold stateMap
  split
  · split
    · exact ⟨_, rfl⟩
    · exact ⟨t.state, rfl⟩
    · exact ⟨_, rfl⟩
  · exact ⟨t.state, rfl⟩

theorem applyTrans_fst (s : State) (E : Env) (ev : CEv) (fails : List (TaskId × Bool)) :
    (applyTrans s E ev fails).1 = { s with roster := s.roster.map (stateMap (isTarget E) (taskDst ev) fails) } := rfl

theorem onStatus_code (u : StatusUpd) (t : Task) (ha : t.agent = true) (he : t.executor = true) :
    t.onStatus TaskIds.codeGuards u = if u.running then { t with active := true } else t := by
  unfold Task.onStatus
  split
  · have h1 : TaskIds.copyId TaskIds.codeGuards.agent t.agent u.agent = t.agent := by
      rw [ha]; exact TaskIds.copyId_guarded _ _ rfl
    have h2 : TaskIds.copyId TaskIds.codeGuards.executor t.executor u.executor = t.executor := by
      rw [he]; exact TaskIds.copyId_guarded _ _ rfl
    rw [h1, h2]
  · rfl

theorem statusUpdate_code_entry (x : TaskId) (u : StatusUpd) (t : Task) :
    let t' := if decide (t.id = x) && t.agent && t.executor then t.onStatus TaskIds.codeGuards u else t
    t'.id = t.id ∧ t'.parent = t.parent ∧ t'.idsOk = t.idsOk ∧ t'.isLocked = t.isLocked ∧ t'.owner = t.owner ∧
    t'.state = t.state ∧ t'.cls = t.cls ∧ t'.host = t.host ∧ (t.sound → t'.sound) ∧ (t.active = true → t'.active = true) := by
  simp only []
  split
  · rename_i hc
    simp only [Bool.and_eq_true, decide_eq_true_eq] at hc
    rw [onStatus_code u t hc.1.2 hc.2]
    split
    · exact ⟨rfl, rfl, rfl, rfl, rfl, rfl, rfl, rfl, fun hs => ⟨hs.1, fun _ => ⟨hc.1.2, hc.2⟩⟩, fun _ => rfl⟩
    · exact ⟨rfl, rfl, rfl, rfl, rfl, rfl, rfl, rfl, id, id⟩
  · exact ⟨rfl, rfl, rfl, rfl, rfl, rfl, rfl, rfl, id, id⟩

theorem view_statusUpdate (s : State) (x : TaskId) (u : StatusUpd) :
    viewOf (statusUpdate TaskIds.codeGuards s x u) = viewOf s := by
  unfold viewOf
  congr 1
  show (s.roster.map _).map _ = _
  rw [List.map_map]
  refine List.map_congr_left fun t _ => ?_
  obtain ⟨hid, hpar, _, hlk, _, hst, _⟩ := statusUpdate_code_entry x u t
  simp only [Function.comp]
  rw [hid, hpar, hlk, hst]

theorem isLocked_fields (t : Task) : t.isLocked = t.fields.locked := by
  simp [Task.isLocked, Task.idsOk, Task.fields, TaskIds.Fields.locked, Bool.and_assoc]

theorem onStatus_fields (g : TaskIds.Guards) (u : StatusUpd) (t : Task) :
    (t.onStatus g u).fields = TaskIds.onStatus g u.kind u.carried t.fields := by
  unfold Task.onStatus StatusUpd.kind StatusUpd.carried
  cases hr : u.running <;> simp [Task.fields, TaskIds.onStatus]

theorem isLocked_onStatus (g : TaskIds.Guards) (u : StatusUpd) (t : Task) (h : t.isLocked = true) :
    (t.onStatus g u).isLocked = !TaskIds.unlocks g u.kind u.carried := by
  rw [isLocked_fields, onStatus_fields]
  exact TaskIds.locked_onStatus g _ _ _ (by rw [← isLocked_fields]; exact h)

/-- `StatusUpd.complete`: both optional fields present, what the AliECS executor sends. -/
theorem onStatus_complete (g : TaskIds.Guards) (r : Bool) (t : Task) :
    t.onStatus g (StatusUpd.complete r) = t.onStatus TaskIds.codeGuards (StatusUpd.complete r) := by
  unfold Task.onStatus StatusUpd.complete
  simp only [TaskIds.copyId_carried]

theorem lose_id (agent : Bool) (t : Task) : (t.lose agent).id = t.id := by cases agent <;> rfl

theorem lose_parent (agent : Bool) (t : Task) : (t.lose agent).parent = t.parent := by cases agent <;> rfl

theorem lose_host (agent : Bool) (t : Task) : (t.lose agent).host = t.host := by cases agent <;> rfl

theorem lose_active (agent : Bool) (t : Task) : (t.lose agent).active = false := by cases agent <;> rfl

theorem lose_sound (agent : Bool) (t : Task) (hs : t.sound) : (t.lose agent).sound :=
  ⟨by cases agent <;> exact hs.1, fun ha => Bool.noConfusion ((lose_active agent t).symm.trans ha)⟩

/-- "causes IsLocked() to become false for sure". -/
theorem lose_isLocked (agent : Bool) (t : Task) : (t.lose agent).isLocked = false := by
  cases agent <;> simp [Task.lose, Task.isLocked, Task.idsOk]

theorem hostLost_roster (s : State) (h : Host) (agent : Bool) :
    (hostLost s h agent).roster = s.roster.map (fun t => if t.hitBy agent h then t.lose agent else t) := rfl

theorem lostAll_nil (s : State) : lostAll s [] = s := rfl

theorem lostAll_cons (s : State) (l : Host × Bool) (ls : List (Host × Bool)) :
    lostAll s (l :: ls) = lostAll (hostLost s l.1 l.2) ls := rfl

theorem watchError_cases (s : State) (k : EnvId) (fails : List (TaskId × Bool)) :
    watchError s k fails = s ∨ ∃ E, s.env? k = some E ∧ watchError s k fails =
      setEnv { s with roster := s.roster.map (stateMap
        (fun t => decide (t.id ∈ E.tasks) && decide (t.parent = some E.id) && decide (t.state = .RUNNING)) .CONFIGURED fails) }
        k (fun X => { X with state := .ERROR }) := by
  fun_cases watchError s k fails with
  | case1 | case2 => exact Or.inl rfl
  | case3 E hE => exact Or.inr ⟨E, hE, rfl⟩

theorem releaseTask_props (e : EnvId) (t : Task) :
    (releaseTask e t).1.id = t.id ∧ (t.sound → (releaseTask e t).1.sound) ∧ (releaseTask e t).1.active = t.active ∧
    ((releaseTask e t).1.parent = t.parent ∨ (releaseTask e t).1.parent = none) := by
  unfold releaseTask; split
  · exact ⟨rfl, sound_congr rfl rfl rfl rfl, rfl, Or.inr rfl⟩
  · exact ⟨rfl, id, rfl, Or.inl rfl⟩

theorem releaseOk_of_parent (e : EnvId) (t : Task) (h : t.parent = some e ∨ t.parent = none) : releaseOk e t = true := by
  rcases h with h | h <;> simp [releaseOk, Task.isLocked, h]

theorem releaseTasks_errs_zero (s : State) (e : EnvId) (ids : List TaskId)
    (h : ∀ t ∈ s.roster, t.id ∈ ids → (t.parent = some e ∨ t.parent = none)) : (releaseTasks s e ids).2 = 0 := by
  simp only [releaseTasks, List.length_eq_zero_iff, List.filter_eq_nil_iff]
  intro t ht
  by_cases hi : t.id ∈ ids
  · simp [hi, releaseOk_of_parent e t (h t ht hi)]
  · simp [hi]

theorem hooksAt_sub (hs : List HookRef) (w : Int) : ∀ x ∈ hooksAt hs w, ∃ h ∈ hs, h.task = x := by
  intro x hx
  obtain ⟨h, hh, rfl⟩ := List.mem_map.mp hx
  split at hh <;> exact ⟨h, (List.mem_filter.mp hh).1, rfl⟩

theorem tdPlain_sub (E : Env) : ∀ x ∈ tdPlain E, x ∈ E.tasks :=
  fun _ hx => (List.mem_filter.mp hx).1

theorem effHooks_sub (hs : List HookRef) : ∀ x ∈ effHooks hs, ∃ h ∈ hs, h.task = x := by
  intro x hx
  obtain ⟨w, _, hw⟩ := List.mem_flatMap.mp hx
  exact hooksAt_sub hs w x hw

theorem tdMsg_sub (s1 : State) (E : Env) (hh : ∀ h ∈ E.hooks, h.task ∈ E.tasks) : ∀ x ∈ tdMsg s1 E, x ∈ E.tasks := by
  intro x hx
  unfold tdMsg at hx
  split at hx
  · obtain ⟨h, hh', rfl⟩ := effHooks_sub E.hooks x hx
    exact hh h hh'
  split at hx
  · exact tdPlain_sub E x hx
  · obtain ⟨h, hh', rfl⟩ := hooksAt_sub E.hooks _ x (List.mem_filter.mp hx).1
    exact hh h hh'

/-- The roster after a ReleaseTasks message, as a map. -/
def relMap (e : EnvId) (ids : List TaskId) (t : Task) : Task := if t.id ∈ ids then (releaseTask e t).1 else t

theorem releaseTasks_roster (s : State) (e : EnvId) (ids : List TaskId) :
    (releaseTasks s e ids).1.roster = s.roster.map (relMap e ids) := rfl

theorem releaseTasks_creating (s : State) (e : EnvId) (ids : List TaskId) :
    (releaseTasks s e ids).1.creating = s.creating := rfl

theorem relMap_props (e : EnvId) (ids : List TaskId) (t : Task) :
    (relMap e ids t).id = t.id ∧ (t.sound → (relMap e ids t).sound) ∧ (relMap e ids t).active = t.active ∧
    ((relMap e ids t).parent = t.parent ∨ ((relMap e ids t).parent = none ∧ t.id ∈ ids)) := by
  unfold relMap
  split
  · rename_i h
    obtain ⟨a, b, c, d⟩ := releaseTask_props e t
    exact ⟨a, b, c, d.elim Or.inl (fun d => Or.inr ⟨d, h⟩)⟩
  · exact ⟨rfl, id, rfl, Or.inl rfl⟩

theorem relMap_foreign (e : EnvId) (ids : List TaskId) (t : Task) (hl : t.isLocked = true) (hp : t.parent ≠ some e) :
    relMap e ids t = t := by
  unfold relMap releaseTask
  split
  · rw [if_neg (by simp [releaseOk, hl, hp])]
  · rfl

/-- The first ReleaseTasks message of a teardown of `E`, listed under `k`: every task the merged hook map does not name. -/
def tdFirst (s : State) (k : EnvId) (E : Env) : State × Nat := releaseTasks s k (tdPlain E)

/-- The second, for the hook tasks, once the hooks have run and the pending calls are cancelled. -/
def tdSecond (s : State) (k : EnvId) (E : Env) : State × Nat :=
  releaseTasks (tdCancel (tdFirst s k E).1 k E) k (tdMsg (tdFirst s k E).1 E)

/-- What the teardown leaves when it hangs in the rendezvous, before the second message: the environment marked. -/
def tdHung (s : State) (k : EnvId) (E : Env) : State :=
  setEnv (tdCancel (tdFirst s k E).1 k E) k (fun X => { X with tearing := true })

/-- … and when it completes: the environment deleted, its call counters kept in `dead`. -/
def tdDone (s : State) (k : EnvId) (E : Env) : State :=
  { (tdSecond s k E).1 with
      envs := (tdSecond s k E).1.envs.filter (fun X => decide (X.id ≠ k)),
      dead := (tdSecond s k E).1.dead ++
        ((tdSecond s k E).1.envs.filter (fun X => decide (X.id = k))).map (fun X => (X.id, X.started, X.cancelled)) }

/-- A teardown, branch by branch: not found; refused (an earlier teardown hangs in the environment, it is DONE, or its
    state wants `force`); the first ReleaseTasks message met a release error; the call hangs in the rendezvous; the
    second message met a release error; completed. -/
theorem teardown_cases (s : State) (k : EnvId) (force late : Bool) (hf : List TaskId) :
    (s.env? k = none ∧ teardown s k force late hf = (s, .notfound, [])) ∨
    ∃ E, s.env? k = some E ∧
      ((E.tearing = true ∧ teardown s k force late hf = (s, .hang, [])) ∨
       (E.tearing = false ∧ (E.state = .DONE ∨ force = false) ∧ teardown s k force late hf = (s, .err, [])) ∨
       (E.tearing = false ∧ 0 < (tdFirst s k E).2 ∧
          teardown s k force late hf = ((tdFirst s k E).1, .err, [.release (tdPlain E)])) ∨
       (E.tearing = false ∧ E.state ≠ .DONE ∧ (tdFirst s k E).2 = 0 ∧
         (((late && s.cfg.lateDelete) = true ∧
            teardown s k force late hf = (tdHung s k E, .hang, tdTrace (tdFirst s k E).1 E)) ∨
          ((late && s.cfg.lateDelete) = false ∧ 0 < (tdSecond s k E).2 ∧
            teardown s k force late hf = ((tdSecond s k E).1, .err,
              tdTrace (tdFirst s k E).1 E ++ [.release (tdMsg (tdFirst s k E).1 E)])) ∨
          ((late && s.cfg.lateDelete) = false ∧ (tdSecond s k E).2 = 0 ∧
            teardown s k force late hf = (tdDone s k E, if tdHookErr (tdFirst s k E).1 E hf then .doneErr else .ok,
              tdTrace (tdFirst s k E).1 E ++ [.release (tdMsg (tdFirst s k E).1 E)]))))) := by
  fun_cases teardown s k force late hf with
  | case1 hE => exact Or.inl ⟨hE, rfl⟩
  | case2 E hE hte => exact Or.inr ⟨E, hE, Or.inl ⟨hte, rfl⟩⟩
  | case3 E hE hte hd => exact Or.inr ⟨E, hE, Or.inr (Or.inl ⟨eq_false_of_ne_true hte, Or.inl hd, rfl⟩)⟩
  | case4 E hE hte _ hr =>
    simp only [Bool.and_eq_true, Bool.not_eq_true'] at hr
    exact Or.inr ⟨E, hE, Or.inr (Or.inl ⟨eq_false_of_ne_true hte, Or.inr hr.2, rfl⟩)⟩
  | case5 E hE hte _ _ _ h1 => exact Or.inr ⟨E, hE, Or.inr (Or.inr (Or.inl ⟨eq_false_of_ne_true hte, h1, rfl⟩))⟩
  | case6 E hE hte hd _ _ h1 =>
    refine Or.inr ⟨E, hE, Or.inr (Or.inr (Or.inr ⟨eq_false_of_ne_true hte, hd, Nat.eq_zero_of_not_pos h1, ?_⟩))⟩
    fun_cases tdFinish (tdFirst s k E).1 k E (late && s.cfg.lateDelete) hf with
    | case1 _ _ hl => exact Or.inl ⟨hl, rfl⟩
    | case2 _ _ hl _ _ h2 => exact Or.inr (Or.inl ⟨eq_false_of_ne_true hl, h2, rfl⟩)
    | case3 _ _ hl _ _ h2 => exact Or.inr (Or.inr ⟨eq_false_of_ne_true hl, Nat.eq_zero_of_not_pos h2, rfl⟩)

theorem teardown_none {s : State} {k : EnvId} (h : s.env? k = none) (force late : Bool) (hf : List TaskId) :
    teardown s k force late hf = (s, .notfound, []) := by
  unfold teardown; rw [h]

/-- The second message finds each task still `k`'s or already released. -/
theorem teardown_releases {s : State} {k : EnvId} {E : Env}
    (hpar : ∀ t ∈ s.roster, t.id ∈ E.tasks → t.parent = some k) (hhk : ∀ h ∈ E.hooks, h.task ∈ E.tasks) :
    (tdFirst s k E).2 = 0 ∧ (tdSecond s k E).2 = 0 := by
  refine ⟨releaseTasks_errs_zero s k _ (fun t ht hx => Or.inl (hpar t ht (tdPlain_sub E _ hx))), ?_⟩
  apply releaseTasks_errs_zero
  intro t' ht' hx
  obtain ⟨t, ht, rfl⟩ := List.mem_map.mp (show t' ∈ s.roster.map (relMap k (tdPlain E)) from ht')
  obtain ⟨x, _, _, z⟩ := relMap_props k (tdPlain E) t
  rw [x] at hx
  rcases z with z | z
  · left; rw [z]; exact hpar t ht (tdMsg_sub _ E hhk _ hx)
  · right; exact z.1

/-- `wf` is `Inv.owned` and `Inv.hooksSub` of `E`, not `envWf`. -/
theorem teardown_cases_wf {s : State} {k : EnvId} {E : Env} (force late : Bool) (hf : List TaskId) (hE : s.env? k = some E)
    (hpar : E.tearing = false → ∀ t ∈ s.roster, t.id ∈ E.tasks → t.parent = some k) (hhk : ∀ h ∈ E.hooks, h.task ∈ E.tasks) :
    (E.tearing = true ∧ teardown s k force late hf = (s, .hang, [])) ∨
    (E.tearing = false ∧ (E.state = .DONE ∨ force = false) ∧ teardown s k force late hf = (s, .err, [])) ∨
    (E.tearing = false ∧ E.state ≠ .DONE ∧ (late && s.cfg.lateDelete) = true ∧
      (teardown s k force late hf).1 = tdHung s k E ∧ (teardown s k force late hf).2.1 = .hang) ∨
    (E.tearing = false ∧ E.state ≠ .DONE ∧ (late && s.cfg.lateDelete) = false ∧
      (teardown s k force late hf).1 = tdDone s k E ∧
      ((teardown s k force late hf).2.1 = .ok ∨ (teardown s k force late hf).2.1 = .doneErr)) := by
  rcases teardown_cases s k force late hf with ⟨hn, _⟩ | ⟨E', hE', c⟩
  · exact absurd (hE.symm.trans hn) (by simp)
  · obtain rfl : E = E' := Option.some.inj (hE.symm.trans hE')
    rcases c with ⟨a, e⟩ | ⟨a, b, e⟩ | ⟨a, b, _⟩ | ⟨a, b, _, ⟨l, e⟩ | ⟨_, c, _⟩ | ⟨l, _, e⟩⟩
    · exact Or.inl ⟨a, e⟩
    · exact Or.inr (Or.inl ⟨a, b, e⟩)
    · rw [(teardown_releases (hpar a) hhk).1] at b; exact absurd b (Nat.lt_irrefl 0)
    · rw [e]; exact Or.inr (Or.inr (Or.inl ⟨a, b, l, rfl, rfl⟩))
    · rw [(teardown_releases (hpar a) hhk).2] at c; exact absurd c (Nat.lt_irrefl 0)
    · rw [e]
      refine Or.inr (Or.inr (Or.inr ⟨a, b, l, rfl, ?_⟩))
      show (if tdHookErr _ E hf then TRes.doneErr else TRes.ok) = .ok ∨ _
      split
      · exact Or.inr rfl
      · exact Or.inl rfl

theorem teardown_roster (s : State) (k : EnvId) (force late : Bool) (hf : List TaskId) :
    ∃ g : Task → Task, (teardown s k force late hf).1.roster = s.roster.map g ∧
      ∀ t, (g t).id = t.id ∧ (t.isLocked = true → t.parent ≠ some k → g t = t) := by
  have one : ∀ ids t, (relMap k ids t).id = t.id ∧ (t.isLocked = true → t.parent ≠ some k → relMap k ids t = t) :=
    fun ids t => ⟨(relMap_props k ids t).1, relMap_foreign k ids t⟩
  have two : ∀ ids ids' t, (relMap k ids' (relMap k ids t)).id = t.id ∧
      (t.isLocked = true → t.parent ≠ some k → relMap k ids' (relMap k ids t) = t) :=
    fun ids ids' t => ⟨((one ids' _).1).trans (one ids t).1, fun hl hp => by rw [(one ids t).2 hl hp, (one ids' t).2 hl hp]⟩
  have zero : ∃ g : Task → Task, s.roster = s.roster.map g ∧ ∀ t, (g t).id = t.id ∧ (t.isLocked = true → t.parent ≠ some k → g t = t) :=
    ⟨id, (List.map_id _).symm, fun _ => ⟨rfl, fun _ _ => rfl⟩⟩
  rcases teardown_cases s k force late hf with ⟨_, e⟩ | ⟨E, _, ⟨_, e⟩ | ⟨_, _, e⟩ | ⟨_, _, e⟩ |
    ⟨_, _, _, ⟨_, e⟩ | ⟨_, _, e⟩ | ⟨_, _, e⟩⟩⟩ <;> rw [e]
  · exact zero
  · exact zero
  · exact zero
  · exact ⟨_, rfl, one _⟩
  · exact ⟨_, rfl, one _⟩
  · exact ⟨_, List.map_map .., two _ _⟩
  · exact ⟨_, List.map_map .., two _ _⟩

theorem dropPending_creating (s : State) (k : EnvId) : ∀ q ∈ (dropPending s k).creating, q.id ≠ k :=
  fun _ hq => of_decide_eq_true (List.mem_filter.mp hq).2

theorem createBegin_writes (s : State) (k : EnvId) (spec : EnvSpec) :
    ∃ u c, (createBegin s k spec).1 = { s with used := u, creating := c } := by
  fun_cases createBegin s k spec <;> exact ⟨_, _, rfl⟩

theorem createCleanup_writes (s : State) (k : EnvId) :
    createCleanup s k = s ∨ ∃ c, createCleanup s k = { cleanup s with creating := c } := by
  fun_cases createCleanup s k with
  | case1 => exact Or.inr ⟨_, rfl⟩
  | case2 => exact Or.inl rfl

theorem createClaim_writes (s : State) (k : EnvId) : ∃ c, createClaim s k = { s with creating := c } := by
  fun_cases createClaim s k <;> exact ⟨_, rfl⟩

theorem createBegin_ok (s : State) (k : EnvId) (spec : EnvSpec) (hfresh : k ∉ s.used) (hok : spec.bad = .ok) :
    createBegin s k spec =
      ({ s with used := k :: s.used,
                creating := ({ id := k, spec := spec, snapshot := s.activeDets, cleaned := false, inserted := false,
                               claims := none } : Pending) :: s.creating }, .noop) := by
  simp [createBegin, hfresh, hok]

/-- The listing entry a creation gets when it is inserted: it references nothing yet. -/
def newEnv (k : EnvId) (p : Pending) : Env :=
  { id := k, state := .STANDBY, dets := p.spec.dets, tasks := [], hooks := [], calls := callCount p.spec, pending := 0, tearing := false }

theorem createInsert_cases (s : State) (k : EnvId) :
    (createInsert s k).1 = s ∨ (createInsert s k).1 = dropPending s k ∨
    ∃ p, s.pending? k false = some p ∧ (∀ d ∈ p.spec.dets, d ∉ p.snapshot) ∧
      (createInsert s k).1 = { s with creating := s.creating.map (fun q => if q.id = k then { q with inserted := true } else q),
                                      envs := s.envs ++ [newEnv k p] } := by
  fun_cases createInsert s k with
  | case1 => exact Or.inl rfl
  | case2 | case3 => exact Or.inr (Or.inl rfl)
  | case4 p hp _ h2 =>
    exact Or.inr (Or.inr ⟨p, hp, fun d hd hin => h2 (List.any_eq_true.mpr ⟨d, hd, decide_eq_true hin⟩), rfl⟩)

theorem create_conflict_fields (s : State) (k : EnvId) (spec : EnvSpec) (o : SettleOracle)
    (hfresh : k ∉ s.used) (hok : spec.bad = .ok)
    (hconf : ∃ d ∈ spec.dets, d ∈ s.activeDets) :
    (create s k spec o).2 = .errDetector ∧
    (create s k spec o).1.envs = s.envs ∧
    (create s k spec o).1.roster = (cleanup s).roster ∧
    (create s k spec o).1.master = (cleanup s).master := by
  have hb := createBegin_ok s k spec hfresh hok
  have hcl : createCleanup (createBegin s k spec).1 k = { cleanup (createBegin s k spec).1 with
      creating := (cleanup (createBegin s k spec).1).creating.map (fun q => if q.id = k then { q with cleaned := true } else q) } := by
    unfold createCleanup
    rw [if_pos (by rw [hb]; simp)]
  have hfind : (createCleanup (createBegin s k spec).1 k).pending? k false =
      some { id := k, spec := spec, snapshot := s.activeDets, cleaned := true, inserted := false, claims := none } := by
    rw [hcl, hb]
    simp [State.pending?, cleanup, doKill]
  have hins : createInsert (createCleanup (createBegin s k spec).1 k) k =
      (dropPending (createCleanup (createBegin s k spec).1 k) k, .errDetector) := by
    unfold createInsert
    rw [hfind]
    have hd : (spec.dets.any fun d => decide (d ∈ s.activeDets)) = true :=
      List.any_eq_true.mpr (hconf.imp fun d hd => ⟨hd.1, decide_eq_true hd.2⟩)
    simp [hok, hd]
  have hc : create s k spec o = (dropPending (createCleanup (createBegin s k spec).1 k) k, .errDetector) := by
    unfold create
    simp only [show (createBegin s k spec).2 = .noop from hb ▸ rfl, ne_eq, not_true_eq_false, hfresh, or_self, if_false]
    rw [hins]
    simp
  rw [hc, hcl, hb]
  exact ⟨rfl, rfl, rfl, rfl⟩

theorem claimLoop_sound (roster : List Task) (descs : List (Nat × RoleSpec)) (acc : List (Nat × TaskId)) :
    ∀ c ∈ claimLoop roster descs acc, c ∈ acc ∨ ∃ t ∈ roster, t.id = c.2 ∧ t.claimable = true ∧ t.hostOk = true := by
  induction descs generalizing acc with
  | nil => intro c hc; left; simpa [claimLoop] using hc
  | cons d rest ih =>
    obtain ⟨i, r⟩ := d
    intro c hc
    simp only [claimLoop] at hc
    split at hc
    · rename_i t ht
      rcases ih _ c hc with h | h
      · rcases List.mem_append.mp h with h | h
        · left; exact h
        · right
          simp only [List.mem_singleton] at h
          subst h
          refine ⟨t, List.mem_of_find?_eq_some ht, rfl, ?_⟩
          have := List.find?_some ht
          simp only [Bool.and_eq_true] at this
          exact ⟨this.1.1.1.1, this.1.1.1.2⟩
      · right; exact h
    · exact ih _ c hc

theorem computeClaims_sound (s : State) (spec : EnvSpec) :
    ∀ c ∈ computeClaims s spec, ∃ t ∈ s.roster, t.id = c.2 ∧ t.claimable = true ∧ t.hostOk = true := by
  intro c hc
  unfold computeClaims at hc
  split at hc
  · rcases claimLoop_sound _ _ _ c hc with h | ⟨t, ht, he, hcl⟩
    · simp at h
    · exact ⟨t, ht, he, hcl⟩
  · simp at hc

theorem assignNew_range (l : List (Nat × RoleSpec)) (n : Nat) :
    ∀ x ∈ assignNew l n, n ≤ x.2.2 ∧ x.2.2 < n + l.length := by
  induction l generalizing n with
  | nil => exact fun x hx => absurd hx List.not_mem_nil
  | cons d rest ih =>
    intro x hx
    rcases List.mem_cons.mp hx with rfl | hx
    · exact ⟨Nat.le_refl n, Nat.lt_add_of_pos_right (Nat.succ_pos _)⟩
    · have := ih (n + 1) x hx
      exact ⟨Nat.le_of_succ_le this.1, by rw [List.length_cons, Nat.add_comm rest.length, ← Nat.add_assoc]; exact this.2⟩

theorem assignNew_nodup (l : List (Nat × RoleSpec)) (n : Nat) :
    ((assignNew l n).map (fun x => x.2.2)).Nodup := by
  induction l generalizing n with
  | nil => exact List.nodup_nil
  | cons d rest ih =>
    refine List.nodup_cons.mpr ⟨fun hm => ?_, ih (n + 1)⟩
    obtain ⟨x, hx, hxe⟩ := List.mem_map.mp hm
    exact Nat.not_succ_le_self n ((show x.2.2 = n from hxe) ▸ (assignNew_range rest (n + 1) x hx).1)

theorem assignNew_length (l : List (Nat × RoleSpec)) (n : TaskId) : (assignNew l n).length = l.length := by
  induction l generalizing n with
  | nil => rfl
  | cons d rest ih => obtain ⟨i, r⟩ := d; simp [assignNew, ih]

theorem assignNew_mem (l : List (Nat × RoleSpec)) (n : TaskId) : ∀ x ∈ assignNew l n, (x.1, x.2.1) ∈ l := by
  induction l generalizing n with
  | nil => intro x hx; simp [assignNew] at hx
  | cons d rest ih =>
    obtain ⟨i, r⟩ := d
    intro x hx
    simp only [assignNew, List.mem_cons] at hx
    rcases hx with rfl | hx
    · exact List.mem_cons_self
    · exact List.mem_cons_of_mem _ (ih (n + 1) x hx)

theorem assignNew_keys (l : List (Nat × RoleSpec)) (n : TaskId) : (assignNew l n).map (·.1) = l.map (·.1) := by
  induction l generalizing n with
  | nil => rfl
  | cons d rest ih => exact congrArg (d.1 :: ·) (ih (n + 1))

theorem assignNew_find (l : List (Nat × RoleSpec)) (n : TaskId) (hnd : (l.map (·.1)).Nodup) :
    ∀ x ∈ assignNew l n, (assignNew l n).find? (fun y => decide (y.1 = x.1)) = some x :=
  fun _ hx => List.find?_key (assignNew_keys l n ▸ hnd) hx fun _ => decide_eq_true_iff

theorem descriptors_nodup (spec : EnvSpec) : ((descriptors spec).map (·.1)).Nodup := by
  unfold descriptors
  apply List.Nodup.sublist (List.Sublist.map _ List.filter_sublist)
  rw [List.map_map]
  have : ((fun x : Nat × RoleSpec => x.1) ∘ fun p : RoleSpec × Nat => (p.2, p.1)) = Prod.snd := by funext p; rfl
  rw [this, List.zipIdx_map_snd]
  exact List.nodup_range' 1

theorem acquire_nil_facts (s : State) (k : EnvId) (spec : EnvSpec) (o : SettleOracle) :
    let A := acquire s k spec [] o
    let fresh := assignNew (descriptors spec) s.nextTask
    (∀ t' ∈ A.s.roster, t' ∈ s.roster ∨ ∃ x ∈ fresh, t'.id = x.2.2 ∧ t'.parent = some k ∧ (A.deployOk = true → t'.active = true)) ∧
    (∀ x ∈ fresh, ∃ t' ∈ A.s.roster, t'.id = x.2.2) ∧
    (∀ m' ∈ A.s.master, m' ∈ s.master ∨ ∃ x ∈ fresh, m'.id = x.2.2 ∧ m'.label = k) ∧
    (∀ x ∈ fresh, x.2.2 ∈ A.ids) ∧
    (∀ i ∈ A.ids, s.nextTask ≤ i) ∧
    (∀ X' ∈ A.s.envs, ∃ X ∈ s.envs, X'.id = X.id ∧ X'.started = X.started ∧ X'.cancelled = X.cancelled ∧ X'.pending = X.pending) := by
  intro A fresh
  have hrun : ∀ l : List (Nat × RoleSpec), l.filter (fun _ => decide ¬False) = l := by intro l; simp
  -- `A` written out: every descriptor is launched, no roster entry is re-parented, the roles get the new ids
  have hA : A = acquire s k spec [] o := rfl
  clear_value A
  unfold acquire at hA
  simp only [List.map_nil, List.not_mem_nil, if_false, List.map_id', List.lookup_nil, hrun] at hA
  subst hA
  refine ⟨?_, ?_, ?_, ?_, ?_, ?_⟩
  · intro t' ht'
    rcases List.mem_append.mp ht' with h | h
    · exact Or.inl h
    · obtain ⟨x, hx, rfl⟩ := List.mem_map.mp h
      exact Or.inr ⟨x, hx, rfl, rfl, fun hd => if_pos hd⟩
  · intro x hx
    exact ⟨_, List.mem_append_right _ (List.mem_map.mpr ⟨x, hx, rfl⟩), rfl⟩
  · intro m' hm'
    rcases List.mem_append.mp hm' with h | h
    · exact Or.inl h
    · obtain ⟨x, hx, rfl⟩ := List.mem_map.mp h
      exact Or.inr ⟨x, hx, rfl, rfl⟩
  · intro x hx
    refine List.mem_filterMap.mpr ⟨(x.1, x.2.1), assignNew_mem _ _ x hx, ?_⟩
    show Option.map _ (List.find? _ _) = _
    rw [assignNew_find _ _ (descriptors_nodup spec) x hx]
    rfl
  · intro i hi
    obtain ⟨d, _, hd⟩ := List.mem_filterMap.mp hi
    obtain ⟨x, hx, rfl⟩ := Option.map_eq_some_iff.mp hd
    exact (assignNew_range _ _ x (List.mem_of_find?_eq_some hx)).1
  · intro X' hX'
    obtain ⟨X, hX, rfl⟩ := List.mem_map.mp hX'
    refine ⟨X, hX, ?_⟩
    split <;> exact ⟨rfl, rfl, rfl, rfl⟩

theorem afterLockFailure_props (c : Cfg) (t : Task) :
    (t.afterLockFailure c).id = t.id ∧ (t.afterLockFailure c).offer = t.offer ∧ (t.afterLockFailure c).agent = t.agent ∧
    (t.afterLockFailure c).executor = t.executor ∧ (t.afterLockFailure c).active = t.active ∧
    (t.afterLockFailure c).hostOk = t.hostOk ∧ (t.afterLockFailure c).host = t.host ∧
    ((t.afterLockFailure c).parent = none ∨
      ((t.afterLockFailure c).parent = t.parent ∧ c.detachOnSpot = true ∧ t.fields.locked = true)) := by
  unfold Task.afterLockFailure
  split
  · rename_i hc
    simp only [Bool.and_eq_true] at hc
    exact ⟨rfl, rfl, rfl, rfl, rfl, rfl, rfl, Or.inr ⟨rfl, hc.1, hc.2⟩⟩
  · exact ⟨rfl, rfl, rfl, rfl, rfl, rfl, rfl, Or.inl rfl⟩

theorem afterLockFailure_code (c : Cfg) (hc : c.detachOnSpot = false) (t : Task) : (t.afterLockFailure c).parent = none := by
  obtain ⟨_, _, _, _, _, _, _, h | ⟨_, h, _⟩⟩ := afterLockFailure_props c t
  · exact h
  · rw [hc] at h; exact absurd h (by simp)

theorem acquireUnlocked_new (s : State) (k : EnvId) (toRun : List (Nat × RoleSpec)) (o : SettleOracle) :
    ∀ t ∈ (launchedTasks s k toRun o).map (Task.afterLockFailure s.cfg),
      ∃ x ∈ assignNew toRun s.nextTask, t.id = x.2.2 ∧ t.offer = true ∧ t.agent = true ∧ t.executor = true := by
  intro t ht
  obtain ⟨t0, ht0, rfl⟩ := List.mem_map.mp ht
  unfold launchedTasks at ht0
  obtain ⟨x, hx, rfl⟩ := List.mem_map.mp ht0
  obtain ⟨hid, hoffer, hagent, hexec, _⟩ := afterLockFailure_props s.cfg
    { id := x.2.2, cls := x.2.1.cls, host := x.2.1.host, hostOk := decide (x.2.1.host ∉ blankHosts s o),
      agent := true, offer := true, executor := true, parent := some k,
      active := (launchOf o x.1).active && decide ((launchOf o x.1).mesos = .running),
      state := if (launchOf o x.1).mesos = .terminal then .ERROR else .STANDBY }
  exact ⟨x, hx, hid, hoffer, hagent, hexec⟩

theorem acquireUnlocked_new_ids (s : State) (k : EnvId) (toRun : List (Nat × RoleSpec)) (o : SettleOracle) :
    ((launchedTasks s k toRun o).map (Task.afterLockFailure s.cfg)).map (·.id) = (assignNew toRun s.nextTask).map (fun x => x.2.2) := by
  unfold launchedTasks
  rw [List.map_map, List.map_map]
  apply List.map_congr_left
  intro x _
  exact (afterLockFailure_props s.cfg _).1

theorem acquireUnlocked_frame (s : State) (k : EnvId) (toRun : List (Nat × RoleSpec)) (o : SettleOracle) :
    (acquireUnlocked s k toRun o).envs = s.envs ∧ (acquireUnlocked s k toRun o).creating = s.creating ∧
    (acquireUnlocked s k toRun o).killLog = s.killLog ∧ (acquireUnlocked s k toRun o).reuse = s.reuse ∧
    (acquireUnlocked s k toRun o).crashed = s.crashed ∧ (acquireUnlocked s k toRun o).cfg = s.cfg ∧
    (acquireUnlocked s k toRun o).used = s.used ∧ (acquireUnlocked s k toRun o).dead = s.dead :=
  ⟨rfl, rfl, rfl, rfl, rfl, rfl, rfl, rfl⟩

/-- The code: the block `if !deploymentSuccess` un-parents every task of `deployedTasks`, the ones that did lock
    included. -/
theorem lockFail_unowned (s : State) (k : EnvId) (toRun : List (Nat × RoleSpec)) (o : SettleOracle)
    (hc : s.cfg.detachOnSpot = false) :
    ∀ t ∈ (acquireUnlocked s k toRun o).roster, t ∈ s.roster ∨ (t.parent = none ∧ t.isLocked = false ∧ s.nextTask ≤ t.id) := by
  intro t ht
  rcases List.mem_append.mp ht with ho | hn
  · exact Or.inl ho
  · obtain ⟨x, hx, he, _⟩ := acquireUnlocked_new s k toRun o t hn
    obtain ⟨t0, _, rfl⟩ := List.mem_map.mp hn
    have hp := afterLockFailure_code s.cfg hc t0
    exact Or.inr ⟨hp, by simp [Task.isLocked, hp], he ▸ (assignNew_range toRun s.nextTask x hx).1⟩

/-- The descriptors acquireTasks has to launch in a settling creation whose pending record is `p`: those no roster task
    was claimed for. -/
def settleToRun (s : State) (k : EnvId) (p : Pending) : List (Nat × RoleSpec) :=
  (descriptors p.spec).filter (fun d => decide (d.1 ∉ (claimsOf (dropPending s k) p).map (·.1)))

/-- … and acquireTasks' commit there. -/
def settleAcq (s : State) (k : EnvId) (p : Pending) (o : SettleOracle) : Acq :=
  acquire (dropPending s k) k p.spec (claimsOf (dropPending s k) p) o

theorem settleTail_eq (s : State) (m : Mid) : settleTail s m = createFail s m.k m.ids m.late m.res m.hf := rfl

theorem settleConfigure_k (s : State) (m : Mid) : (settleConfigure s m).2.k = m.k := by
  fun_cases settleConfigure s m <;> rfl

theorem settleRest_seq (s : State) (k : EnvId) (o : SettleOracle) :
    settleSeq s k o = match settleDeploy s k o with
      | (s1, none, r) => (s1, r)
      | (s1, some m, _) => settleRest s1 m := by
  unfold settleSeq
  split
  · rename_i heq; rw [heq]
  · rename_i heq; rw [heq]; rfl

/-- What the creating goroutine carries out of a DEPLOY that was given up before acquireTasks committed anything. -/
def midGivenUp (k : EnvId) (p : Pending) (o : SettleOracle) : Mid :=
  { k := k, spec := p.spec, ids := [], fails := [], late := o.late, hf := [], lost := o.lost, res := .errDeploy }

/-- … and out of one in which it did. -/
def midAcquired (s : State) (k : EnvId) (p : Pending) (o : SettleOracle) : Mid :=
  { k := k, spec := p.spec, ids := (settleAcq s k p o).ids,
    fails := o.cfgFails.filterMap (fun f => ((settleAcq s k p o).idOf f.1).map (fun t => (t, f.2))),
    late := o.late, hf := o.hookFails, lost := o.lost,
    res := if !(settleAcq s k p o).deployOk || !(claimsOf (dropPending s k) p).isEmpty then .errDeploy else .noop }

/-- DEPLOY, branch by branch: nothing to settle; no offer for a wanted host; the legacy fatal error; a launched task that
    cannot be locked; acquireTasks through (whether DEPLOY then succeeds is `midAcquired … .res`). -/
theorem settleDeploy_cases (s : State) (k : EnvId) (o : SettleOracle) :
    (s.pending? k true = none ∧ settleDeploy s k o = (s, none, .noop)) ∨
    ∃ p, s.pending? k true = some p ∧
      (settleDeploy s k o = (dropPending s k, some (midGivenUp k p o), .noop) ∨
       (s.reuse = true ∧ s.cfg.unlockUnpaired = true ∧ settleDeploy s k o = ({ dropPending s k with crashed := true }, none, .crash)) ∨
       settleDeploy s k o = (acquireUnlocked (dropPending s k) k (settleToRun s k p) o, some (midGivenUp k p o), .noop) ∨
       settleDeploy s k o = ((settleAcq s k p o).s, some (midAcquired s k p o), .noop)) := by
  fun_cases settleDeploy s k o with
  | case1 hp => exact Or.inl ⟨hp, rfl⟩
  | case2 p hp => exact Or.inr ⟨p, hp, Or.inl rfl⟩
  | case3 p hp _ _ _ _ h2 =>
    simp only [Bool.and_eq_true] at h2
    exact Or.inr ⟨p, hp, Or.inr (Or.inl ⟨h2.1.1, h2.1.2, rfl⟩)⟩
  | case4 p hp => exact Or.inr ⟨p, hp, Or.inr (Or.inr (Or.inl rfl))⟩
  | case5 p hp => exact Or.inr ⟨p, hp, Or.inr (Or.inr (Or.inr rfl))⟩

theorem settleDeploy_mid (s : State) (k : EnvId) (o : SettleOracle) :
    (∀ p ∈ (settleDeploy s k o).1.creating, p ∈ s.creating) ∧
    (∀ m, (settleDeploy s k o).2.1 = some m → m.k = k ∧ m.lost = o.lost ∧ ∀ p ∈ (settleDeploy s k o).1.creating, p.id ≠ k) := by
  have hsub : ∀ q ∈ (dropPending s k).creating, q ∈ s.creating := fun q hq => (List.mem_filter.mp hq).1
  have hp := dropPending_creating s k
  rcases settleDeploy_cases s k o with ⟨_, e⟩ | ⟨p, _, e | ⟨_, _, e⟩ | e | e⟩ <;> rw [e]
  · exact ⟨fun p hp => hp, fun m hm => nomatch hm⟩
  · exact ⟨hsub, fun m hm => Option.some.inj hm ▸ ⟨rfl, rfl, hp⟩⟩
  · exact ⟨hsub, fun m hm => nomatch hm⟩
  · exact ⟨hsub, fun m hm => Option.some.inj hm ▸ ⟨rfl, rfl, hp⟩⟩
  · exact ⟨hsub, fun m hm => Option.some.inj hm ▸ ⟨rfl, rfl, hp⟩⟩

theorem acquire_env? (s : State) (k : EnvId) (spec : EnvSpec) (claims : List (Nat × TaskId)) (o : SettleOracle) :
    ∃ hooks, (acquire s k spec claims o).s.env? k =
      (s.env? k).map (fun X => { X with tasks := (acquire s k spec claims o).ids, hooks := hooks }) :=
  ⟨_, env?_setEnv_self _ k _ (fun _ => rfl)⟩

/-- `createSettle` is the sections run one after the other — except that a creation whose environment is not listed when
    CONFIGURE is reached answers nothing and stops where DEPLOY left it, while the cut one fails CONFIGURE and runs the
    failure tail. (No inserted pending creation is in that case: `Inv.pendListed`.) -/
theorem settle_pieces (s : State) (k : EnvId) (o : SettleOracle) :
    createSettle s k o = settleSeq s k o ∨
    ∃ p, s.pending? k true = some p ∧ s.env? k = none ∧ createSettle s k o = ((settleDeploy s k o).1, .noop) := by
  unfold settleSeq createSettle settleDeploy
  cases hp : s.pending? k true with
  | none => exact Or.inl rfl
  | some p =>
    dsimp only
    -- both branch on the same conditions, and wherever DEPLOY is given up the failure tail is the same call
    by_cases h1 : ((descriptors p.spec).any fun d => decide (d.2.host ∉ (dropPending s k).hosts)) = true
    · rw [if_pos h1, if_pos h1]; left; rfl
    rw [if_neg h1, if_neg h1]
    by_cases h2 : ((dropPending s k).reuse && (dropPending s k).cfg.unlockUnpaired &&
        (List.filter (fun d => decide (d.1 ∉ List.map (fun x => x.1) (claimsOf (dropPending s k) p))) (descriptors p.spec)).isEmpty) = true
    · rw [if_pos h2, if_pos h2]; left; rfl
    rw [if_neg h2, if_neg h2]
    by_cases h3 : lockFailure (launchedTasks (dropPending s k) k
        (List.filter (fun d => decide (d.1 ∉ List.map (fun x => x.1) (claimsOf (dropPending s k) p))) (descriptors p.spec)) o) = true
    · rw [if_pos h3, if_pos h3]; left; rfl
    rw [if_neg h3, if_neg h3]
    dsimp only
    by_cases h4 : (!(acquire (dropPending s k) k p.spec (claimsOf (dropPending s k) p) o).deployOk ||
        !(claimsOf (dropPending s k) p).isEmpty) = true
    · rw [if_pos h4, if_pos h4]; left; rfl
    rw [if_neg h4, if_neg h4]
    -- CONFIGURE: acquireTasks lists no environment and drops none
    unfold settleConfigure createConfigure
    obtain ⟨hooks, hl⟩ := acquire_env? (dropPending s k) k p.spec (claimsOf (dropPending s k) p) o
    rw [hl]
    cases he : (dropPending s k).env? k with
    | none => exact Or.inr ⟨p, rfl, he, rfl⟩
    | some E =>
      left
      simp only [if_true, Option.map_some]
      generalize (applyTrans _ _ _ _).2 = ok
      cases ok <;> rfl

theorem not_pending_of_any {s : State} {k : EnvId} (h : ¬ (s.creating.any (fun p => decide (p.id = k))) = true) :
    ∀ p ∈ s.creating, p.id ≠ k :=
  fun p hp hk => h (List.any_eq_true.mpr ⟨p, hp, decide_eq_true hk⟩)

theorem anyPending_of_mem {s : State} {k : EnvId} (h : ∃ p ∈ s.creating, p.id = k) :
    (s.creating.any fun p => decide (p.id = k)) = true :=
  List.any_eq_true.mpr (h.imp fun _ hp => ⟨hp.1, decide_eq_true hp.2⟩)

theorem anyPending_false {s : State} {k : EnvId} (h : ∀ p ∈ s.creating, p.id ≠ k) :
    (s.creating.any fun p => decide (p.id = k)) = false :=
  List.any_eq_false.mpr fun p hp e => h p hp (of_decide_eq_true e)

/-- `s1` is `s` after transition commands to tasks and rewrites of `k`'s state: what DestroyEnvironment does before it
    tears the environment down (STOP, RESET). -/
inductive Prep (k : EnvId) (s : State) : State → Prop
  | refl : Prep k s s
  | trans {s1 : State} (E : Env) (ev : CEv) (fails : List (TaskId × Bool)) : Prep k s s1 → Prep k s (applyTrans s1 E ev fails).1
  | state {s1 : State} (st : EState) : Prep k s s1 → Prep k s (setEnv s1 k (fun X => { X with state := st }))

theorem destroyStop_prep (s : State) (k : EnvId) (E : Env) (allow : Bool) (fails : List (TaskId × Bool)) :
    Prep k s (destroyStop s k E allow fails).1 := by
  fun_cases destroyStop s k E allow fails with
  | case1 => exact .state _ (.trans E .STOP fails .refl)
  | case2 => exact .trans E .STOP fails .refl
  | case3 => exact .refl

theorem destroyRest_cases {k : EnvId} {s s1 : State} (h1 : Prep k s s1) (st : EState) (stopOk : Bool) (E : Env) (keep : Bool)
    (o : DOracle) :
    ∃ s2 f kp, Prep k s s2 ∧ (kp = keep ∨ kp = false) ∧
      destroyRest s1 st stopOk k E keep o = teardownAndCleanup s2 k E.tasks f kp o := by
  fun_cases destroyRest s1 st stopOk k E keep o with
  | case1 | case2 => exact ⟨s1, true, false, h1, Or.inr rfl, rfl⟩
  | case3 => exact ⟨_, false, keep, .state _ (.trans _ .RESET o.resetFails h1), Or.inl rfl, rfl⟩
  | case4 => exact ⟨_, true, false, .trans _ .RESET o.resetFails h1, Or.inr rfl, rfl⟩
  | case5 => exact ⟨s1, false, keep, h1, Or.inl rfl, rfl⟩

/-- DestroyEnvironment is not served, or is doTeardownAndCleanup on the environment's tasks as listed — forced or not,
    keeping the tasks only if asked to — after STOP / RESET. -/
theorem destroy_cases (s : State) (k : EnvId) (force allow keep : Bool) (o : DOracle) :
    ((destroy s k force allow keep o).1 = s ∧ (destroy s k force allow keep o).2.1 ≠ .ok) ∨
    ∃ E s1 f kp, s.env? k = some E ∧ (∀ p ∈ s.creating, p.id ≠ k) ∧ Prep k s s1 ∧ (kp = keep ∨ kp = false) ∧
      destroy s k force allow keep o = teardownAndCleanup s1 k E.tasks f kp o := by
  fun_cases destroy s k force allow keep o with
  | case1 | case2 | case3 => exact Or.inl ⟨rfl, Res.noConfusion⟩
  | case4 hg E hE => exact Or.inr ⟨E, s, true, keep, hE, not_pending_of_any hg, .refl, Or.inl rfl, rfl⟩
  | case5 hg E hE =>
    obtain ⟨s2, f, kp, a, b, c⟩ := destroyRest_cases (destroyStop_prep s k E allow o.stopFails)
      (destroyStop s k E allow o.stopFails).2.1 (destroyStop s k E allow o.stopFails).2.2 E keep o
    exact Or.inr ⟨E, s2, f, kp, hE, not_pending_of_any hg, a, b, c⟩

end Own
