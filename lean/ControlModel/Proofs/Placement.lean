/-
  Proofs/Placement — constraints, one offer, one OFFERS round (core Lean only).
-/
import ControlModel.Proofs.PlacementPorts
import ControlModel.Proofs.Lists

namespace Placement

theorem satLoop_append (as : Attrs) (ok : Bool) (xs : Constraints) (c : Constraint) :
    satLoop as ok (xs ++ [c]) = if c.op = 0 then holds as c else satLoop as ok xs := by
  fun_induction satLoop as ok xs with
  | case1 => simp [satLoop]
  | case2 _ _ _ hx ih | case3 _ _ _ hx ih => simp only [List.cons_append, satLoop, hx, if_true, if_false, ih]

theorem lookupC_upsert (m : Constraints) (c : Constraint) (a : String) :
    lookupC (upsert m c) a = if c.attr = a then some c else lookupC m a := by
  unfold lookupC
  fun_induction upsert m c with
  | case1 => simp
  | case2 p rest c h => by_cases hpa : p.attr = a <;> simp [h, hpa]
  | case3 p rest c h ih =>
    by_cases hpa : p.attr = a
    · subst hpa; simp [h]
    · simp only [List.find?, hpa, decide_false]; exact ih

theorem lookupC_mergeParent (child parent : Constraints) (a : String) :
    lookupC (mergeParent child parent) a =
      (match lastDef child a with | some c => some c | none => lookupC parent a) := by
  unfold mergeParent
  induction child generalizing parent with
  | nil => rfl
  | cons c rest ih =>
    rw [List.foldl_cons, ih, lastDef, lookupC_upsert]
    cases lastDef rest a with
    | some d => rfl
    | none => by_cases hca : c.attr = a <;> simp [hca]

theorem lookupC_effective (chain : List Constraints) (a : String) :
    lookupC (effective chain) a = nearestDef chain a := by
  induction chain with
  | nil => rfl
  | cons own rest ih =>
    cases rest with
    | nil => rfl
    | cons r rs =>
      simp only [effective, nearestDef]
      rw [lookupC_mergeParent, ih]
      cases lastDef own a <;> rfl

theorem any_attr_eq_false (m : Constraints) (a : String) :
    m.any (fun d => d.attr = a) = false ↔ lookupC m a = none := by
  rw [lookupC, List.find?_eq_none, List.any_eq_false]

theorem noDupAttr_upsert (m : Constraints) (c : Constraint) (h : noDupAttr m = true) :
    noDupAttr (upsert m c) = true := by
  fun_induction upsert m c with
  | case1 => rfl
  | case2 p rest c hcp =>
    simp only [noDupAttr, Bool.and_eq_true, Bool.not_eq_true', any_attr_eq_false, hcp] at h ⊢; exact h
  | case3 p rest c hcp ih =>
    simp only [noDupAttr, Bool.and_eq_true, Bool.not_eq_true', any_attr_eq_false, lookupC_upsert, if_neg hcp] at h ⊢
    exact ⟨h.1, ih h.2⟩

theorem noDupAttr_mergeParent (child parent : Constraints) (h : noDupAttr parent = true) :
    noDupAttr (mergeParent child parent) = true := by
  unfold mergeParent
  induction child generalizing parent with
  | nil => exact h
  | cons c rest ih => exact ih _ (noDupAttr_upsert parent c h)

theorem noDupAttr_effective (chain : List Constraints) (h : ∀ l ∈ chain, noDupAttr l = true) :
    noDupAttr (effective chain) = true := by
  induction chain with
  | nil => rfl
  | cons own rest ih =>
    cases rest with
    | nil => exact h own List.mem_cons_self
    | cons r rs => exact noDupAttr_mergeParent _ _ (ih fun l hl => h l (List.mem_cons_of_mem _ hl))

theorem noDupAttr_iff (m : Constraints) : noDupAttr m = true ↔ (m.map (·.attr)).Nodup := by
  induction m with
  | nil => exact ⟨fun _ => .nil, fun _ => rfl⟩
  | cons c rest ih =>
    rw [noDupAttr, Bool.and_eq_true, ih, List.map_cons, List.nodup_cons, Bool.not_eq_true', List.any_eq_false]
    simp only [List.mem_map, decide_eq_true_eq, not_exists, not_and]

theorem noDup_unique (m : Constraints) (h : noDupAttr m = true) (c : Constraint) (hc : c ∈ m) :
    lookupC m c.attr = some c :=
  List.find?_key ((noDupAttr_iff m).1 h) hc fun _ => decide_eq_true_iff

/-- What holds of every launch the model makes on offer `o`. -/
def Good (m : Mode) (o : Offer) (l : Launch) : Prop :=
  m.sat o.attrs l.desc.cts = true ∧
  ∃ c, l.desc.cls = some c ∧ Valid (c.wants m).static = true ∧ covers o.res (c.wants m) = true ∧
    l.task.cpu = c.cpu ∧ l.task.mem = c.mem ∧ l.task.static = (c.wants m).static ∧
    l.task.dyn.length = tcpCount c.inbound ∧ (∀ p ∈ l.task.dyn, 9000 ≤ p) ∧ 30000 ≤ l.task.ctrl

theorem Good.out {m : Mode} {o : Offer} {l : Launch} (h : Good m o l) :
    ∃ c, l.desc.cls = some c ∧ Valid (c.wants m).static = true ∧ covers o.res (c.wants m) = true ∧
      FromWants (c.wants m) l.task :=
  have ⟨_, c, h1, h2, h3, t1, t2, t3, t4, t5, t6⟩ := h
  ⟨c, h1, h2, h3, t1, t2, t3, t4, t5, t6⟩

def drawnOf (ls : List Launch) : List Nat := ls.flatMap (fun l => l.task.drawn)

def claimsOf (ls : List Launch) : List Nat := ls.flatMap (fun l => l.task.claims)

def cpuSum (ls : List Launch) : Nat := (ls.map (·.task.cpu)).sum
def memSum (ls : List Launch) : Nat := (ls.map (·.task.mem)).sum

structure Inv (m : Mode) (o : Offer) (s : OState) : Prop where
  cpu : OLe s.rem.cpu o.res.cpu
  mem : OLe s.rem.mem o.res.mem
  sub : Sub s.rem.ports o.res.ports
  good : ∀ l ∈ s.launches, Good m o l
  nodup : (drawnOf s.launches).Nodup
  fromOffer : ∀ p ∈ drawnOf s.launches, omem p o.res.ports = true ∧ omem p s.rem.ports = false
  /-- with the scalars subtracted: what was handed out plus what remains stays within the offer -/
  sums : m.cfg.scalarsSubtracted = true →
    cpuSum s.launches + avail s.rem.cpu ≤ avail o.res.cpu ∧ memSum s.launches + avail s.rem.mem ≤ avail o.res.mem
  /-- with the static ranges claimed first: no port is claimed twice, and no claimed port remains -/
  claims : m.cfg.staticReserved = true → (claimsOf s.launches).Nodup ∧
    ∀ p ∈ claimsOf s.launches, omem p o.res.ports = true ∧ omem p s.rem.ports = false

theorem inv_init (m : Mode) (o : Offer) (hv : OValid o.res.ports = true) :
    Inv m o { rem := o.res, launches := [], used := false, crashed := false } :=
  { cpu := .refl _, mem := .refl _, sub := .refl _ hv, good := nofun, nodup := .nil, fromOffer := nofun,
    sums := fun _ => ⟨Nat.le_of_eq (Nat.zero_add _), Nat.le_of_eq (Nat.zero_add _)⟩, claims := fun _ => ⟨.nil, nofun⟩ }

theorem not_omem_of_sub {a b : Option Ranges} (h : ∀ q, omem q a = true → omem q b = true) {q : Nat}
    (hq : omem q b = false) : omem q a = false :=
  Bool.eq_false_iff.2 fun ha => Bool.false_ne_true (hq ▸ h q ha)

/-- Ports taken earlier (`old`: from the offer, gone from `rem`) and ports taken now (`new`: from
    `rem`, gone from `left ⊆ rem`) are all different, from the offer, and gone from `left`. -/
theorem taken_append {offer rem left : Option Ranges} {old new : List Nat}
    (hrem : ∀ q, omem q rem = true → omem q offer = true) (hleft : ∀ q, omem q left = true → omem q rem = true)
    (ho : old.Nodup ∧ ∀ q ∈ old, omem q offer = true ∧ omem q rem = false)
    (hn : new.Nodup ∧ ∀ q ∈ new, omem q rem = true ∧ omem q left = false) :
    (old ++ new).Nodup ∧ ∀ q ∈ old ++ new, omem q offer = true ∧ omem q left = false := by
  refine ⟨List.nodup_append.2 ⟨ho.1, hn.1, fun a ha b hb e => ?_⟩, fun q hq => ?_⟩
  · exact Bool.false_ne_true ((ho.2 a ha).2 ▸ e ▸ (hn.2 b hb).1)
  · rcases List.mem_append.1 hq with hq | hq
    · exact ⟨(ho.2 q hq).1, not_omem_of_sub hleft (ho.2 q hq).2⟩
    · exact ⟨hrem q (hn.2 q hq).1, (hn.2 q hq).2⟩

theorem inv_setPorts (m : Mode) (o : Offer) (s : OState) (p : Option Ranges) (used : Bool)
    (h : Inv m o s) (hs : Sub p s.rem.ports) :
    Inv m o { s with rem := { s.rem with ports := p }, used := used } :=
  { h with
    sub := hs.trans h.sub
    fromOffer := fun q hq => ⟨(h.fromOffer q hq).1, not_omem_of_sub hs.subset (h.fromOffer q hq).2⟩
    claims := fun hk => ⟨(h.claims hk).1, fun q hq =>
      ⟨((h.claims hk).2 q hq).1, not_omem_of_sub hs.subset ((h.claims hk).2 q hq).2⟩⟩ }

theorem drawnOf_append (ls : List Launch) (l : Launch) : drawnOf (ls ++ [l]) = drawnOf ls ++ l.task.drawn := by
  simp [drawnOf]

theorem claimsOf_append (ls : List Launch) (l : Launch) : claimsOf (ls ++ [l]) = claimsOf ls ++ l.task.claims := by
  simp [claimsOf]

theorem cpuSum_append (ls : List Launch) (l : Launch) : cpuSum (ls ++ [l]) = cpuSum ls + l.task.cpu := by
  simp [cpuSum]

theorem memSum_append (ls : List Launch) (l : Launch) : memSum (ls ++ [l]) = memSum ls + l.task.mem := by
  simp [memSum]

theorem inv_launch (m : Mode) (o : Offer) (s : OState) (d : Desc) (c : Class) (t : Task) (p : Option Ranges)
    (hcls : d.cls = some c) (hvs : Valid (c.wants m).static = true) (hsat : m.sat o.attrs d.cts = true)
    (hres : resSatisfy s.rem (c.wants m) = true)
    (hmk : makeTask m.cfg (c.wants m) s.rem.ports = .ok t p) (h : Inv m o s) :
    Inv m o { s with rem := afterLaunch m.cfg s.rem t p, used := true, launches := s.launches ++ [⟨d, t⟩] } := by
  have hm := makeTask_spec m.cfg (c.wants m) s.rem.ports
  rw [hmk] at hm
  obtain ⟨tw, hleft, hmem, hnd, hp, hapart⟩ := hm hvs h.sub.valid
  have hcov := resSatisfy_covers s.rem _ hvs h.sub.valid hres
  obtain ⟨acpu, amem, aports⟩ := afterLaunch_le m.cfg s.rem t p
  -- what the task drew was there before and is gone now
  have hdrawn : ∀ q ∈ t.drawn, omem q s.rem.ports = true ∧ omem q p = false := fun q hq =>
    ⟨hmem q hq, by rw [hp, List.contains_eq_mem, decide_eq_true hq, Bool.not_true, Bool.and_false, Bool.false_and]⟩
  have hdr := taken_append h.sub.subset hleft.subset ⟨h.nodup, h.fromOffer⟩ ⟨hnd, hdrawn⟩
  refine { cpu := acpu.trans h.cpu, mem := amem.trans h.mem, sub := ?_,
           good := fun l hl => ?_, nodup := ?_, fromOffer := ?_, sums := fun hk => ?_, claims := fun hk => ?_ }
  · simp only [aports]; exact hleft.trans h.sub
  · rcases List.mem_append.1 hl with hl | hl
    · exact h.good l hl
    · rw [List.mem_singleton.1 hl]
      exact ⟨hsat, c, hcls, hvs, covers_mono s.rem o.res _ h.cpu h.mem h.sub hcov, tw.cpu, tw.mem, tw.static,
        tw.dyn_length, tw.dyn_floor, tw.ctrl_floor⟩
  · rw [drawnOf_append]; exact hdr.1
  · simp only [drawnOf_append, aports]; exact hdr.2
  · have step : ∀ {a r A x : Nat}, a + r ≤ A → x ≤ r → a + x + (r - x) ≤ A := by omega
    simp only [cpuSum_append, memSum_append, afterLaunch, hk, if_true, avail_subScalar, tw.cpu, tw.mem]
    exact ⟨step (h.sums hk).1 (covers_scalars hcov).1, step (h.sums hk).2 (covers_scalars hcov).2⟩
  · obtain ⟨snd, smem⟩ := staticPorts_spec (c.wants m).static hvs
    -- the static ports: `Resources.Satisfy` found them in what remained
    have hst : ∀ x ∈ expand (normalize t.static), omem x s.rem.ports = true ∧ mem x (c.wants m).static = true := by
      intro x hx
      rw [tw.static, smem] at hx
      exact ⟨covers_static hcov hx, hx⟩
    have hnew : t.claims.Nodup ∧ ∀ q ∈ t.claims, omem q s.rem.ports = true ∧ omem q p = false := by
      refine ⟨List.nodup_append.2 ⟨tw.static ▸ snd, hnd, fun a ha b hb e => ?_⟩, fun q hq => ?_⟩
      · exact Bool.false_ne_true (hapart hk b hb ▸ e ▸ (hst a ha).2)
      · rcases List.mem_append.1 hq with hq | hq
        · exact ⟨(hst q hq).1, by rw [hp, hk, (hst q hq).2]; simp⟩
        · exact hdrawn q hq
    simpa only [claimsOf_append, aports] using taken_append h.sub.subset hleft.subset (h.claims hk) hnew

theorem staticValid_mem {m : Mode} {ds : List Desc} (h : staticValid m ds = true) {d : Desc} {c : Class}
    (hd : d ∈ ds) (hc : d.cls = some c) : Valid (c.wants m).static = true := by
  have := List.all_eq_true.1 h d hd
  rwa [hc] at this

def Made.toTry : Made → Try
  | .early p => .early p
  | .late p => .late p
  | .panic => .panic
  | .ok t p => .ok t p

theorem tryPlace_cases (m : Mode) (o : Offer) (rem : Res) (d : Desc) :
    (tryPlace m o rem d = .skipCts ∨ tryPlace m o rem d = .skipCls ∨ tryPlace m o rem d = .skipRes) ∨
    ∃ c, d.cls = some c ∧ m.sat o.attrs d.cts = true ∧ resSatisfy rem (c.wants m) = true ∧
      tryPlace m o rem d = (makeTask m.cfg (c.wants m) rem.ports).toTry := by
  rw [tryPlace]
  by_cases hsat : m.sat o.attrs d.cts = true
  · cases hcls : d.cls with
    | none => simp [hsat]
    | some c =>
      by_cases hres : resSatisfy rem (c.wants m) = true
      · refine .inr ⟨c, rfl, hsat, hres, ?_⟩
        simp only [hsat, hres, Bool.not_true, Bool.false_eq_true, if_false]
        cases makeTask m.cfg (c.wants m) rem.ports <;> rfl
      · simp [hsat, hres]
  · simp [hsat]

/-- What one descriptor does to the state of the offer (both loops). -/
def tryStep (m : Mode) (o : Offer) (s : OState) (d : Desc) : OState :=
  match tryPlace m o s.rem d with
  | .skipCts | .skipCls | .skipRes => s
  | .early p => { s with rem := { s.rem with ports := p } }
  | .late p => { s with rem := { s.rem with ports := p }, used := true }
  | .panic => { s with crashed := true }
  | .ok t p => { s with rem := afterLaunch m.cfg s.rem t p, used := true, launches := s.launches ++ [⟨d, t⟩] }

/-- Both descriptor loops only ever apply `tryStep`: what it keeps, they keep. -/
theorem loops_induct (m : Mode) (o : Offer) {P : OState → Prop} (ds : List Desc)
    (hstep : ∀ s, P s → ∀ d ∈ ds, P (tryStep m o s d)) (s : OState) (h : P s) :
    P (prematchLoop m o s ds).1 ∧ P (stillLoop m o s ds).1 := by
  induction ds generalizing s with
  | nil => exact ⟨h, h⟩
  | cons d ds ih =>
    have ih := fun s => ih (fun s hs d hd => hstep s hs d (List.mem_cons_of_mem _ hd)) s
    have h1 := hstep s h d List.mem_cons_self
    simp only [tryStep, prematchLoop, stillLoop] at h1 ⊢
    generalize tryPlace m o s.rem d = r at h1 ⊢
    cases r with
    | skipCts | skipCls | skipRes => exact ⟨h, (ih s h).2⟩
    | early p | late p => exact ⟨h1, (ih _ h1).2⟩
    | panic => exact ⟨h1, h1⟩
    | ok t p => exact ih _ h1

theorem tryStep_inv (m : Mode) (o : Offer) (s : OState) (d : Desc)
    (hsv : ∀ c, d.cls = some c → Valid (c.wants m).static = true) (h : Inv m o s) : Inv m o (tryStep m o s d) := by
  rcases tryPlace_cases m o s.rem d with e | ⟨c, hcls, hsat, hres, e⟩
  · rcases e with e | e | e <;> (rw [tryStep, e]; exact h)
  rw [tryStep, e]
  have hm := makeTask_spec m.cfg (c.wants m) s.rem.ports
  cases hmk : makeTask m.cfg (c.wants m) s.rem.ports with
  | early p => rw [hmk] at hm; exact inv_setPorts m o s p s.used h (hm (hsv c hcls) h.sub.valid)
  | late p => rw [hmk] at hm; exact inv_setPorts m o s p true h (hm (hsv c hcls) h.sub.valid)
  | panic => exact { h with }
  | ok t p => exact inv_launch m o s d c t p hcls (hsv c hcls) hsat hres hmk h

theorem tryStep_used (m : Mode) (o : Offer) (s : OState) (d : Desc) (h : s.launches ≠ [] → s.used = true) :
    (tryStep m o s d).launches ≠ [] → (tryStep m o s d).used = true := by
  rw [tryStep]
  cases tryPlace m o s.rem d with
  | late p | ok t p => exact fun _ => rfl
  | _ => exact h

theorem tryStep_crashed (m : Mode) (hk : m.cfg.drawChecked = true) (o : Offer) (s : OState) (d : Desc) :
    (tryStep m o s d).crashed = s.crashed := by
  rcases tryPlace_cases m o s.rem d with e | ⟨c, _, _, _, e⟩
  · rcases e with e | e | e <;> rw [tryStep, e]
  rw [tryStep, e]
  have := makeTask_no_panic m.cfg hk (c.wants m) s.rem.ports
  cases hmk : makeTask m.cfg (c.wants m) s.rem.ports with
  | panic => rw [hmk] at this; cases this
  | _ => rfl

/-- What holds of the launches accepted on one offer. -/
def PerOffer (m : Mode) (o : Offer) (ls : List Launch) : Prop :=
  (∀ l ∈ ls, Good m o l) ∧ (drawnOf ls).Nodup ∧ (∀ p ∈ drawnOf ls, omem p o.res.ports = true) ∧
  (m.cfg.scalarsSubtracted = true → cpuSum ls ≤ avail o.res.cpu ∧ memSum ls ≤ avail o.res.mem) ∧
  (m.cfg.staticReserved = true → (claimsOf ls).Nodup ∧ ∀ p ∈ claimsOf ls, omem p o.res.ports = true)

theorem inv_perOffer (m : Mode) (o : Offer) (s : OState) (h : Inv m o s) : PerOffer m o s.launches :=
  ⟨h.good, h.nodup, fun p hp => (h.fromOffer p hp).1,
    fun hk => ⟨Nat.le_trans (Nat.le_add_right _ _) (h.sums hk).1, Nat.le_trans (Nat.le_add_right _ _) (h.sums hk).2⟩,
    fun hk => ⟨(h.claims hk).1, fun p hp => ((h.claims hk).2 p hp).1⟩⟩

theorem length_le_one {α : Type} {ls : List α} (h : ls.length ≤ 1) : ls = [] ∨ ∃ l, ls = [l] :=
  match ls, h with
  | [], _ => .inl rfl
  | [l], _ => .inr ⟨l, rfl⟩

theorem sums_of_length_le_one {m : Mode} {o : Offer} {ls : List Launch} (hg : ∀ l ∈ ls, Good m o l)
    (h : ls.length ≤ 1) : cpuSum ls ≤ avail o.res.cpu ∧ memSum ls ≤ avail o.res.mem := by
  rcases length_le_one h with rfl | ⟨l, rfl⟩
  · exact ⟨Nat.zero_le _, Nat.zero_le _⟩
  · obtain ⟨c, _, _, hcov, tw⟩ := (hg l List.mem_cons_self).out
    exact ⟨Nat.le_trans (Nat.le_of_eq tw.cpu) (covers_scalars hcov).1, Nat.le_trans (Nat.le_of_eq tw.mem) (covers_scalars hcov).2⟩

/-- The static ports of the single launch lie below everything it drew. -/
theorem claims_of_length_le_one {m : Mode} {o : Offer} {ls : List Launch} (hp : PerOffer m o ls) (h : ls.length ≤ 1)
    (hst : ∀ l ∈ ls, ∀ r ∈ l.task.static, r.2 ≤ dataBelow) :
    (claimsOf ls).Nodup ∧ ∀ p ∈ claimsOf ls, omem p o.res.ports = true := by
  obtain ⟨hg, hnd, hfrom, _⟩ := hp
  rcases length_le_one h with rfl | ⟨l, rfl⟩
  · exact ⟨.nil, nofun⟩
  have hst := hst l List.mem_cons_self
  obtain ⟨c, _, hvs, hcov, tw⟩ := (hg l List.mem_cons_self).out
  rw [← tw.static] at hvs
  obtain ⟨snd, smem⟩ := staticPorts_spec l.task.static hvs
  have ec : claimsOf [l] = expand (normalize l.task.static) ++ l.task.drawn := List.flatMap_singleton ..
  have ed : drawnOf [l] = l.task.drawn := List.flatMap_singleton ..
  rw [ec]
  rw [ed] at hnd hfrom
  -- a static port lies in a static range: inside the offer, below the floor of the drawn ports
  have hstat : ∀ x ∈ expand (normalize l.task.static), omem x o.res.ports = true ∧ x ≤ dataBelow := fun x hx =>
    have hx := (smem x).1 hx
    have ⟨r, hr, hxr⟩ := (mem_iff _ _).1 hx
    ⟨covers_static hcov (tw.static ▸ hx), Nat.le_trans ((memR_iff _ _).1 hxr).2 (hst r hr)⟩
  have above : ∀ y ∈ l.task.drawn, dataBelow < y := fun y hy =>
    (List.mem_append.1 hy).elim (tw.dyn_floor y) fun hy => List.mem_singleton.1 hy ▸ Nat.le_trans (by decide) tw.ctrl_floor
  exact ⟨List.nodup_append.2 ⟨snd, hnd, fun x hx y hy e =>
      Nat.lt_irrefl _ (Nat.lt_of_le_of_lt (e ▸ (hstat x hx).2) (above y hy))⟩,
    fun x hx => (List.mem_append.1 hx).elim (fun hx => (hstat x hx).1) (hfrom x)⟩

theorem stillLoop_kept (m : Mode) (o : Offer) (ds : List Desc) (s : OState) :
    ∀ d ∈ (stillLoop m o s ds).2, d ∈ ds := by
  induction ds generalizing s with
  | nil => exact nofun
  | cons d ds ih =>
    rw [stillLoop]
    cases tryPlace m o s.rem d with
    | panic => exact fun x hx => hx
    | ok t p => exact fun x hx => List.mem_cons_of_mem _ (ih _ x hx)
    | _ => exact fun x hx =>
      (List.mem_cons.1 hx).elim (fun e => e ▸ List.mem_cons_self) fun hx => List.mem_cons_of_mem _ (ih _ x hx)

theorem preprocess_sub (offers : List Offer) (ds : List Desc) :
    (∀ e ∈ (preprocess offers ds).1, e.2 ∈ ds) ∧ (∀ d ∈ (preprocess offers ds).2.1, d ∈ ds) := by
  fun_induction preprocess offers ds with
  | case1 => exact ⟨nofun, nofun⟩
  | case2 d ds pm still und x _ _ ih =>  -- no machine required
    rw [x] at ih
    exact ⟨fun e he => List.mem_cons_of_mem _ (ih.1 e he),
      fun y hy => (List.mem_cons.1 hy).elim (· ▸ List.mem_cons_self) fun hy => List.mem_cons_of_mem _ (ih.2 y hy)⟩
  | case3 d ds pm still und x _ _ o _ ih =>  -- pre-matched to the offer of its machine
    rw [x] at ih
    exact ⟨fun e he => (List.mem_cons.1 he).elim (· ▸ List.mem_cons_self) fun he => List.mem_cons_of_mem _ (ih.1 e he),
      fun y hy => List.mem_cons_of_mem _ (ih.2 y hy)⟩
  | case4 d ds pm still und x _ _ _ ih =>  -- no offer of its machine
    rw [x] at ih
    exact ⟨fun e he => List.mem_cons_of_mem _ (ih.1 e he), fun y hy => List.mem_cons_of_mem _ (ih.2 y hy)⟩

/-- One offer: the round's state is unchanged, or the offer's state `s` came from the fresh state by `tryStep`s on
    pre-matched or still undeployed descriptors, so whatever those keep holds of it, and the handling either
    crashed or is answered by an ACCEPT. -/
theorem handleOffer_cases (m : Mode) (pm : List (Nat × Desc)) (st : RState) (o : Offer) {P : OState → Prop}
    (hstep : ∀ s, P s → ∀ d, (∃ e ∈ pm, e.2 = d) ∨ d ∈ st.still → P (tryStep m o s d))
    (h0 : P { rem := o.res, launches := [], used := false, crashed := false }) :
    handleOffer m pm st o = st ∨
    ∃ s still und, P s ∧ (∀ d ∈ still, d ∈ st.still) ∧
      (handleOffer m pm st o = { st with und := und, still := still, crashed := true } ∧ s.crashed = true ∨
       handleOffer m pm st o =
         { still := still, und := und, accepts := st.accepts ++ [⟨o.oid, s.launches⟩],
           usedIds := if s.used then st.usedIds ++ [o.oid] else st.usedIds, crashed := false }) := by
  by_cases hcr : st.crashed = true
  · exact .inl (by rw [handleOffer, if_pos hcr])
  right
  generalize hH : handleOffer m pm st o = H
  rw [handleOffer, if_neg hcr] at hH
  dsimp only at hH
  have p1 := (loops_induct m o ((pm.filter (fun e => e.1 = o.oid)).map (·.2)) (fun s hs d hd => hstep s hs d (.inl (by
      obtain ⟨e, he, rfl⟩ := List.mem_map.1 hd; exact ⟨e, (List.mem_filter.1 he).1, rfl⟩))) _ h0).1
  generalize prematchLoop m o { rem := o.res, launches := [], used := false, crashed := false }
    ((pm.filter (fun e => e.1 = o.oid)).map (·.2)) = r1 at p1 hH
  obtain ⟨s1, und1⟩ := r1
  dsimp only at p1 hH
  by_cases hc1 : s1.crashed = true
  · rw [if_pos hc1] at hH
    exact ⟨s1, st.still, st.und ++ und1, p1, fun _ h => h, .inl ⟨hH.symm, hc1⟩⟩
  rw [if_neg hc1] at hH
  by_cases hu : (st.und ++ und1).isEmpty = true
  · rw [if_pos hu] at hH
    have p2 := (loops_induct m o st.still.reverse (fun s hs d hd => hstep s hs d (.inr (List.mem_reverse.1 hd))) s1 p1).2
    have kept := stillLoop_kept m o st.still.reverse s1
    generalize stillLoop m o s1 st.still.reverse = r2 at p2 kept hH
    obtain ⟨s2, keptRev⟩ := r2
    dsimp only at hH
    refine ⟨s2, keptRev.reverse, st.und ++ und1, p2,
      fun d hd => List.mem_reverse.1 (kept d (List.mem_reverse.1 hd)), ?_⟩
    by_cases hc2 : s2.crashed = true
    · rw [if_pos hc2] at hH; exact .inl ⟨hH.symm, hc2⟩
    · rw [if_neg hc2] at hH; exact .inr hH.symm
  · rw [if_neg hu, if_neg hc1] at hH
    exact ⟨s1, st.still, st.und ++ und1, p1, fun _ h => h, .inr hH.symm⟩

theorem mem_usedIds {used : Bool} {ids : List Nat} {oid i : Nat} :
    i ∈ (if used then ids ++ [oid] else ids) ↔ i ∈ ids ∨ used = true ∧ i = oid := by
  cases used <;> simp

structure RInv (m : Mode) (descs : List Desc) (order : List Offer) (st : RState) : Prop where
  still : ∀ d ∈ st.still, d ∈ descs
  accepts : ∀ a ∈ st.accepts, ∃ o ∈ order, a.oid = o.oid ∧ PerOffer m o a.launches
  used : ∀ i ∈ st.usedIds, ∃ a ∈ st.accepts, a.oid = i
  launched : ∀ a ∈ st.accepts, a.launches ≠ [] → a.oid ∈ st.usedIds

theorem handleOffer_inv (m : Mode) (descs : List Desc) (order : List Offer) (pm : List (Nat × Desc))
    (hpm : ∀ e ∈ pm, e.2 ∈ descs) (hsv : staticValid m descs = true)
    (st : RState) (o : Offer) (ho : o ∈ order) (hv : OValid o.res.ports = true)
    (h : RInv m descs order st) : RInv m descs order (handleOffer m pm st o) := by
  have hdesc : ∀ d, (∃ e ∈ pm, e.2 = d) ∨ d ∈ st.still → d ∈ descs := fun d hd =>
    hd.elim (fun ⟨e, he, hd⟩ => hd ▸ hpm e he) (h.still d)
  rcases handleOffer_cases m pm st o (P := fun s => Inv m o s ∧ (s.launches ≠ [] → s.used = true))
      (fun s hs d hd => ⟨tryStep_inv m o s d (fun _ => staticValid_mem hsv (hdesc d hd)) hs.1, tryStep_used m o s d hs.2⟩)
      ⟨inv_init m o hv, nofun⟩ with e | ⟨s, still, und, ⟨inv, used⟩, hstill, e⟩
  · rw [e]; exact h
  have hstill := fun d hd => h.still d (hstill d hd)
  rcases e with ⟨e, _⟩ | e <;> rw [e]
  · exact { h with still := hstill }
  refine { still := hstill, accepts := fun a ha => ?_, used := fun i hi => ?_, launched := fun a ha hne => ?_ }
  · rcases List.mem_append.1 ha with ha | ha
    · exact h.accepts a ha
    · rw [List.mem_singleton.1 ha]; exact ⟨o, ho, rfl, inv_perOffer m o s inv⟩
  · rcases mem_usedIds.1 hi with hi | ⟨_, rfl⟩
    · exact (h.used i hi).imp fun a ha => ⟨List.mem_append_left _ ha.1, ha.2⟩
    · exact ⟨_, List.mem_append_right _ List.mem_cons_self, rfl⟩
  · rcases List.mem_append.1 ha with ha | ha
    · exact mem_usedIds.2 (.inl (h.launched a ha hne))
    · rw [List.mem_singleton.1 ha] at hne ⊢; exact mem_usedIds.2 (.inr ⟨used hne, rfl⟩)

theorem handleOffer_crashed (m : Mode) (hk : m.cfg.drawChecked = true) (pm : List (Nat × Desc)) (st : RState) (o : Offer)
    (h : st.crashed = false) : (handleOffer m pm st o).crashed = false := by
  rcases handleOffer_cases m pm st o (P := fun s => s.crashed = false)
      (fun s hs d _ => (tryStep_crashed m hk o s d).trans hs) rfl with e | ⟨s, still, und, this, _, e⟩
  · rw [e]; exact h
  rcases e with ⟨_, hc⟩ | e
  · exact absurd (this ▸ hc) Bool.false_ne_true
  · rw [e]

theorem round_cases (m : Mode) (offers : List Offer) (descs : List Desc) (order : List Offer) :
    ((round m offers descs order).accepts = [] ∧ (round m offers descs order).declined = offers.map (·.oid) ∧
      (round m offers descs order).crashed = false) ∨
    ∃ pm still, (∀ e ∈ pm, e.2 ∈ descs) ∧ (∀ d ∈ still, d ∈ descs) ∧
      ∃ st, st = order.foldl (handleOffer m pm)
          { still := still, und := [], accepts := [], usedIds := [], crashed := false } ∧
      round m offers descs order =
        { accepts := st.accepts, declined := (offers.map (·.oid)).filter (fun i => !st.usedIds.contains i),
          undeployed := st.still, undeployable := st.und, crashed := st.crashed } := by
  have hp := preprocess_sub offers descs
  fun_cases round m offers descs order with
  | case1 | case2 => exact .inl ⟨rfl, rfl, rfl⟩
  | case3 _ pm still und x =>
    rw [x] at hp
    exact .inr ⟨pm, still, hp.1, hp.2, _, rfl, rfl⟩

theorem round_rinv (m : Mode) (descs : List Desc) (order : List Offer) (hv : validInputs m descs order = true)
    (pm : List (Nat × Desc)) (still : List Desc) (hpm : ∀ e ∈ pm, e.2 ∈ descs) (hst : ∀ d ∈ still, d ∈ descs) :
    RInv m descs order (order.foldl (handleOffer m pm)
      { still := still, und := [], accepts := [], usedIds := [], crashed := false }) :=
  have hv := Bool.and_eq_true_iff.1 hv
  List.foldlRecOn order _ { still := hst, accepts := nofun, used := nofun, launched := nofun }
    fun st h o ho => handleOffer_inv m descs order pm hpm hv.2 st o ho (List.all_eq_true.1 hv.1 o ho) h

theorem round_accepts (m : Mode) (offers : List Offer) (descs : List Desc) (order : List Offer)
    (hv : validInputs m descs order = true) :
    ∀ a ∈ (round m offers descs order).accepts, ∃ o ∈ order, a.oid = o.oid ∧ PerOffer m o a.launches := by
  rcases round_cases m offers descs order with h | ⟨pm, still, hpm, hst, st, rfl, e⟩
  · rw [h.1]; exact nofun
  · rw [e]; exact (round_rinv m descs order hv pm still hpm hst).accepts

theorem round_no_crash (m : Mode) (hk : m.cfg.drawChecked = true) (offers : List Offer) (descs : List Desc)
    (order : List Offer) : (round m offers descs order).crashed = false := by
  rcases round_cases m offers descs order with h | ⟨pm, still, _, _, st, rfl, e⟩
  · exact h.2.2
  · rw [e]
    exact List.foldlRecOn (motive := fun st => st.crashed = false) (b := ⟨still, [], [], [], false⟩) order _ rfl
      fun st h o _ => handleOffer_crashed m hk pm st o h

theorem round_declines (m : Mode) (offers : List Offer) (descs : List Desc) (order : List Offer)
    (hv : validInputs m descs order = true) :
    let out := round m offers descs order
    (∀ o ∈ offers, o.oid ∈ out.declined ∨ ∃ a ∈ out.accepts, a.oid = o.oid) ∧
    (∀ a ∈ out.accepts, a.launches ≠ [] → a.oid ∉ out.declined) := by
  rcases round_cases m offers descs order with h | ⟨pm, still, hpm, hst, st, hst', e⟩
  · dsimp only; rw [h.1, h.2.1]; exact ⟨fun o ho => .inl (List.mem_map_of_mem ho), nofun⟩
  have inv := round_rinv m descs order hv pm still hpm hst
  rw [← hst'] at inv
  dsimp only; rw [e]
  refine ⟨fun o ho => ?_, fun a ha hne hdecl => ?_⟩
  · by_cases hused : o.oid ∈ st.usedIds
    · exact .inr (inv.used _ hused)
    · exact .inl (List.mem_filter.2 ⟨List.mem_map_of_mem ho, by simp [hused]⟩)
  · have := (List.mem_filter.1 hdecl).2
    simp [inv.launched a ha hne] at this

theorem omem_eq (q : Nat) (ports : Option Ranges) : omem q ports = mem q (ports.getD []) := by
  cases ports <;> rfl

theorem nodupNat_iff (xs : List Nat) : nodupNat xs = true ↔ xs.Nodup := by
  induction xs with
  | nil => exact ⟨fun _ => .nil, fun _ => rfl⟩
  | cons x xs ih => simp [nodupNat, ih]

theorem claimsOk_iff (ports : Option Ranges) (ls : List Launch) :
    claimsOk (ports.getD []) (ls.map (·.task)) = true ↔
      (∀ p ∈ claimsOf ls, omem p ports = true) ∧ (claimsOf ls).Nodup := by
  simp only [claimsOk, List.flatMap_map, Bool.and_eq_true, List.all_eq_true, nodupNat_iff, omem_eq]; rfl

theorem drawnOk_iff (ports : Option Ranges) (ls : List Launch) :
    drawnOk (ports.getD []) (ls.map (·.task)) = true ↔
      ((∀ p ∈ drawnOf ls, omem p ports = true) ∧ (drawnOf ls).Nodup) ∧
      ∀ l ∈ ls, (∀ p ∈ l.task.dyn, 9000 ≤ p) ∧ 30000 ≤ l.task.ctrl := by
  simp only [drawnOk, List.flatMap_map, Bool.and_eq_true, List.all_eq_true, nodupNat_iff, omem_eq, List.mem_map,
    decide_eq_true_eq, forall_exists_index, and_imp, forall_apply_eq_imp_iff₂]; rfl

/-- An offer that lacks cpus or memory takes no launch at all, since none would be covered. -/
theorem sumOk_of_good (m : Mode) (o : Offer) (ls : List Launch) (hg : ∀ l ∈ ls, Good m o l)
    (hs : cpuSum ls ≤ avail o.res.cpu ∧ memSum ls ≤ avail o.res.mem) : sumOk o.res (ls.map (·.task)) = true := by
  unfold sumOk
  cases ls with
  | nil => cases o.res.cpu <;> cases o.res.mem <;> simp
  | cons l ls =>
    obtain ⟨c, _, _, hcov, _⟩ := (hg l List.mem_cons_self).out
    obtain ⟨cc, mm, _, hc, hm, _⟩ := (covers_iff _ _).1 hcov
    rw [hc, hm] at hs ⊢
    simp only [List.map_map, Bool.and_eq_true, decide_eq_true_eq]
    exact hs

theorem findOffer_unique (offers : List Offer) (o : Offer) (ho : o ∈ offers)
    (hu : (offers.map (·.oid)).Nodup) : findOffer offers o.oid = some o :=
  List.find?_key hu ho fun _ => decide_eq_true_iff

end Placement
