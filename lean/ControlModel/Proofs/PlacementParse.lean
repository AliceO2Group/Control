/-
  Proofs/PlacementParse — `RangesFromExpression` reads back what a template
  writes (core Lean only). The printer of numbers is core's `Nat.toDigits 10` and
  the reader, on digits, core's `Nat.ofDigitChars 10`, so a printed number reads
  back by `Nat.ofDigitChars_ten_toDigits`; a printed token holds none of the
  separators, so each split finds it again.
-/
import ControlModel.Model.Placement

namespace Placement

theorem digitsAux_eq (fuel n : Nat) (acc : List Char) : digitsAux fuel n acc = Nat.toDigitsCore 10 fuel n acc := by
  have digit : ∀ k : Fin 10, Char.ofNat ('0'.toNat + k.val) = Nat.digitChar k.val := by decide
  have hd : ∀ n, Char.ofNat ('0'.toNat + n % 10) = Nat.digitChar (n % 10) := fun n =>
    digit ⟨n % 10, Nat.mod_lt _ (by decide)⟩
  fun_induction digitsAux fuel n acc with
  | case1 => rfl
  | case2 _ n acc _ hz => rw [Nat.toDigitsCore, if_pos hz, ← hd]
  | case3 _ n acc _ hz ih => rw [Nat.toDigitsCore, if_neg hz, ← hd]; exact ih

theorem printNat_eq (n : Nat) : printNat n = Nat.toDigits 10 n := digitsAux_eq _ _ _

theorem digitVal_of_isDigit {c : Char} (h : c.isDigit = true) : digitVal c = some (c.toNat - '0'.toNat) :=
  if_pos (Char.isDigit_iff_toNat.mp h)

theorem parseDigits_eq (acc : Nat) (cs : List Char) (h : ∀ c ∈ cs, c.isDigit = true) :
    parseDigits acc cs = some (Nat.ofDigitChars 10 cs acc) := by
  induction cs generalizing acc with
  | nil => rfl
  | cons c cs ih =>
    rw [parseDigits, digitVal_of_isDigit (h c List.mem_cons_self), Nat.ofDigitChars_cons, Nat.mul_comm]
    exact ih _ fun x hx => h x (List.mem_cons_of_mem _ hx)

theorem isDigit_plain {c : Char} (h : c.isDigit = true) : c ≠ ',' ∧ c ≠ '-' ∧ isSpace c = false := by
  refine ⟨?_, ?_, ?_⟩
  · rintro rfl; cases h
  · rintro rfl; cases h
  · have h' : 48 ≤ c.toNat ∧ c.toNat ≤ 57 := Char.isDigit_iff_toNat.mp h
    simp only [isSpace, Bool.or_eq_false_iff, Bool.and_eq_false_iff, decide_eq_false_iff_not]
    omega

theorem printNat_digits (n : Nat) : ∀ c ∈ printNat n, c.isDigit = true := fun c hc =>
  Nat.isDigit_of_mem_toDigits (by decide) (by decide) (printNat_eq n ▸ hc)

theorem printNat_ne_nil (n : Nat) : printNat n ≠ [] := printNat_eq n ▸ Nat.toDigits_ne_nil

theorem parseUint_printNat (n : Nat) (h : n < 2 ^ 64) : parseUint (printNat n) = some n := by
  have hp : parseDigits 0 (printNat n) = some n := by
    rw [parseDigits_eq 0 _ (printNat_digits n), printNat_eq, Nat.ofDigitChars_ten_toDigits]
  unfold parseUint
  cases hx : printNat n with
  | nil => exact absurd hx (printNat_ne_nil n)
  | cons c cs => rw [hx] at hp; simp only [hp, h, if_true]

theorem splitOn_ne_nil (sep : Char) (s : List Char) : splitOn sep s ≠ [] := by
  fun_cases splitOn sep s <;> exact nofun

theorem splitOn_single (sep : Char) (tok : List Char) (h : ∀ c ∈ tok, c ≠ sep) : splitOn sep tok = [tok] := by
  induction tok with
  | nil => rfl
  | cons c cs ih =>
    rw [splitOn, if_neg (h c List.mem_cons_self), ih fun x hx => h x (List.mem_cons_of_mem _ hx)]

theorem splitOn_append (sep : Char) (tok rest : List Char) (h : ∀ c ∈ tok, c ≠ sep) :
    splitOn sep (tok ++ sep :: rest) = tok :: splitOn sep rest := by
  induction tok with
  | nil => rw [List.nil_append, splitOn, if_pos rfl]
  | cons c cs ih =>
    rw [List.cons_append, splitOn, if_neg (h c List.mem_cons_self), ih fun x hx => h x (List.mem_cons_of_mem _ hx)]

theorem trimSpace_id (s : List Char) (h : ∀ c ∈ s, isSpace c = false) : trimSpace s = s := by
  have trimLeft_id : ∀ s : List Char, (∀ c ∈ s, isSpace c = false) → trimLeft s = s := fun s h => by
    cases s with
    | nil => rfl
    | cons c cs => rw [trimLeft, h c List.mem_cons_self]; rfl
  rw [trimSpace, trimLeft_id s h, trimLeft_id _ fun c hc => h c (List.mem_reverse.1 hc), List.reverse_reverse]

/-- a printed range holds digits and at most one '-' -/
theorem printRange_chars (r : Range) : ∀ c ∈ printRange r, c ≠ ',' ∧ isSpace c = false := by
  have hn := fun n c hc => isDigit_plain (printNat_digits n c hc)
  intro c
  fun_cases printRange r with
  | case1 => exact fun hc => ⟨(hn _ c hc).1, (hn _ c hc).2.2⟩
  | case2 =>
    rw [List.mem_append, List.mem_cons]
    rintro (h | h | h)
    · exact ⟨(hn _ c h).1, (hn _ c h).2.2⟩
    · rw [h]; decide
    · exact ⟨(hn _ c h).1, (hn _ c h).2.2⟩

theorem parseItem_printRange (fixed : Bool) (r : Range) (hf : fixed = true ∨ r.1 = r.2)
    (h1 : r.1 < 2 ^ 64) (h2 : r.2 < 2 ^ 64) :
    parseItem fixed (printRange r) = some r := by
  have nodash := fun n c hc => (isDigit_plain (printNat_digits n c hc)).2.1
  rw [parseItem, trimSpace_id _ fun c hc => (printRange_chars r c hc).2]
  fun_cases printRange r with
  | case1 he =>
    rw [splitOn_single '-' _ (nodash _)]
    simp only [parseUint_printNat r.1 h1, Option.map_some]
    exact congrArg some (Prod.ext rfl he)
  | case2 he =>
    cases hf.resolve_right he
    rw [splitOn_append '-' _ _ (nodash _), splitOn_single '-' _ (nodash _)]
    simp only [parseUint_printNat r.1 h1, parseUint_printNat r.2 h2, if_true]

theorem parseItems_printRanges (fixed : Bool) (r : Range) (rs : Ranges)
    (h : ∀ x ∈ r :: rs, parseItem fixed (printRange x) = some x) :
    parseItems fixed (splitOn ',' (printRanges (r :: rs))) = some (r :: rs) := by
  have nocomma := fun r c hc => (printRange_chars r c hc).1
  induction rs generalizing r with
  | nil => rw [printRanges, splitOn_single ',' _ (nocomma r), parseItems, h r List.mem_cons_self]; rfl
  | cons s rest ih =>
    rw [printRanges, splitOn_append ',' _ _ (nocomma r), parseItems, h r List.mem_cons_self]
    · simp only
      rw [ih s fun x hx => h x (List.mem_cons_of_mem _ hx)]
      rfl
    · exact nofun

theorem printRanges_chars (rs : Ranges) : ∀ c ∈ printRanges rs, isSpace c = false := by
  induction rs with
  | nil => exact nofun
  | cons r rest ih =>
    cases rest with
    | nil => exact fun c hc => (printRange_chars r c hc).2
    | cons s rest' =>
      intro c hc
      rw [printRanges, List.mem_append, List.mem_cons] at hc
      · rcases hc with h | h | h
        · exact (printRange_chars r c h).2
        · rw [h]; decide
        · exact ih c h
      · exact nofun

theorem printRanges_ne_nil (r : Range) (rs : Ranges) : printRanges (r :: rs) ≠ [] := by
  have : printRange r ≠ [] := by
    fun_cases printRange r with
    | case1 => exact printNat_ne_nil _
    | case2 => exact List.append_ne_nil_of_left_ne_nil (printNat_ne_nil _) _
  cases rs with
  | nil => exact this
  | cons s rest => rw [printRanges]; exact List.append_ne_nil_of_left_ne_nil this _; exact nofun

theorem parseRanges_printRanges (fixed : Bool) (rs : Ranges) (hf : fixed = true ∨ ∀ x ∈ rs, x.1 = x.2)
    (h : ∀ x ∈ rs, x.1 < 2 ^ 64 ∧ x.2 < 2 ^ 64) :
    parseRanges fixed (printRanges rs) = some rs := by
  cases rs with
  | nil => rfl
  | cons r rest =>
    rw [parseRanges, trimSpace_id _ (printRanges_chars (r :: rest)),
      if_neg (by rw [List.isEmpty_iff]; exact printRanges_ne_nil r rest)]
    exact parseItems_printRanges fixed r rest fun x hx =>
      parseItem_printRange fixed x (hf.imp id fun h' => h' x hx) (h x hx).1 (h x hx).2

end Placement
