/-
  Proofs/PlacementPorts — port ranges and resources (core Lean only).

  A list of ranges is read as the set of ports it denotes (`mem p rs`). Each
  operation of mesos-go's `Ranges` and of makeTaskForMesosResources gets one
  lemma saying what it does to that set, and that it keeps the list canonical;
  `Resources.Satisfy` and the scalar bookkeeping follow.
-/
import ControlModel.Model.Placement
import ControlModel.Spec.C05

namespace Placement

theorem memR_iff (p : Nat) (r : Range) : memR p r = true ↔ r.1 ≤ p ∧ p ≤ r.2 := by
  simp [memR]

theorem mem_nil (p : Nat) : mem p [] = false := rfl

theorem mem_cons (p : Nat) (r : Range) (rs : Ranges) : mem p (r :: rs) = (memR p r || mem p rs) :=
  List.any_cons

theorem mem_append (p : Nat) (xs ys : Ranges) : mem p (xs ++ ys) = (mem p xs || mem p ys) :=
  List.any_append

theorem mem_iff (p : Nat) (rs : Ranges) : mem p rs = true ↔ ∃ r ∈ rs, memR p r = true :=
  List.any_eq_true

theorem valid_cons (r : Range) (rs : Ranges) : Valid (r :: rs) = true ↔ r.1 ≤ r.2 ∧ Valid rs = true := by
  simp [Valid]

theorem canonFrom_cons (lo : Nat) (r : Range) (rs : Ranges) :
    CanonFrom lo (r :: rs) = true ↔ lo ≤ r.1 ∧ r.1 ≤ r.2 ∧ CanonFrom (r.2 + 2) rs = true := by
  simp [CanonFrom, and_assoc]

theorem insertR_perm (r : Range) (rs : Ranges) : (insertR r rs).Perm (r :: rs) := by
  fun_induction insertR r rs with
  | case1 | case3 => exact .refl _
  | case2 x xs _ ih => exact (ih.cons x).trans (.swap ..)

theorem sortR_perm (rs : Ranges) : (sortR rs).Perm rs := by
  induction rs with
  | nil => exact .refl _
  | cons r rs ih => exact (insertR_perm r _).trans (ih.cons r)

theorem mem_sortR (p : Nat) (rs : Ranges) : mem p (sortR rs) = mem p rs := by
  rw [Bool.eq_iff_iff]; simp only [mem_iff, (sortR_perm rs).mem_iff]

theorem valid_sortR (rs : Ranges) : Valid (sortR rs) = Valid rs := by
  rw [Bool.eq_iff_iff]; simp only [Valid, List.all_eq_true, (sortR_perm rs).mem_iff]

theorem insertR_sorted (r : Range) (rs : Ranges) (h : rs.Pairwise (·.1 ≤ ·.1)) :
    (insertR r rs).Pairwise (·.1 ≤ ·.1) := by
  fun_induction insertR r rs with
  | case1 => exact List.pairwise_singleton _ _
  | case2 x xs hl ih =>
    rw [List.pairwise_cons] at h
    simp only [lessR, Bool.or_eq_true, Bool.and_eq_true, decide_eq_true_eq] at hl
    refine List.pairwise_cons.2 ⟨fun y hy => ?_, ih h.2⟩
    rcases List.mem_cons.1 ((insertR_perm r xs).mem_iff.1 hy) with rfl | hy
    · omega
    · exact h.1 y hy
  | case3 x xs hl =>
    simp only [lessR, Bool.or_eq_true, Bool.and_eq_true, decide_eq_true_eq] at hl
    have hrx : r.1 ≤ x.1 := by omega
    refine List.pairwise_cons.2 ⟨fun y hy => ?_, h⟩
    rcases List.mem_cons.1 hy with rfl | hy
    · exact hrx
    · exact Nat.le_trans hrx (List.rel_of_pairwise_cons h hy)

theorem sortR_sorted (rs : Ranges) : (sortR rs).Pairwise (·.1 ≤ ·.1) := by
  induction rs with
  | nil => exact .nil
  | cons r rs ih => exact insertR_sorted r _ ih

theorem canonFrom_mono {lo lo' : Nat} (rs : Ranges) (h : CanonFrom lo rs = true) (hl : lo' ≤ lo) :
    CanonFrom lo' rs = true := by
  cases rs with
  | nil => rfl
  | cons r rs => rw [canonFrom_cons] at h ⊢; exact ⟨by omega, h.2⟩

theorem canonFrom_valid {lo : Nat} (rs : Ranges) (h : CanonFrom lo rs = true) : Valid rs = true := by
  induction rs generalizing lo with
  | nil => rfl
  | cons r rs ih => rw [canonFrom_cons] at h; exact (valid_cons r rs).2 ⟨h.2.1, ih h.2.2⟩

theorem squashAux_spec (cur : Range) (rest : Ranges)
    (hv : cur.1 ≤ cur.2) (hvr : Valid rest = true) (hs : (cur :: rest).Pairwise (·.1 ≤ ·.1)) :
    CanonFrom cur.1 (squashAux cur rest) = true ∧
    ∀ p, mem p (squashAux cur rest) = (memR p cur || mem p rest) := by
  induction rest generalizing cur with
  | nil => exact ⟨(canonFrom_cons _ _ _).2 ⟨Nat.le_refl _, hv, rfl⟩, fun p => rfl⟩
  | cons r rest ih =>
    rw [valid_cons] at hvr
    rw [List.pairwise_cons] at hs
    have hcr : cur.1 ≤ r.1 := hs.1 r List.mem_cons_self
    rw [squashAux]
    by_cases hgap : 1 + cur.2 < r.1
    · rw [if_pos hgap]
      obtain ⟨c1, m1⟩ := ih r hvr.1 hvr.2 hs.2
      exact ⟨(canonFrom_cons _ _ _).2 ⟨Nat.le_refl _, hv, canonFrom_mono _ c1 (by omega)⟩,
        fun p => by rw [mem_cons, m1, mem_cons]⟩
    rw [if_neg hgap]
    -- `r` begins inside `cur` or right after it: the two are one range, from `cur.1` to the larger end
    have merge : ∀ e, cur.1 ≤ e → (∀ p, memR p (cur.1, e) = (memR p cur || memR p r)) →
        CanonFrom cur.1 (squashAux (cur.1, e) rest) = true ∧
        ∀ p, mem p (squashAux (cur.1, e) rest) = (memR p cur || mem p (r :: rest)) := fun e he hm => by
      obtain ⟨c1, m1⟩ := ih (cur.1, e) he hvr.2 (List.pairwise_cons.2
        ⟨fun y hy => hs.1 y (List.mem_cons_of_mem _ hy), (List.pairwise_cons.1 hs.2).2⟩)
      exact ⟨c1, fun p => by rw [m1, hm, mem_cons, Bool.or_assoc]⟩
    by_cases hle : cur.2 ≤ r.2
    · rw [if_pos hle]
      exact merge r.2 (by omega) fun p => by
        rw [Bool.eq_iff_iff]; simp only [Bool.or_eq_true, memR_iff]; omega
    · rw [if_neg hle]
      exact merge cur.2 hv fun p => by
        rw [Bool.eq_iff_iff]; simp only [Bool.or_eq_true, memR_iff]; omega

theorem normalize_spec (rs : Ranges) (hv : Valid rs = true) :
    Canonical (normalize rs) = true ∧ ∀ p, mem p (normalize rs) = mem p rs := by
  unfold normalize Canonical
  have hv' : Valid (sortR rs) = true := by rw [valid_sortR]; exact hv
  have hs := sortR_sorted rs
  have hm := fun p => mem_sortR p rs
  generalize sortR rs = xs at hv' hs hm
  cases xs with
  | nil => exact ⟨rfl, hm⟩
  | cons r rest =>
    rw [valid_cons] at hv'
    obtain ⟨c, m⟩ := squashAux_spec r rest hv'.1 hv'.2 hs
    exact ⟨canonFrom_mono _ c (Nat.zero_le _), fun p => by rw [squash, m, ← mem_cons, hm]⟩

theorem squash_canon {lo : Nat} (rs : Ranges) (h : CanonFrom lo rs = true) : squash rs = rs := by
  cases rs with
  | nil => rfl
  | cons r rs =>
    rw [squash]
    induction rs generalizing r lo with
    | nil => rfl
    | cons s rest ih =>
      rw [canonFrom_cons, canonFrom_cons] at h
      rw [squashAux, if_pos (by omega), ih s ((canonFrom_cons _ _ _).2 h.2.2)]

/-- Each range `r` of the list is replaced by the at most two pieces of it outside `rem`. -/
theorem removeCore_spec {lo : Nat} (rem : Range) (rs : Ranges) (hr : rem.1 ≤ rem.2)
    (h : CanonFrom lo rs = true) :
    CanonFrom lo (removeCore rem rs) = true ∧
    ∀ p, mem p (removeCore rem rs) = (mem p rs && !memR p rem) := by
  induction rs generalizing lo with
  | nil => exact ⟨rfl, fun _ => rfl⟩
  | cons r rs ih =>
    rw [canonFrom_cons] at h
    obtain ⟨ic, im⟩ := ih h.2.2
    have key : ∀ pieces : Ranges,
        (∀ p, mem p pieces = true ↔ (r.1 ≤ p ∧ p ≤ r.2) ∧ ¬ (rem.1 ≤ p ∧ p ≤ rem.2)) →
        ∀ p, mem p (pieces ++ removeCore rem rs) = (mem p (r :: rs) && !memR p rem) := by
      intro pieces hp p
      rw [mem_append, im, mem_cons, Bool.and_or_distrib_right]
      congr 1
      rw [Bool.eq_iff_iff, hp, Bool.and_eq_true, Bool.not_eq_true', ← Bool.not_eq_true, memR_iff, memR_iff]
    rw [removeCore]
    by_cases h1 : rem.1 ≤ r.1 ∧ r.2 ≤ rem.2
    · rw [if_pos h1]
      exact ⟨canonFrom_mono _ ic (by omega), key [] fun p => by simp only [mem_nil, Bool.false_eq_true, false_iff]; omega⟩
    rw [if_neg h1]
    by_cases h2 : r.1 < rem.1 ∧ rem.2 < r.2
    · rw [if_pos h2]
      exact ⟨by simp only [canonFrom_cons]; exact ⟨h.1, by omega, by omega, by omega, ic⟩,
        key [_, _] fun p => by simp only [mem_cons, mem_nil, Bool.or_false, Bool.or_eq_true, memR_iff]; omega⟩
    rw [if_neg h2]
    by_cases h3 : r.2 < rem.1 ∨ rem.2 < r.1
    · rw [if_pos h3]
      exact ⟨(canonFrom_cons _ _ _).2 ⟨h.1, h.2.1, ic⟩,
        key [_] fun p => by simp only [mem_cons, mem_nil, Bool.or_false, memR_iff]; omega⟩
    rw [if_neg h3]
    by_cases h4 : rem.2 < r.2
    · rw [if_pos h4]
      exact ⟨(canonFrom_cons _ _ _).2 ⟨by omega, by omega, ic⟩,
        key [_] fun p => by simp only [mem_cons, mem_nil, Bool.or_false, memR_iff]; omega⟩
    · rw [if_neg h4]
      exact ⟨(canonFrom_cons _ _ _).2 ⟨h.1, by omega, canonFrom_mono _ ic (by omega)⟩,
        key [_] fun p => by simp only [mem_cons, mem_nil, Bool.or_false, memR_iff]; omega⟩

theorem remove_spec (rs : Ranges) (rem : Range) (hr : rem.1 ≤ rem.2) (h : Canonical rs = true) :
    Canonical (remove rs rem) = true ∧ ∀ p, mem p (remove rs rem) = (mem p rs && !memR p rem) := by
  have hc := removeCore_spec rem rs hr h
  rw [remove, squash_canon _ hc.1]
  exact hc

theorem expand_cons (r : Range) (rs : Ranges) :
    expand (r :: rs) = List.range' r.1 (r.2 + 1 - r.1) ++ expand rs := List.flatMap_cons

theorem mem_expand (x : Nat) (rs : Ranges) : x ∈ expand rs ↔ mem x rs = true := by
  simp only [expand, List.mem_flatMap, mem_iff, memR_iff, List.mem_range'_1]
  exact ⟨fun ⟨r, hr, h⟩ => ⟨r, hr, by omega⟩, fun ⟨r, hr, h⟩ => ⟨r, hr, by omega⟩⟩

theorem expand_canon {lo : Nat} (rs : Ranges) (h : CanonFrom lo rs = true) :
    (expand rs).Pairwise (· < ·) ∧ ∀ x ∈ expand rs, lo ≤ x := by
  induction rs generalizing lo with
  | nil => exact ⟨.nil, fun _ hx => nomatch hx⟩
  | cons r rs ih =>
    rw [canonFrom_cons] at h
    obtain ⟨p1, p2⟩ := ih h.2.2
    simp only [expand_cons, List.pairwise_append, List.mem_append, List.mem_range'_1]
    refine ⟨⟨List.pairwise_lt_range', p1, fun a ha b hb => ?_⟩, fun x hx => ?_⟩
    · have := p2 b hb; omega
    · rcases hx with hx | hx
      · omega
      · have := p2 x hx; omega

theorem size_eq_length_expand (rs : Ranges) (h : Valid rs = true) : size rs = (expand rs).length := by
  induction rs with
  | nil => rfl
  | cons r rs ih =>
    rw [valid_cons] at h
    rw [size, expand_cons, List.length_append, List.length_range', ih h.2]; omega

/-- `Ranges.Size` after `Sort().Squash()` counts the ports the list denotes. -/
theorem size_normalize_le (a b : Ranges) (ha : Valid a = true) (hb : Valid b = true)
    (h : ∀ q, mem q a = true → mem q b = true) : size (normalize a) ≤ size (normalize b) := by
  obtain ⟨ca, ma⟩ := normalize_spec a ha
  obtain ⟨cb, mb⟩ := normalize_spec b hb
  rw [size_eq_length_expand _ (canonFrom_valid _ ca), size_eq_length_expand _ (canonFrom_valid _ cb)]
  refine List.Nodup.length_le_of_subset ((expand_canon _ ca).1.imp Nat.ne_of_lt) fun x hx => ?_
  rw [mem_expand, ma] at hx
  rw [mem_expand, mb]
  exact h x hx

theorem staticPorts_spec (static : Ranges) (hv : Valid static = true) :
    (expand (normalize static)).Nodup ∧ ∀ x, x ∈ expand (normalize static) ↔ mem x static = true := by
  obtain ⟨hcn, hmn⟩ := normalize_spec static hv
  exact ⟨(expand_canon _ hcn).1.imp Nat.ne_of_lt, fun x => by rw [mem_expand, hmn]⟩

/-- `a` is what is left of `b` after some draws -/
def Sub (a b : Option Ranges) : Prop :=
  OValid a = true ∧ (∀ q, omem q a = true → omem q b = true) ∧ osize a ≤ osize b ∧ (a.isSome = true → b.isSome = true)

theorem Sub.valid {a b : Option Ranges} (h : Sub a b) : OValid a = true := h.1

theorem Sub.subset {a b : Option Ranges} (h : Sub a b) : ∀ q, omem q a = true → omem q b = true := h.2.1

theorem Sub.refl (a : Option Ranges) (h : OValid a = true) : Sub a a := ⟨h, fun _ h => h, Nat.le_refl _, id⟩

theorem Sub.trans {a b c : Option Ranges} (h1 : Sub a b) (h2 : Sub b c) : Sub a c :=
  ⟨h1.valid, fun q h => h2.subset q (h1.subset q h), Nat.le_trans h1.2.2.1 h2.2.2.1, fun h => h2.2.2.2 (h1.2.2.2 h)⟩

/-- Fewer ports are fewer in number: nothing but the ports denoted matters for `Sub`. -/
theorem Sub.of_subset {a b : Option Ranges} (ha : OValid a = true) (hb : OValid b = true)
    (h : ∀ q, omem q a = true → omem q b = true) (hs : a.isSome = true → b.isSome = true) : Sub a b := by
  refine ⟨ha, h, ?_, hs⟩
  cases a with
  | none => exact Nat.zero_le _
  | some pa =>
    cases b with
    | none => cases hs rfl
    | some pb => exact size_normalize_le pa pb ha hb h

theorem Sub.of_eq {a b : Option Ranges} {f : Nat → Bool} (ha : OValid a = true) (hb : OValid b = true)
    (h : ∀ q, omem q a = (omem q b && f q)) (hs : a.isSome = true → b.isSome = true) : Sub a b :=
  .of_subset ha hb (fun q hq => by rw [h, Bool.and_eq_true] at hq; exact hq.1) hs

/-- The list a `Value_Ranges.Subtract` starts from. -/
theorem startList_spec (ps : Ranges) (hv : Valid ps = true) :
    Canonical (if 1 < ps.length then normalize ps else ps) = true ∧
    ∀ q, mem q (if 1 < ps.length then normalize ps else ps) = mem q ps := by
  by_cases hl : 1 < ps.length
  · rw [if_pos hl]; exact normalize_spec ps hv
  · rw [if_neg hl]
    refine ⟨?_, fun _ => rfl⟩
    match ps, hl, hv with
    | [], _, _ => rfl
    | [r], _, hv => exact (canonFrom_cons _ _ _).2 ⟨Nat.zero_le _, ((valid_cons _ _).1 hv).1, rfl⟩
    | _ :: _ :: _, hl, _ => exact absurd (by simp) hl

theorem foldl_remove_spec (rs a : Ranges) (hv : Valid rs = true) (hca : Canonical a = true) :
    Canonical (rs.foldl remove a) = true ∧ ∀ q, mem q (rs.foldl remove a) = (mem q a && !mem q rs) := by
  induction rs generalizing a with
  | nil => exact ⟨hca, fun q => by rw [mem_nil]; simp⟩
  | cons r rs ih =>
    rw [valid_cons] at hv
    obtain ⟨c1, m1⟩ := remove_spec a r hv.1 hca
    obtain ⟨c2, m2⟩ := ih (remove a r) hv.2 c1
    exact ⟨c2, fun q => by rw [List.foldl_cons, m2, m1, mem_cons, Bool.not_or, Bool.and_assoc]⟩

theorem subtractRanges_spec (ps rs : Ranges) (hv : Valid ps = true) (hvr : Valid rs = true) :
    OValid (subtractRanges ps rs) = true ∧
    ∀ q, omem q (subtractRanges ps rs) = (mem q ps && !mem q rs) := by
  obtain ⟨ca, ma⟩ := startList_spec ps hv
  obtain ⟨cr, mr⟩ := foldl_remove_spec rs _ hvr ca
  simp only [ma] at mr
  simp only [subtractRanges]
  generalize rs.foldl remove _ = left at cr mr
  cases left with
  | nil => exact ⟨rfl, mr⟩
  | cons x xs => exact ⟨canonFrom_valid _ cr, mr⟩

theorem subtractPort_eq (ps : Ranges) (p : Nat) : subtractPort ps p = subtractRanges ps [(p, p)] := rfl

theorem mem_single (q p : Nat) : mem q [(p, p)] = (q == p) := by
  rw [Bool.eq_iff_iff, mem_cons, mem_nil, Bool.or_false, memR_iff, beq_iff_eq]; omega

theorem canon_head_mem {lo : Nat} (r : Range) (rs : Ranges) (h : CanonFrom lo (r :: rs) = true) :
    mem r.1 (r :: rs) = true := by
  rw [canonFrom_cons] at h
  rw [mem_cons, (memR_iff _ _).2 ⟨Nat.le_refl _, h.2.1⟩]; rfl

/-- The list a port is drawn from, `availPorts.Remove(0..below)`: the ports above the floor. -/
theorem above_spec (ps : Ranges) (hv : Valid ps = true) (below : Nat) :
    Canonical (remove (normalize ps) (0, below)) = true ∧
    ∀ q, mem q (remove (normalize ps) (0, below)) = (mem q ps && decide (below < q)) := by
  obtain ⟨hcN, hmN⟩ := normalize_spec ps hv
  obtain ⟨hcr, hmr⟩ := remove_spec (normalize ps) (0, below) (Nat.zero_le _) hcN
  refine ⟨hcr, fun q => ?_⟩
  rw [hmr, hmN]
  congr 1
  rw [Bool.eq_iff_iff, Bool.not_eq_true', ← Bool.not_eq_true, memR_iff, decide_eq_true_eq]
  omega

/-- `rest` is `ports` without the distinct ports `ps`, all of which were there. -/
structure Took (ports : Option Ranges) (ps : List Nat) (rest : Option Ranges) : Prop where
  nodup : ps.Nodup
  mem : ∀ p ∈ ps, omem p ports = true
  eq : ∀ q, omem q rest = (omem q ports && !ps.contains q)
  sub : Sub rest ports

theorem Took.nil {ports : Option Ranges} (hv : OValid ports = true) : Took ports [] ports :=
  ⟨.nil, nofun, fun q => by simp, .refl _ hv⟩

theorem Took.append {a b c : Option Ranges} {ps qs : List Nat} (h1 : Took a ps b) (h2 : Took b qs c) :
    Took a (ps ++ qs) c where
  nodup := List.nodup_append.2 ⟨h1.nodup, h2.nodup, fun x hx y hy e => by
    -- `y` was still in `b`, so it is not among `ps`
    have := h2.mem y hy
    rw [h1.eq, ← e, List.contains_eq_mem, decide_eq_true hx, Bool.not_true, Bool.and_false] at this
    cases this⟩
  mem p hp := (List.mem_append.1 hp).elim (h1.mem p) fun hp => h1.sub.subset p (h2.mem p hp)
  eq q := by rw [h2.eq, h1.eq, List.contains_append, Bool.not_or, Bool.and_assoc]
  sub := h2.sub.trans h1.sub

/-- What each outcome of a draw means. `OValid ports` stands inside the branches that use it:
    whether a draw panics does not depend on it. -/
theorem drawPort_spec (checked : Bool) (below : Nat) (ports : Option Ranges) :
    match drawPort checked below ports with
    | .ok p rest => OValid ports = true → Took ports [p] rest ∧ below < p
    | .noPorts => True
    | .panic => checked = false := by
  cases ports with
  | none => trivial
  | some ps =>
    rw [drawPort]
    cases hrem : remove (normalize ps) (0, below) with
    | nil => cases checked <;> trivial
    | cons r tl =>
      intro hv
      obtain ⟨hcr, hmr⟩ := above_spec ps hv below
      have hhead := canon_head_mem r tl (hrem ▸ hcr)
      rw [← hrem, hmr, Bool.and_eq_true, decide_eq_true_eq] at hhead
      obtain ⟨s1, s2⟩ := subtractRanges_spec ps [(r.1, r.1)] hv ((valid_cons _ _).2 ⟨Nat.le_refl _, rfl⟩)
      simp only [mem_single, ← subtractPort_eq] at s1 s2
      exact ⟨⟨List.pairwise_singleton _ _, fun q hq => List.mem_singleton.1 hq ▸ hhead.1,
        fun q => by rw [s2, List.contains_cons, List.contains_nil, Bool.or_false]; rfl, .of_eq s1 hv s2 fun _ => rfl⟩, hhead.2⟩

theorem drawPort_of_mem (checked : Bool) (below : Nat) (ports : Option Ranges) (hv : OValid ports = true)
    {q : Nat} (hq : below < q) (hm : omem q ports = true) : ∃ p rest, drawPort checked below ports = .ok p rest := by
  cases ports with
  | none => cases hm
  | some ps =>
    have hmr := (above_spec ps hv below).2 q
    rw [drawPort]
    cases hrem : remove (normalize ps) (0, below) with
    | cons r tl => exact ⟨_, _, rfl⟩
    | nil =>
      rw [hrem, show mem q ps = true from hm, decide_eq_true hq] at hmr
      cases hmr

theorem canonFrom_lb {lo : Nat} (rs : Ranges) (h : CanonFrom lo rs = true) : ∀ r ∈ rs, lo ≤ r.1 := by
  induction rs generalizing lo with
  | nil => exact fun _ hr => nomatch hr
  | cons x xs ih =>
    rw [canonFrom_cons] at h
    intro r hr
    rcases List.mem_cons.1 hr with rfl | hr
    · exact h.1
    · have := ih h.2.2 r hr; omega

/-- What `Sort().Squash()` produces passes `Resource.Validate`. -/
theorem validate_canon {lo : Nat} (rs : Ranges) (h : CanonFrom lo rs = true) : validateRanges rs = true := by
  induction rs generalizing lo with
  | nil => rfl
  | cons r rs ih =>
    rw [canonFrom_cons] at h
    simp only [validateRanges, Bool.and_eq_true, decide_eq_true_eq, List.all_eq_true, Bool.not_eq_true',
      Bool.and_eq_false_iff, decide_eq_false_iff_not]
    exact ⟨⟨h.2.1, fun r2 hr2 => by have := canonFrom_lb rs h.2.2 r2 hr2; right; omega⟩, ih h.2.2⟩

theorem reserveStatic_spec (static : Ranges) (ports : Option Ranges) (hvs : Valid static = true)
    (hv : OValid ports = true) :
    Sub (reserveStatic static ports) ports ∧
    ∀ q, omem q (reserveStatic static ports) = (omem q ports && !mem q static) := by
  cases ports with
  | none => exact ⟨.refl _ rfl, fun _ => rfl⟩
  | some ps =>
    obtain ⟨hcS, hmS⟩ := normalize_spec static hvs
    have : OValid (reserveStatic static (some ps)) = true ∧
        ∀ q, omem q (reserveStatic static (some ps)) = (mem q ps && !mem q static) := by
      simp only [reserveStatic, validate_canon _ hcS, Bool.not_true, Bool.or_false]
      by_cases he : (normalize static).isEmpty = true
      · rw [if_pos he]
        refine ⟨hv, fun q => ?_⟩
        rw [← hmS, List.isEmpty_iff.1 he, mem_nil, Bool.not_false, Bool.and_true]; rfl
      · rw [if_neg he]
        have := subtractRanges_spec ps (normalize static) hv (canonFrom_valid _ hcS)
        simpa only [hmS] using this
    exact ⟨.of_eq this.1 hv this.2 fun _ => rfl, this.2⟩

theorem tcpCount_cons_false (l : List Bool) : tcpCount (false :: l) = tcpCount l := rfl
theorem tcpCount_cons_true (l : List Bool) : tcpCount (true :: l) = tcpCount l + 1 := rfl

theorem drawDyn_no_tcp (checked : Bool) (inb : List Bool) (ports : Option Ranges) (h : tcpCount inb = 0) :
    drawDyn checked inb ports = .ok [] ports := by
  induction inb with
  | nil => rfl
  | cons b inb ih =>
    cases b with
    | false => exact ih h
    | true => rw [tcpCount_cons_true] at h; cases h

theorem drawDyn_spec (checked : Bool) (inb : List Bool) (ports : Option Ranges) :
    match drawDyn checked inb ports with
    | .ok ps rest => OValid ports = true → Took ports ps rest ∧ (∀ p ∈ ps, 9000 ≤ p) ∧ ps.length = tcpCount inb
    | .noPorts r => OValid ports = true → Sub r ports
    | .panic => checked = false := by
  induction inb generalizing ports with
  | nil => exact fun hv => ⟨.nil hv, nofun, rfl⟩
  | cons b inb ih =>
    cases b with
    | false => exact ih ports
    | true =>
      rw [drawDyn]
      have hd := drawPort_spec checked dataBelow ports
      generalize drawPort checked dataBelow ports = dr at hd
      cases dr with
      | noPorts => exact Sub.refl _
      | panic => exact hd
      | ok p ports' =>
        have hi := ih ports'
        simp only
        generalize drawDyn checked inb ports' = dd at hi
        cases dd with
        | noPorts r => exact fun hv => (hi (hd hv).1.sub.valid).trans (hd hv).1.sub
        | panic => exact hi
        | ok ps rest =>
          intro hv
          obtain ⟨d1, d2⟩ := hd hv
          obtain ⟨i1, i2, i3⟩ := hi d1.sub.valid
          exact ⟨d1.append i1, List.forall_mem_cons.2 ⟨d2, i2⟩, congrArg (· + 1) i3⟩

/-- What a task made for the wants `w` carries besides the ports it drew (the task part of `Good`). -/
structure FromWants (w : Wants) (t : Task) : Prop where
  cpu : t.cpu = w.cpu
  mem : t.mem = w.mem
  static : t.static = w.static
  dyn_length : t.dyn.length = tcpCount w.inbound
  dyn_floor : ∀ p ∈ t.dyn, 9000 ≤ p
  ctrl_floor : 30000 ≤ t.ctrl

theorem makeDraws_spec (checked : Bool) (w : Wants) (ports : Option Ranges) :
    match makeDraws checked w ports with
    | .ok t rest => OValid ports = true → FromWants w t ∧ Took ports t.drawn rest
    | .early r | .late r => OValid ports = true → Sub r ports
    | .panic => checked = false := by
  rw [makeDraws]
  have hd := drawDyn_spec checked w.inbound ports
  generalize drawDyn checked w.inbound ports = dd at hd
  cases dd with
  | noPorts r => exact hd
  | panic => exact hd
  | ok ps ports' =>
    have hc := drawPort_spec checked ctrlBelow ports'
    simp only
    generalize drawPort checked ctrlBelow ports' = dr at hc
    cases dr with
    | noPorts => exact fun hv => (hd hv).1.sub
    | panic => exact hc
    | ok c rest =>
      intro hv
      obtain ⟨d1, d2, d3⟩ := hd hv
      obtain ⟨c1, c2⟩ := hc d1.sub.valid
      exact ⟨⟨rfl, rfl, rfl, d3, d2, c2⟩, d1.append c1⟩

theorem makeTask_spec (k : Cfg) (w : Wants) (ports : Option Ranges) :
    match makeTask k w ports with
    | .ok t rest => Valid w.static = true → OValid ports = true →
        FromWants w t ∧ Sub rest ports ∧ (∀ p ∈ t.drawn, omem p ports = true) ∧ t.drawn.Nodup ∧
        (∀ q, omem q rest = (omem q ports && !(t.drawn.contains q) && !(k.staticReserved && mem q w.static))) ∧
        (k.staticReserved = true → ∀ p ∈ t.drawn, mem p w.static = false)
    | .early r | .late r => Valid w.static = true → OValid ports = true → Sub r ports
    | .panic => k.drawChecked = false := by
  -- the ports the draws start from: all of them, or all but the static ones
  have start : Valid w.static = true → OValid ports = true →
      Sub (if k.staticReserved then reserveStatic w.static ports else ports) ports ∧
      ∀ q, omem q (if k.staticReserved then reserveStatic w.static ports else ports) =
        (omem q ports && !(k.staticReserved && mem q w.static)) := fun hvs hv => by
    cases k.staticReserved with
    | false => exact ⟨.refl _ hv, fun q => by simp⟩
    | true => exact reserveStatic_spec w.static ports hvs hv
  rw [makeTask]
  generalize (if k.staticReserved then reserveStatic w.static ports else ports) = ports0 at start
  have hm := makeDraws_spec k.drawChecked w ports0
  generalize makeDraws k.drawChecked w ports0 = made at hm
  cases made with
  | early r => exact fun hvs hv => (hm (start hvs hv).1.valid).trans (start hvs hv).1
  | late r => exact fun hvs hv => (hm (start hvs hv).1.valid).trans (start hvs hv).1
  | panic => exact hm
  | ok t rest =>
    intro hvs hv
    obtain ⟨s1, s2⟩ := start hvs hv
    obtain ⟨tw, tk⟩ := hm s1.valid
    refine ⟨tw, tk.sub.trans s1, fun p hp => s1.subset p (tk.mem p hp), tk.nodup, fun q => ?_, fun hk p hp => ?_⟩
    · rw [tk.eq, s2, Bool.and_right_comm]
    · have := tk.mem p hp
      rw [s2, hk, Bool.true_and, Bool.and_eq_true, Bool.not_eq_true'] at this
      exact this.2

theorem makeTask_no_panic (k : Cfg) (hk : k.drawChecked = true) (w : Wants) (ports : Option Ranges) :
    (makeTask k w ports).isPanic = false := by
  have := makeTask_spec k w ports
  generalize makeTask k w ports = made at this
  cases made with
  | panic => exact absurd (this.symm.trans hk) nofun
  | _ => rfl

theorem rangeInside_iff (ps : Ranges) (r : Range) :
    rangeInside ps r = true ↔ ∀ p, memR p r = true → mem p ps = true := by
  simp only [rangeInside, List.all_eq_true, List.mem_range'_1, memR_iff]
  exact ⟨fun h p hp => h p (by omega), fun h p hp => h p (by omega)⟩

theorem covers_iff (r : Res) (w : Wants) :
    covers r w = true ↔ ∃ c mm ps, r.cpu = some c ∧ r.mem = some mm ∧ r.ports = some ps ∧ w.cpu ≤ c ∧ w.mem ≤ mm ∧
      (∀ s ∈ w.static, ∀ p, memR p s = true → mem p ps = true) ∧
      w.inbound.length ≤ size (normalize ps) - size (normalize w.static) := by
  constructor
  · intro h
    match r, h with
    | ⟨some c, some mm, some ps⟩, h =>
      simp only [covers, Bool.and_eq_true, decide_eq_true_eq, List.all_eq_true, rangeInside_iff] at h
      exact ⟨c, mm, ps, rfl, rfl, rfl, h.1.1.1, h.1.1.2, h.1.2, h.2⟩
  · rintro ⟨c, mm, ps, hc, hm, hp, h⟩
    obtain ⟨_, _, _⟩ := r
    subst hc hm hp
    simpa only [covers, Bool.and_eq_true, decide_eq_true_eq, List.all_eq_true, rangeInside_iff, and_assoc] using h

theorem compareR_inside (x y : Ranges) (hx : Valid x = true) (hy : Valid y = true) (h : compareR x y = -1) :
    ∀ p, mem p x = true → mem p y = true := by
  obtain ⟨_, mx⟩ := normalize_spec x hx
  obtain ⟨_, my⟩ := normalize_spec y hy
  revert h
  fun_cases compareR x y with
  | case1 | case3 => exact nofun
  | case2 _ _ _ hall =>
    intro _ p hp
    rw [← mx, mem_iff] at hp
    obtain ⟨a, ha, hpa⟩ := hp
    obtain ⟨b, hb, hab⟩ := List.any_eq_true.1 (List.all_eq_true.1 hall a ha)
    rw [← my, mem_iff]
    refine ⟨b, hb, ?_⟩
    rw [Bool.and_eq_true, decide_eq_true_eq, decide_eq_true_eq] at hab
    rw [memR_iff] at hpa ⊢
    omega

theorem resSatisfy_covers (r : Res) (w : Wants) (hvs : Valid w.static = true) (hvp : OValid r.ports = true)
    (h : resSatisfy r w = true) : covers r w = true := by
  obtain ⟨_ | c, _ | mm, _ | ps⟩ := r <;> try (simp [resSatisfy] at h; done)
  simp only [resSatisfy, Bool.if_false_left, Bool.and_eq_true, Bool.not_eq_true', decide_eq_false_iff_not,
    Classical.not_not, Bool.and_true] at h
  obtain ⟨cs, ms⟩ := normalize_spec w.static hvs
  obtain ⟨cp, mp⟩ := normalize_spec ps hvp
  have hin := compareR_inside _ _ (canonFrom_valid _ cs) (canonFrom_valid _ cp) h.2.2.1
  refine (covers_iff _ _).2 ⟨c, mm, ps, rfl, rfl, rfl, by omega, by omega, fun s hs p hp => ?_, by omega⟩
  rw [← mp]
  exact hin p (by rw [ms, mem_iff]; exact ⟨s, hs, hp⟩)

/-- `a` is a scalar that came from `b` by subtractions. -/
def OLe (a b : Option Nat) : Prop := ∀ x, a = some x → ∃ y, b = some y ∧ x ≤ y

theorem OLe.refl (a : Option Nat) : OLe a a := fun x h => ⟨x, h, Nat.le_refl _⟩

theorem OLe.trans {a b c : Option Nat} (h1 : OLe a b) (h2 : OLe b c) : OLe a c := fun x hx =>
  have ⟨y, hy, hxy⟩ := h1 x hx
  have ⟨z, hz, hyz⟩ := h2 y hy
  ⟨z, hz, Nat.le_trans hxy hyz⟩

def avail (a : Option Nat) : Nat := a.getD 0

theorem subScalar_le (a : Option Nat) (x : Nat) : OLe (subScalar a x) a := by
  fun_cases subScalar a x with
  | case1 | case2 => exact .refl _
  | case3 => exact nofun
  | case4 _ c hz => exact fun y hy => ⟨c, rfl, by cases hy; omega⟩

theorem avail_subScalar (a : Option Nat) (x : Nat) : avail (subScalar a x) = avail a - x := by
  fun_cases subScalar a x with
  | case1 _ hx => rw [hx]; rfl
  | case2 => exact (Nat.zero_sub x).symm
  | case3 _ _ hz => exact hz.symm
  | case4 => rfl

theorem afterLaunch_le (k : Cfg) (rem : Res) (t : Task) (p : Option Ranges) :
    OLe (afterLaunch k rem t p).cpu rem.cpu ∧ OLe (afterLaunch k rem t p).mem rem.mem ∧
    (afterLaunch k rem t p).ports = p := by
  rw [afterLaunch]
  cases k.scalarsSubtracted
  · exact ⟨.refl _, .refl _, rfl⟩
  · exact ⟨subScalar_le _ _, subScalar_le _ _, rfl⟩

theorem covers_mono (rem o : Res) (w : Wants) (hc : OLe rem.cpu o.cpu) (hm : OLe rem.mem o.mem)
    (hs : Sub rem.ports o.ports) (h : covers rem w = true) : covers o w = true := by
  obtain ⟨c', m', ps', hc', hm', hp', h1, h2, h3, h4⟩ := (covers_iff _ _).1 h
  obtain ⟨c, hcpu, _⟩ := hc c' hc'
  obtain ⟨mm, hmem, _⟩ := hm m' hm'
  obtain ⟨_, s2, s3, s4⟩ := hs
  obtain ⟨ps, hp⟩ := Option.isSome_iff_exists.1 (s4 (hp' ▸ rfl))
  rw [hp', hp] at s2 s3
  exact (covers_iff _ _).2 ⟨c, mm, ps, hcpu, hmem, hp, by omega, by omega, fun s hs p hps => s2 p (h3 s hs p hps),
    Nat.le_trans h4 (Nat.sub_le_sub_right s3 _)⟩

theorem covers_scalars {r : Res} {w : Wants} (h : covers r w = true) : w.cpu ≤ avail r.cpu ∧ w.mem ≤ avail r.mem := by
  obtain ⟨c, mm, _, hc, hm, _, h1, h2, _⟩ := (covers_iff _ _).1 h
  rw [hc, hm]
  exact ⟨h1, h2⟩

theorem covers_static {r : Res} {w : Wants} (h : covers r w = true) {x : Nat} (hx : mem x w.static = true) :
    omem x r.ports = true := by
  obtain ⟨_, _, ps, _, _, hp, _, _, hin, _⟩ := (covers_iff _ _).1 h
  obtain ⟨s, hs, hxs⟩ := (mem_iff _ _).1 hx
  rw [hp]
  exact hin s hs x hxs

end Placement
