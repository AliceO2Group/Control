/-
  Proofs/PlacementStore — lemmas about the class store across workflow loads
  (Model/Placement: storeGet / storeUpdate / storeLoad / history) behind the
  C05 history theorems (core Lean only).
-/
import ControlModel.Spec.C05

namespace Placement

theorem lastLoaded_append (a b : List (Key × Class)) (k : Key) :
    lastLoaded (a ++ b) k = (match lastLoaded b k with | some d => some d | none => lastLoaded a k) := by
  induction a with
  | nil => rw [List.nil_append, lastLoaded]; cases lastLoaded b k <;> rfl
  | cons x xs ih =>
    rw [List.cons_append, lastLoaded, ih, lastLoaded]
    cases lastLoaded b k <;> rfl

theorem lastLoaded_mem (defs : List (Key × Class)) (k : Key) (c : Class) (h : lastLoaded defs k = some c) :
    (k, c) ∈ defs := by
  fun_induction lastLoaded defs k with
  | case1 => cases h
  | case2 _ _ _ _ _ x ih => exact List.mem_cons_of_mem _ (ih (x.trans h))
  | case3 => cases h; exact List.mem_cons_self
  | case4 => cases h

theorem lastLoaded_none (defs : List (Key × Class)) (k : Key) (h : ∀ d ∈ defs, d.1 ≠ k) : lastLoaded defs k = none := by
  induction defs with
  | nil => rfl
  | cons x xs ih =>
    rw [lastLoaded, ih fun d hd => h d (List.mem_cons_of_mem _ hd), if_neg (h x List.mem_cons_self)]

/-- `UpdateClass` puts the loaded class under its key and touches no other key —
    for the store that overwrites (the code) and, for a store that keeps the held
    entry when `Class.Equals` finds nothing changed, whenever `Class.Equals` is
    right about the held entry and the loaded class. -/
theorem storeGet_update (m : Mode) (s : Store) (k : Key) (c : Class)
    (hyp : m.cfg.storeOverwrites = true ∨ ∀ h, storeGet s k = some h → h.equalsCW m.rngFixed c = true → h = c) (k' : Key) :
    storeGet (storeUpdate m s k c) k' = if k = k' then some c else storeGet s k' := by
  fun_induction storeUpdate m s k c with
  | case1 => simp [storeGet]
  | case2 h rest k c =>
    have hent : (if !m.cfg.storeOverwrites && h.equalsCW m.rngFixed c then h else c) = c := by
      by_cases hc : (!m.cfg.storeOverwrites && h.equalsCW m.rngFixed c) = true
      · rw [if_pos hc]
        rw [Bool.and_eq_true, Bool.not_eq_true'] at hc
        exact hyp.elim (fun ho => absurd (ho ▸ hc.1) nofun) fun hq => hq h (by simp [storeGet]) hc.2
      · rw [if_neg hc]
    simp only [hent, storeGet]
    by_cases hk' : k = k' <;> simp [hk']
  | case3 e h rest k c hek ih =>
    simp only [storeGet, ih (hyp.imp_right fun hq h' hh => hq h' (by simp [storeGet, hek, hh]))]
    by_cases hk' : e = k'
    · subst hk'; simp [Ne.symm hek]
    · simp [hk']

theorem storeUpdate_held (m : Mode) (s : Store) (k : Key) (c : Class) (h : storeGet s k = some c) :
    storeUpdate m s k c = s := by
  fun_induction storeGet s k with
  | case1 => cases h
  | case2 => cases h; rw [storeUpdate, if_pos rfl, ite_self]
  | case3 _ _ _ _ hek ih => rw [storeUpdate, if_neg hek, ih h]

theorem storeLoad_held (m : Mode) (defs : List (Key × Class)) (s : Store)
    (h : ∀ d ∈ defs, storeGet s d.1 = some d.2) : storeLoad m s defs = s := by
  induction defs with
  | nil => rfl
  | cons d ds ih =>
    rw [storeLoad, List.foldl_cons, storeUpdate_held m s d.1 d.2 (h d List.mem_cons_self)]
    exact ih fun d' hd' => h d' (List.mem_cons_of_mem _ hd')

/-- The store does what the property needs on the definitions `all`: it overwrites (the code);
    or `Class.Equals` tells apart any two different definitions of one class, and everything
    the store holds is one of them. -/
def Faithful (m : Mode) (all : List (Key × Class)) (s : Store) : Prop :=
  m.cfg.storeOverwrites = true ∨
  ((∀ a ∈ all, ∀ b ∈ all, a.1 = b.1 → a.2.equalsCW m.rngFixed b.2 = true → a.2 = b.2) ∧
    ∀ k h, storeGet s k = some h → (k, h) ∈ all)

theorem storeLoad_spec (m : Mode) (all defs : List (Key × Class)) (s : Store) (hf : Faithful m all s)
    (hdefs : ∀ d ∈ defs, d ∈ all) :
    (∀ k, storeGet (storeLoad m s defs) k = (match lastLoaded defs k with | some c => some c | none => storeGet s k)) ∧
    Faithful m all (storeLoad m s defs) := by
  induction defs generalizing s with
  | nil => exact ⟨fun k => rfl, hf⟩
  | cons d ds ih =>
    obtain ⟨dk, dc⟩ := d
    have hd : (dk, dc) ∈ all := hdefs _ List.mem_cons_self
    have hup := storeGet_update m s dk dc
      (hf.imp_right fun ⟨hq, hs⟩ h hh he => hq (dk, h) (hs dk h hh) (dk, dc) hd rfl he)
    have hf1 : Faithful m all (storeUpdate m s dk dc) := hf.imp_right fun ⟨hq, hs⟩ => ⟨hq, fun k h hh => by
      rw [hup] at hh
      by_cases hk : dk = k
      · rw [if_pos hk] at hh; cases hh; cases hk; exact hd
      · rw [if_neg hk] at hh; exact hs k h hh⟩
    obtain ⟨i1, i2⟩ := ih (storeUpdate m s dk dc) hf1 fun d' hd' => hdefs d' (List.mem_cons_of_mem _ hd')
    refine ⟨fun k => ?_, i2⟩
    rw [storeLoad, List.foldl_cons, ← storeLoad, i1 k, hup k, lastLoaded]
    cases lastLoaded ds k with
    | some c => rfl
    | none => by_cases hk : dk = k <;> simp [hk]

/-- Round by round, a history answers what the OFFERS handler answers for the
    round's descriptors with the templates AS LAST LOADED. -/
theorem history_eq_resolved (m : Mode) (all : List (Key × Class)) (steps : List Step) (s : Store)
    (pre : List (Key × Class)) (hf : Faithful m all s) (hsteps : ∀ st ∈ steps, ∀ d ∈ st.loads, d ∈ all)
    (hs : ∀ k, storeGet s k = lastLoaded pre k) :
    history m s steps =
      List.zipWith (fun st ds => round m st.offers ds st.order) steps (resolvedDescs pre steps) := by
  induction steps generalizing s pre with
  | nil => rfl
  | cons st rest ih =>
    obtain ⟨l1, l2⟩ := storeLoad_spec m all st.loads s hf (hsteps st List.mem_cons_self)
    have hget : ∀ k, storeGet (storeLoad m s st.loads) k = lastLoaded (pre ++ st.loads) k := fun k => by
      rw [l1 k, lastLoaded_append, hs k]
    rw [history, resolvedDescs, List.zipWith_cons_cons, funext hget,
      ih _ _ l2 (fun st' hst' => hsteps st' (List.mem_cons_of_mem _ hst')) hget]

theorem resolvedDescs_length (pre : List (Key × Class)) (steps : List Step) :
    (resolvedDescs pre steps).length = steps.length := by
  induction steps generalizing pre with
  | nil => rfl
  | cons st rest ih => rw [resolvedDescs, List.length_cons, ih, List.length_cons]

theorem resolvedDescs_getElem? (pre : List (Key × Class)) (steps : List Step) (n : Nat) :
    (resolvedDescs pre steps)[n]? =
      steps[n]?.map fun st => st.descs.map (resolveBy (lastLoaded (pre ++ (steps.take (n + 1)).flatMap (·.loads)))) := by
  induction steps generalizing pre n with
  | nil => rfl
  | cons st rest ih =>
    cases n with
    | zero => simp [resolvedDescs]
    | succ n =>
      simp only [resolvedDescs, List.getElem?_cons_succ, ih, List.take_succ_cons, List.flatMap_cons, List.append_assoc]

theorem history_nil_eq_resolved (m : Mode) (steps : List Step) (hf : Faithful m (steps.flatMap (·.loads)) []) :
    history m [] steps = List.zipWith (fun st ds => round m st.offers ds st.order) steps (resolvedDescs [] steps) :=
  history_eq_resolved m _ steps [] [] hf (fun st hst _ hd => List.mem_flatMap.2 ⟨st, hst, hd⟩) fun _ => rfl

theorem history_getElem? (m : Mode) (steps : List Step) (hf : Faithful m (steps.flatMap (·.loads)) []) (n : Nat) :
    (history m [] steps)[n]? =
      steps[n]?.map fun st => round m st.offers (st.descs.map (resolveBy (latest steps n))) st.order := by
  rw [history_nil_eq_resolved m steps hf, List.getElem?_zipWith, resolvedDescs_getElem?]
  cases steps[n]? <;> rfl

theorem all_zip_zipWith {α β γ : Type} (f : α → β → γ) (P : (α × β) × γ → Bool) (A : List α) (B : List β) :
    ((A.zip B).zip (List.zipWith f A B)).all P = (A.zip B).all (fun x => P (x, f x.1 x.2)) := by
  rw [← List.map_uncurry_zip_eq_zipWith, ← List.map_prod_left_eq_zip, List.all_map]; rfl

theorem all_zip_zipWith_left {α β γ : Type} (f : α → β → γ) (Q : α × γ → Bool) (A : List α) (B : List β) :
    (A.zip (List.zipWith f A B)).all Q = (A.zip B).all (fun x => Q (x.1, f x.1 x.2)) := by
  induction A generalizing B with
  | nil => rfl
  | cons a as ih =>
    cases B with
    | nil => rfl
    | cons b bs => simp only [List.zipWith_cons_cons, List.zip_cons_cons, List.all_cons, ih]

theorem history_length (m : Mode) (s : Store) (steps : List Step) : (history m s steps).length = steps.length := by
  induction steps generalizing s with
  | nil => rfl
  | cons st rest ih => rw [history, List.length_cons, ih, List.length_cons]

end Placement
