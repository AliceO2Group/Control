/-
  Proofs/Query — lemmas for C20 (the property theorems are in Props/C20.lean). The recogniser is compared
  with its denotation `FullLang`, `resolve` with `find?` over the candidate list; a service's answers over a history are
  those of a fresh service as long as every cached template is current (`CacheCurrent`); the plain `{{ name }}` lexer
  is simulated by the extended scanner.
-/
import ControlModel.Model.Query
import ControlModel.Spec.C20

namespace Query
open Spec.C20

theorem span_append_stop {α} (p : α → Bool) (l r : List α) (a : α)
    (hl : ∀ x ∈ l, p x = true) (ha : p a = false) :
    (l ++ a :: r).takeWhile p = l ∧ (l ++ a :: r).dropWhile p = a :: r := by
  have ha' : ¬ p a = true := by rw [ha]; exact Bool.false_ne_true
  exact ⟨by rw [List.takeWhile_append_of_pos hl, List.takeWhile_cons_of_neg ha', List.append_nil],
         by rw [List.dropWhile_append_of_pos hl, List.dropWhile_cons_of_neg ha']⟩

theorem span_all {α} (p : α → Bool) (l : List α) (hl : ∀ x ∈ l, p x = true) :
    l.takeWhile p = l ∧ l.dropWhile p = [] := by
  have h := List.takeWhile_append_of_pos (l₂ := []) hl
  have h' := List.dropWhile_append_of_pos (l₂ := []) hl
  rw [List.append_nil, List.takeWhile_nil, List.append_nil] at h
  rw [List.append_nil, List.dropWhile_nil] at h'
  exact ⟨h, h'⟩

theorem dropWhile_eq_self {α} (p : α → Bool) (l : List α) (h : ∀ a ∈ l.head?, p a = false) : l.dropWhile p = l := by
  cases l with
  | nil => rfl
  | cons a r => exact List.dropWhile_cons_of_neg (by rw [h a rfl]; exact Bool.false_ne_true)

theorem inRanges_of_subset (rs rs' : List (Nat × Nat)) (c : Char)
    (hs : ∀ r ∈ rs, ∃ r' ∈ rs', r'.1 ≤ r.1 ∧ r.2 ≤ r'.2) (h : inRanges rs c = true) : inRanges rs' c = true := by
  simp only [inRanges, List.any_eq_true, Bool.and_eq_true, decide_eq_true_eq] at h ⊢
  obtain ⟨r, hr, h1, h2⟩ := h
  obtain ⟨r', hr', h3, h4⟩ := hs r hr
  exact ⟨r', hr', Nat.le_trans h3 h1, Nat.le_trans h2 h4⟩

theorem inRanges_of_disjoint (rs rs' : List (Nat × Nat)) (c : Char)
    (hd : ∀ r ∈ rs, ∀ r' ∈ rs', r.2 < r'.1 ∨ r'.2 < r.1) (h : inRanges rs c = true) : inRanges rs' c = false := by
  simp only [inRanges, List.any_eq_true, List.any_eq_false, Bool.and_eq_true, decide_eq_true_eq] at h ⊢
  obtain ⟨r, hr, h1, h2⟩ := h
  intro r' hr' ⟨h3, h4⟩
  rcases hd r hr r' hr' with hlt | hlt <;> omega

theorem isComp_slash : isComp '/' = false := by decide
theorem isRT_slash : isRT '/' = false := by decide
theorem isRole_slash : isRole '/' = false := by decide
theorem isParamKey_eq : isParamKey '=' = false := by decide

theorem isEntry_of_isRole (c : Char) (h : isRole c = true) : isEntry c = true :=
  inRanges_of_subset roleClass entryClass c (by decide) h

theorem not_space_of_isEntry (c : Char) (h : isEntry c = true) : isSpace c = false :=
  inRanges_of_disjoint entryClass spaceClass c (by decide) h

theorem not_space_of_isRole (c : Char) (h : isRole c = true) : isSpace c = false :=
  not_space_of_isEntry c (isEntry_of_isRole c h)

theorem trim_eq_self (s : Str) (hh : ∀ a ∈ s.head?, isSpace a = false) (hl : ∀ a ∈ s.getLast?, isSpace a = false) :
    trim s = s := by
  unfold trim trimRight trimLeft
  rw [dropWhile_eq_self _ s hh, dropWhile_eq_self _ s.reverse (by rwa [List.head?_reverse]), List.reverse_reverse]

theorem valueIn_mem (t : List (Nat × Str)) (rt : Str) (n : Nat) (h : valueIn t rt = some n) : (n, rt) ∈ t := by
  unfold valueIn at h
  cases hf : t.find? (fun e => e.2 == rt) with
  | none => rw [hf] at h; cases h
  | some e =>
    rw [hf] at h
    have h1 : e.2 = rt := eq_of_beq (List.find?_some hf :)
    have h2 : e.1 = n := Option.some.inj h
    rw [← h1, ← h2]
    exact List.mem_of_find?_eq_some hf

theorem nameIn_mem (t : List (Nat × Str)) (n : Nat) (h : t.any (fun e => e.1 == n) = true) : (n, nameIn t n) ∈ t := by
  unfold nameIn
  cases hf : t.find? (fun e => e.1 == n) with
  | none =>
    obtain ⟨e, he, hp⟩ := List.any_eq_true.mp h
    exact absurd hp (List.find?_eq_none.mp hf e he)
  | some e =>
    have h1 : e.1 = n := eq_of_beq (List.find?_some hf :)
    rw [← h1]
    exact List.mem_of_find?_eq_some hf

theorem table_consistent :
    runTypes.all (fun e => runTypeName e.1 == e.2 && runTypeValue e.2 == some e.1 && !e.2.isEmpty && e.2.all isRT) = true := by
  decide +kernel

theorem mem_table (e : Nat × Str) (h : e ∈ runTypes) :
    runTypeName e.1 = e.2 ∧ runTypeValue e.2 = some e.1 ∧ e.2 ≠ [] ∧ ∀ x ∈ e.2, isRT x = true := by
  have h1 := List.all_eq_true.mp table_consistent e h
  simp only [Bool.and_eq_true, beq_iff_eq, Bool.not_eq_true', List.isEmpty_eq_false_iff, List.all_eq_true] at h1
  exact ⟨h1.1.1.1, h1.1.1.2, h1.1.2, h1.2⟩

theorem name_of_value (rt : Str) (n : Nat) (h : runTypeValue rt = some n) : runTypeName n = rt :=
  (mem_table _ (valueIn_mem _ rt n h)).1

theorem value_of_name (n : Nat) (h : runTypes.any (fun e => e.1 == n) = true) :
    runTypeValue (runTypeName n) = some n :=
  (mem_table _ (nameIn_mem _ n h)).2.1

theorem known_of_value (rt : Str) (n : Nat) (h : runTypeValue rt = some n) :
    runTypes.any (fun e => e.1 == n) = true :=
  List.any_eq_true.mpr ⟨(n, rt), valueIn_mem _ rt n h, beq_self_eq_true n⟩

/-- The denotation of `^(C+)(/R+)(/L+)(/E+)$`: a concatenation of four non-empty class runs separated by "/". -/
def FullLang (s c rt role e : Str) : Prop :=
  s = c ++ '/' :: (rt ++ '/' :: (role ++ '/' :: e)) ∧
  c ≠ [] ∧ (∀ x ∈ c, isComp x = true) ∧ rt ≠ [] ∧ (∀ x ∈ rt, isRT x = true) ∧
  role ≠ [] ∧ (∀ x ∈ role, isRole x = true) ∧ e ≠ [] ∧ (∀ x ∈ e, isEntry x = true)

theorem matchFull_complete (s c rt role e : Str) (h : FullLang s c rt role e) :
    matchFull s = some (c, rt, role, e) := by
  obtain ⟨hs, hc, hca, hrt, hrta, hro, hroa, he, hea⟩ := h
  subst hs
  have s1 := span_append_stop isComp c (rt ++ '/' :: (role ++ '/' :: e)) '/' hca isComp_slash
  have s2 := span_append_stop isRT rt (role ++ '/' :: e) '/' hrta isRT_slash
  have s3 := span_append_stop isRole role e '/' hroa isRole_slash
  unfold matchFull
  simp only [s1.1, s1.2, s2.1, s2.2, s3.1, s3.2]
  rw [if_pos]
  simp only [Bool.and_eq_true, Bool.not_eq_true', List.isEmpty_eq_false_iff, List.all_eq_true]
  exact ⟨⟨⟨⟨hc, hrt⟩, hro⟩, he⟩, hea⟩

theorem matchFull_sound (s c rt role e : Str) (h : matchFull s = some (c, rt, role, e)) :
    FullLang s c rt role e := by
  revert h
  fun_cases matchFull s with
  | case1 _ r1 d1 _ r2 d2 _ e' d3 hcond =>
    intro h
    simp only [Bool.and_eq_true, Bool.not_eq_true', List.isEmpty_eq_false_iff, List.all_eq_true] at hcond
    obtain ⟨⟨⟨⟨h1, h2⟩, h3⟩, h4⟩, h5⟩ := hcond
    simp only [Option.some.injEq, Prod.mk.injEq] at h
    obtain ⟨rfl, rfl, rfl, rfl⟩ := h
    refine ⟨?_, h1, List.all_eq_true.mp List.all_takeWhile, h2, List.all_eq_true.mp List.all_takeWhile, h3,
      List.all_eq_true.mp List.all_takeWhile, h4, h5⟩
    rw [← d3, List.takeWhile_append_dropWhile, ← d2, List.takeWhile_append_dropWhile, ← d1,
      List.takeWhile_append_dropWhile]
  | case2 | case3 | case4 | case5 => exact nofun

theorem matchFull_iff (s c rt role e : Str) : matchFull s = some (c, rt, role, e) ↔ FullLang s c rt role e :=
  ⟨matchFull_sound s c rt role e, matchFull_complete s c rt role e⟩

theorem wf_iff (q : Query) : wf q = true ↔
    q.component ≠ [] ∧ (∀ x ∈ q.component, isComp x = true) ∧ runTypes.any (fun e => e.1 == q.runType) = true ∧
    q.role ≠ [] ∧ (∀ x ∈ q.role, isRole x = true) ∧ q.entry ≠ [] ∧ (∀ x ∈ q.entry, isEntry x = true) := by
  unfold wf
  simp only [Bool.and_eq_true, Bool.not_eq_true', List.isEmpty_eq_false_iff, List.all_eq_true, and_assoc]

theorem parse_some_iff (s : Str) (q : Query) :
    parse s = some q ↔ ∃ rt, FullLang (trim s) q.component rt q.role q.entry ∧ runTypeValue rt = some q.runType := by
  constructor
  · fun_cases parse s with
    | case1 c rt role e hm n hv => rintro ⟨⟩; exact ⟨rt, matchFull_sound _ _ _ _ _ hm, hv⟩
    | case2 | case3 => exact nofun
  · rintro ⟨rt, hl, hv⟩
    rw [parse, matchFull_complete _ _ _ _ _ hl]
    simp only [hv]

theorem parse_wf (s : Str) (q : Query) (h : parse s = some q) : wf q = true := by
  obtain ⟨rt, hl, hv⟩ := (parse_some_iff s q).mp h
  obtain ⟨_, hc, hca, _, _, hro, hroa, he, hea⟩ := hl
  exact (wf_iff q).mpr ⟨hc, hca, known_of_value rt _ hv, hro, hroa, he, hea⟩

/-- `print` associated the way `FullLang` is -/
theorem print_eq (q : Query) :
    print q = q.component ++ '/' :: (runTypeName q.runType ++ '/' :: (q.role ++ '/' :: q.entry)) := by
  simp only [print, List.append_assoc, List.cons_append]

theorem print_of_parse (s : Str) (q : Query) (h : parse s = some q) : print q = trim s := by
  obtain ⟨rt, hl, hv⟩ := (parse_some_iff s q).mp h
  rw [print_eq, name_of_value rt _ hv, hl.1]

theorem trim_print (q : Query) (h : wf q = true) : trim (print q) = print q := by
  obtain ⟨hc, hca, _, _, _, he, hea⟩ := (wf_iff q).mp h
  apply trim_eq_self
  · intro a ha
    rw [print_eq, List.head?_append, List.head?_eq_some_head hc, Option.some_or] at ha
    cases ha
    -- the component class is the role class
    exact not_space_of_isRole _ (hca _ (List.head_mem hc))
  · intro a ha
    rw [print, List.append_cons _ '/' q.entry, List.getLast?_append, List.getLast?_eq_some_getLast he,
      Option.some_or] at ha
    cases ha
    exact not_space_of_isEntry _ (hea _ (List.getLast_mem he))

theorem parse_print (q : Query) (h : wf q = true) : parse (print q) = some q := by
  rw [parse_some_iff, trim_print q h]
  obtain ⟨hc, hca, hk, hro, hroa, he, hea⟩ := (wf_iff q).mp h
  have hm := mem_table _ (nameIn_mem _ q.runType hk)
  exact ⟨runTypeName q.runType, ⟨print_eq q, hc, hca, hm.2.2.1, hm.2.2.2, hro, hroa, he, hea⟩, hm.2.1⟩

theorem find?_cons_ite {α} (p : α → Bool) (a : α) (l : List α) :
    (a :: l).find? p = if p a then some a else l.find? p := by
  rw [List.find?_cons]; cases p a <;> rfl

theorem find?_congr {α} {p p' : α → Bool} {l : List α} (h : ∀ a ∈ l, p a = p' a) : l.find? p = l.find? p' := by
  induction l with
  | nil => rfl
  | cons a l ih =>
    rw [find?_cons_ite, find?_cons_ite, h a List.mem_cons_self, ih fun b hb => h b (List.mem_cons_of_mem _ hb)]

theorem find?_append_cons_of_pos {α} {p : α → Bool} {before after : List α} {r : α} (hr : p r = true) :
    ∃ r', (before ++ r :: after).find? p = some r' ∧ r' ∈ before ++ [r] := by
  rw [List.find?_append]
  cases hb : before.find? p with
  | some x => exact ⟨x, rfl, List.mem_append_left _ (List.mem_of_find?_eq_some hb)⟩
  | none => exact ⟨r, by rw [List.find?_cons_of_pos hr]; rfl, List.mem_append_right _ List.mem_cons_self⟩

theorem resolve_eq_find? (ex : Str → Bool) (q : Query) :
    resolve ex q = (specCandidates q).find? (fun c => ex (absRaw c)) := by
  simp only [specCandidates, find?_cons_ite, List.find?_nil]
  rfl

theorem probes_walk (ex : Str → Bool) (k0 k1 k2 k3 : Str) :
    (if ex k0 then [k0] else if ex k1 then [k0, k1] else if ex k2 then [k0, k1, k2] else [k0, k1, k2, k3]) =
    match [k0, k1, k2, k3].findIdx? ex with
      | some i => [k0, k1, k2, k3].take (i + 1)
      | none => [k0, k1, k2, k3] := by
  simp only [List.findIdx?_cons, List.findIdx?_nil]
  cases ex k0
  · cases ex k1
    · cases ex k2
      · cases ex k3 <;> rfl
      · rfl
    · rfl
  · rfl

theorem fallback_known : runTypes.any (fun e => e.1 == fallbackRunType) = true := by decide
theorem fallback_role_ok : fallbackRoleName ≠ [] ∧ ∀ x ∈ fallbackRoleName, isRole x = true := by decide

theorem candidates_wf (q : Query) (hq : wf q = true) : ∀ c ∈ specCandidates q, wf c = true := by
  obtain ⟨hc, hca, hk, hro, hroa, he, hea⟩ := (wf_iff q).mp hq
  intro c hc'
  simp only [specCandidates, List.mem_cons, List.not_mem_nil, or_false] at hc'
  rcases hc' with rfl | rfl | rfl | rfl
  · exact hq
  · exact (wf_iff _).mpr ⟨hc, hca, fallback_known, hro, hroa, he, hea⟩
  · exact (wf_iff _).mpr ⟨hc, hca, hk, fallback_role_ok.1, fallback_role_ok.2, he, hea⟩
  · exact (wf_iff _).mpr ⟨hc, hca, fallback_known, fallback_role_ok.1, fallback_role_ok.2, he, hea⟩

theorem resolve_mem (ex : Str → Bool) (q r : Query) (h : resolve ex q = some r) :
    r ∈ specCandidates q ∧ ex (absRaw r) = true := by
  rw [resolve_eq_find?] at h
  exact ⟨List.mem_of_find?_eq_some h, (List.find?_some h :)⟩

theorem resolve_wf (ex : Str → Bool) (q r : Query) (hq : wf q = true) (h : resolve ex q = some r) : wf r = true :=
  candidates_wf q hq r (resolve_mem ex q r h).1

theorem resolutionOk_resolved {ex : Str → Bool} {q r : Query} (h : resolve ex q = some r) :
    resolutionOk ex q (.ok r (print r)) = true := by
  unfold resolutionOk firstExisting
  rw [← resolve_eq_find?, h]
  simp only [beq_self_eq_true, Bool.true_and]
  exact (resolve_mem ex q r h).2

theorem resolutionOk_unresolved {ex : Str → Bool} {q : Query} (h : resolve ex q = none) :
    resolutionOk ex q .unresolved = true := by
  unfold resolutionOk firstExisting
  rw [← resolve_eq_find?, h]

theorem yamlGet_exists (t : List Leaf) (key v : Str) (h : yamlGet t key = some v) : yamlExists t key = true := by
  unfold yamlGet at h
  split at h
  next l hf =>
    have hp : l.path = keySegs key := eq_of_beq (List.find?_some hf :)
    refine List.any_eq_true.mpr ⟨l, List.mem_of_find?_eq_some hf, ?_⟩
    rw [hp, List.isPrefixOf_iff_prefix]
    exact List.prefix_refl _
  next => cases h

theorem getComponent_cases (t : List Leaf) (q : Query) :
    (∃ v, yamlGet t (absRaw q) = some v ∧ getComponent t q = .ok v) ∨
    (yamlGet t (absRaw q) = none ∧ ∃ cls, getComponent t q = .err cls) := by
  unfold getComponent
  cases hg : yamlGet t (absRaw q) with
  | none => exact .inr ⟨rfl, by cases yamlExists t (absRaw q) <;> exact ⟨_, rfl⟩⟩
  | some v => exact .inl ⟨v, rfl, by rw [yamlGet_exists t _ v hg]; rfl⟩

theorem payloadOk_getComponent (t : List Leaf) (q : Query) : payloadOk t q (getComponent t q) = true := by
  unfold payloadOk
  rcases getComponent_cases t q with ⟨v, hg, hc⟩ | ⟨hg, cls, hc⟩ <;> rw [hg, hc]
  exact beq_self_eq_true v

theorem renderSegs_cons (sub : Str → Str) (sg : Seg) (rest : List Seg) :
    renderSegs sub (sg :: rest) = renderSeg sub sg ++ renderSegs sub rest :=
  List.flatMap_cons

theorem renderSegs_consChar (sub : Str → Str) (c : Char) (segs : List Seg) :
    renderSegs sub (consChar c segs) = c :: renderSegs sub segs := by
  unfold consChar
  split <;> rfl

theorem lex_text_no_brace (s : Str) (h : '{' ∉ s) : ∃ segs, lex .text s = some segs ∧ ∀ sub, renderSegs sub segs = s := by
  induction s with
  | nil => exact ⟨[], rfl, fun _ => rfl⟩
  | cons c rest ih =>
    have hc : c ≠ '{' := fun e => h (e ▸ List.mem_cons_self)
    obtain ⟨segs, h1, h2⟩ := ih (fun e => h (List.mem_cons_of_mem _ e))
    refine ⟨consChar c segs, ?_, fun sub => by rw [renderSegs_consChar, h2]⟩
    -- the last alternative of `lex .text`, whose side conditions say that `c` opens no tag (`lex.eq_5` says the same
    -- and is slow to generate)
    rw [lex.eq_def, lex.match_3.eq_5, h1]
    · rfl
    all_goals exact fun _ e => absurd e hc

theorem escapeChar_of_free (c : Char)
    (h : (!(c == '&' || c == '<' || c == '>' || c == '"' || c == '\'')) = true) : escapeChar c = [c] := by
  simp only [Bool.not_eq_true', Bool.or_eq_false_iff] at h
  simp only [escapeChar, h.1.1.1.1, h.1.1.1.2, h.1.1.2, h.1.2, h.2, Bool.false_eq_true, if_false]

theorem escape_of_escapeFree (s : Str) (h : escapeFree s = true) : escape s = s := by
  induction s with
  | nil => rfl
  | cons c rest ih =>
    rw [escapeFree, List.all_cons, Bool.and_eq_true] at h
    rw [escape, List.flatMap_cons, escapeChar_of_free c h.1]
    exact congrArg (c :: ·) (ih h.2)

theorem subst_code (v : Str) : codeCfg.subst v = v := rfl

theorem subst_legacy (v : Str) : legacyCfg.subst v = escape v := rfl

theorem subst_of_escapeFree (c : Cfg) (v : Str) (h : escapeFree v = true) : c.subst v = v := by
  unfold Cfg.subst
  split
  · exact escape_of_escapeFree v h
  · rfl

theorem renderSegs_congr (sub sub' : Str → Str) (segs : List Seg) (h : ∀ n ∈ varNames segs, sub n = sub' n) :
    renderSegs sub segs = renderSegs sub' segs := by
  induction segs with
  | nil => rfl
  | cons sg rest ih =>
    rw [renderSegs_cons, renderSegs_cons]
    cases sg with
    | text t => exact congrArg (t ++ ·) (ih h)
    | var n =>
      rw [renderSeg, renderSeg, h n List.mem_cons_self]
      exact congrArg (sub' n ++ ·) (ih fun m hm => h m (List.mem_cons_of_mem _ hm))

theorem processComponentWith_wf (c : Cfg) (t : List Leaf) (q : Query) (vars : List (Str × Str)) (hq : wf q = true) :
    processComponentWith c t q vars =
      match yamlGet t (absRaw q) with
      | none => .err "load"
      | some content =>
        match lexTemplate content with
        | none => .unmodelled
        | some segs => execWith c segs vars := by
  unfold processComponentWith
  rw [parse_print q hq]
  dsimp only
  rcases getComponent_cases t q with ⟨v, hg, hc⟩ | ⟨hg, cls, hc⟩ <;> rw [hg, hc] <;> rfl

theorem processedOk_of_subst (c : Cfg) (t : List Leaf) (q : Query) (vars : List (Str × Str)) (hq : wf q = true)
    (hsub : ∀ content segs, yamlGet t (absRaw q) = some content → lexTemplate content = some segs →
      ∀ n ∈ varNames segs, c.subst (lookup (bindings vars) n) = lookup (bindings vars) n) :
    processedOk t q vars (processComponentWith c t q vars) = true := by
  rw [processComponentWith_wf c t q vars hq]
  unfold processedOk renderVerbatim execWith
  cases hg : yamlGet t (absRaw q) with
  | none => rfl
  | some content =>
    dsimp only
    cases hl : lexTemplate content with
    | none => rfl
    | some segs =>
      dsimp only [Option.map_some]
      rw [renderSegs_congr _ _ segs (hsub content segs hg hl)]
      split
      · exact beq_self_eq_true _
      · rfl

theorem processedOk_model (t : List Leaf) (q : Query) (vars : List (Str × Str)) (hq : wf q = true) :
    processedOk t q vars (processComponent t q vars) = true :=
  processedOk_of_subst codeCfg t q vars hq fun _ _ _ _ _ _ => rfl

theorem processedOk_modelWith (c : Cfg) (t : List Leaf) (q : Query) (vars : List (Str × Str)) (hq : wf q = true)
    (hesc : valuesEscapeFree t q vars = true) : processedOk t q vars (processComponentWith c t q vars) = true := by
  refine processedOk_of_subst c t q vars hq fun content segs hg hl n hn => subst_of_escapeFree c _ ?_
  unfold valuesEscapeFree at hesc
  rw [hg] at hesc
  dsimp only at hesc
  rw [hl] at hesc
  exact List.all_eq_true.mp hesc n hn

theorem lookupOk_model (c : Cfg) (t : List Leaf) (q : Query) (vars : List (Str × Str))
    (hproc : ∀ r, resolve (yamlExists t) q = some r → processedOk t r vars (processComponentWith c t r vars) = true) :
    lookupOk t q vars (modelLookupObsWith c t q vars) = true := by
  unfold lookupOk modelLookupObsWith
  cases h : resolve (yamlExists t) q with
  | none => dsimp only; rw [resolutionOk_unresolved h, payloadOk_getComponent]; rfl
  | some r =>
    dsimp only
    rw [resolutionOk_resolved h, payloadOk_getComponent, payloadOk_getComponent, hproc r h]
    rfl

/-- every cached template is what compiling its path against the CURRENT backend would give -/
def CacheCurrent (s : Svc) : Prop := ∀ e ∈ s.cache, compileP s.tree e.1 = .ok e.2

theorem CacheCurrent.of_empty {s : Svc} (h : s.cache = []) : CacheCurrent s := by
  intro e he
  rw [h] at he
  cases he

theorem CacheCurrent.hit {s : Svc} (h : CacheCurrent s) {path : Str} {e : Str × List Seg}
    (hf : s.cache.find? (fun e => e.1 == path) = some e) : compileP s.tree path = .ok e.2 := by
  rw [← eq_of_beq (List.find?_some hf :)]
  exact h e (List.mem_of_find?_eq_some hf)

theorem CacheCurrent.insert {s : Svc} (h : CacheCurrent s) {path : Str} {segs : List Seg}
    (hc : compileP s.tree path = .ok segs) : CacheCurrent { s with cache := (path, segs) :: s.cache } := by
  intro e he
  rcases List.mem_cons.mp he with rfl | he
  · exact hc
  · exact h e he

theorem procStep_tree (s : Svc) (q : Query) (vars : List (Str × Str)) : (procStep s q vars).1.tree = s.tree := by
  unfold procStep
  split
  · rfl
  · split <;> rfl

theorem procStep_state_vars (s : Svc) (q : Query) (vars vars' : List (Str × Str)) :
    (procStep s q vars).1 = (procStep s q vars').1 := by
  unfold procStep
  split
  · rfl
  · split <;> rfl

theorem processT_eq (t : List Leaf) (q : Query) (vars : List (Str × Str)) :
    processT t q vars =
      match compileP t (print q) with
      | .ok segs => execT segs vars
      | .err c => .err c
      | .unmodelled => .unmodelled := by
  unfold processT procStep freshSvc
  cases compileP t (print q) <;> rfl

theorem procStep_fresh (s : Svc) (h : CacheCurrent s) (q : Query) (vars : List (Str × Str)) :
    (procStep s q vars).2 = processT s.tree q vars ∧ CacheCurrent (procStep s q vars).1 := by
  rw [processT_eq]
  unfold procStep
  split
  next e hf => rw [h.hit hf]; exact ⟨rfl, h⟩
  next =>
    cases hc : compileP s.tree (print q) with
    | ok segs => exact ⟨rfl, h.insert hc⟩
    | err c => exact ⟨rfl, h⟩
    | unmodelled => exact ⟨rfl, h⟩

theorem after_sameButVars (s : Svc) (ops ops' : List Op) (h : sameButVars ops ops' = true) : after s ops = after s ops' := by
  fun_induction sameButVars ops ops' generalizing s
  case case1 => rfl
  case case2 q v r q' v' r' ih =>
    simp only [Bool.and_eq_true, beq_iff_eq] at h
    rw [after, after, h.1, step, step, procStep_state_vars s q' v v']
    exact ih _ h.2
  case case3 q v r q' v' r' ih =>
    simp only [Bool.and_eq_true, beq_iff_eq] at h
    rw [after, after, h.1, step, step]
    cases resolve (yamlExists s.tree) q' with
    | none => exact ih _ h.2
    | some rq =>
      dsimp only
      rw [procStep_state_vars s rq v v']
      exact ih _ h.2
  case case4 q r q' r' ih =>
    simp only [Bool.and_eq_true, beq_iff_eq] at h
    rw [after, after, h.1]
    exact ih _ h.2
  case case5 r r' ih => exact ih _ h
  case case6 k c r k' c' r' ih =>
    simp only [Bool.and_eq_true, beq_iff_eq] at h
    rw [after, after, h.1.1, h.1.2]
    exact ih _ h.2
  case case7 k r k' r' ih =>
    simp only [Bool.and_eq_true, beq_iff_eq] at h
    rw [after, after, h.1]
    exact ih _ h.2
  case case8 => cases h

theorem step_tree (s : Svc) (op : Op) : (step s op).1.tree = treeAfter s.tree [op] := by
  cases op with
  | proc q v => exact procStep_tree s q v
  | rproc q v =>
    simp only [step, treeAfter]
    cases resolve (yamlExists s.tree) q with
    | none => rfl
    | some rq => exact procStep_tree s rq v
  | get q => rfl
  | inval => rfl
  | put k c => rfl
  | del k => rfl

theorem treeAfter_cons (t : List Leaf) (op : Op) (ops : List Op) :
    treeAfter t (op :: ops) = treeAfter (treeAfter t [op]) ops := by
  cases op <;> rfl

theorem after_tree (s : Svc) (ops : List Op) : (after s ops).tree = treeAfter s.tree ops := by
  induction ops generalizing s with
  | nil => rfl
  | cons op r ih => rw [after, ih, step_tree, ← treeAfter_cons]

theorem runFresh_append_singleton (t : List Leaf) (pre : List Op) (op : Op) :
    runFresh t (pre ++ [op]) = runFresh t pre ++ [(step (freshSvc (treeAfter t pre)) op).2] := by
  induction pre generalizing t with
  | nil => rfl
  | cons o r ih =>
    rw [List.cons_append, runFresh, runFresh, ih, step_tree, treeAfter_cons t o r]
    rfl

theorem after_append (s : Svc) (a b : List Op) : after s (a ++ b) = after (after s a) b := by
  induction a generalizing s with
  | nil => rfl
  | cons o r ih => exact ih _

theorem run_append_singleton (s : Svc) (pre : List Op) (op : Op) :
    run s (pre ++ [op]) = run s pre ++ [(step (after s pre) op).2] := by
  induction pre generalizing s with
  | nil => rfl
  | cons o r ih => exact congrArg ((step s o).2 :: ·) (ih _)

theorem run_cons_fresh {s : Svc} {op : Op} {r : List Op} (h1 : (step s op).2 = (step (freshSvc s.tree) op).2)
    (ih : run (step s op).1 r = runFresh (step s op).1.tree r) : run s (op :: r) = runFresh s.tree (op :: r) := by
  rw [run, runFresh, h1, ih, step_tree, step_tree]
  rfl

/-- the flags describe the service's state: nothing cached unless `seen`, nothing stale unless `dirty` -/
theorem run_eq_runFresh (s : Svc) (seen dirty : Bool) (hs : seen = false → s.cache = [])
    (hd : dirty = false → CacheCurrent s) (ops : List Op) (h : noStaleFrom seen dirty ops = true) :
    run s ops = runFresh s.tree ops := by
  -- along `noStaleFrom`, whose recursive calls carry the flags of the next state
  fun_induction noStaleFrom seen dirty ops generalizing s
  case case1 => rfl
  case case2 seen dirty q v r ih =>
    simp only [Bool.and_eq_true, Bool.not_eq_true'] at h
    have hf := procStep_fresh s (hd h.1) q v
    exact run_cons_fresh (congrArg Resp.pay hf.1) (ih _ nofun (fun _ => hf.2) h.2)
  case case3 seen dirty q v r ih =>
    simp only [Bool.and_eq_true, Bool.not_eq_true'] at h
    have key : (step s (.rproc q v)).2 = (step (freshSvc s.tree) (.rproc q v)).2 ∧ CacheCurrent (step s (.rproc q v)).1 := by
      simp only [step, freshSvc]
      cases resolve (yamlExists s.tree) q with
      | none => exact ⟨rfl, hd h.1⟩
      | some rq =>
        have hf := procStep_fresh s (hd h.1) rq v
        exact ⟨congrArg (Resp.res (some rq)) hf.1, hf.2⟩
    exact run_cons_fresh key.1 (ih _ nofun (fun _ => key.2) h.2)
  case case4 seen dirty q r ih => exact run_cons_fresh rfl (ih s hs hd h)
  case case5 seen dirty r ih => exact run_cons_fresh rfl (ih _ (fun _ => rfl) (fun _ => .of_empty rfl) h)
  case case6 seen dirty k c r ih =>
    exact run_cons_fresh rfl (ih _ hs (fun hx => .of_empty (hs (Bool.or_eq_false_iff.mp hx).2)) h)
  case case7 seen dirty k r ih =>
    exact run_cons_fresh rfl (ih _ hs (fun hx => .of_empty (hs (Bool.or_eq_false_iff.mp hx).2)) h)

theorem readFile_wf (t : List Leaf) (q : Query) (hq : wf q = true) : readFile t (print q) = yamlGet t (absRaw q) := by
  unfold readFile
  rw [parse_print q hq]
  dsimp only
  rcases getComponent_cases t q with ⟨v, hg, hc⟩ | ⟨hg, cls, hc⟩ <;> rw [hg, hc]

theorem compileP_wf (t : List Leaf) (q : Query) (hq : wf q = true) : compileP t (print q) = linkedEntry t q := by
  unfold compileP linkedEntry linkPath
  rw [readFile_wf t q hq]
  cases yamlGet t (absRaw q) <;> rfl

theorem execT_eq (segs : List Seg) (vars : List (Str × Str)) :
    execT segs vars =
      if (bindings vars).all (fun kv => validIdent kv.1) then .ok (renderSegs (fun n => lookup (bindings vars) n) segs)
      else .err "badident" :=
  rfl

theorem templatedOk_processT (t : List Leaf) (q : Query) (vars : List (Str × Str)) (hq : wf q = true) :
    templatedOk t q vars (processT t q vars) = true := by
  rw [processT_eq, compileP_wf t q hq]
  unfold templatedOk
  cases linkedEntry t q with
  | unmodelled => rfl
  | err c => rfl
  | ok segs =>
    dsimp only
    rw [execT_eq]
    split
    · exact beq_self_eq_true _
    · rfl

theorem reqOk_answer (t : List Leaf) (rq : Req) (hwf : reqWf rq = true) :
    reqOk t rq (obsOfResp (rq.answer t)) = true := by
  cases rq with
  | res q =>
    rw [Req.answer]
    cases h : resolve (yamlExists t) q with
    | none => exact Bool.and_eq_true_iff.mpr ⟨resolutionOk_unresolved h, rfl⟩
    | some r => exact Bool.and_eq_true_iff.mpr ⟨resolutionOk_resolved h, rfl⟩
  | get q => exact payloadOk_getComponent t q
  | rget q =>
    rw [Req.answer]
    cases h : resolve (yamlExists t) q with
    | none => exact Bool.and_eq_true_iff.mpr ⟨resolutionOk_unresolved h, rfl⟩
    | some r => exact Bool.and_eq_true_iff.mpr ⟨resolutionOk_resolved h, payloadOk_getComponent t r⟩
  | proc q vars => exact templatedOk_processT t q vars hwf
  | rproc q vars =>
    rw [Req.answer]
    cases h : resolve (yamlExists t) q with
    | none => exact Bool.and_eq_true_iff.mpr ⟨resolutionOk_unresolved h, rfl⟩
    | some r =>
      exact Bool.and_eq_true_iff.mpr ⟨resolutionOk_resolved h, templatedOk_processT t r vars (resolve_wf _ q r hwf h)⟩

theorem step_fresh_proc (t : List Leaf) (q : Query) (vars : List (Str × Str)) :
    (step (freshSvc t) (.proc q vars)).2 = .pay (processT t q vars) :=
  rfl

theorem step_fresh_rproc (t : List Leaf) (q : Query) (vars : List (Str × Str)) :
    (step (freshSvc t) (.rproc q vars)).2 = (Req.rproc q vars).answer t := by
  simp only [step, Req.answer, freshSvc]
  cases resolve (yamlExists t) q <;> rfl

theorem seqOk_runFresh (t : List Leaf) (ops : List Op) (hwf : opsWf ops = true) :
    seqOk t ops ((runFresh t ops).map obsOfResp) = true := by
  induction ops generalizing t with
  | nil => rfl
  | cons op r ih =>
    rw [runFresh, List.map_cons, step_tree]
    cases op with
    | proc q v =>
      rw [opsWf, Bool.and_eq_true] at hwf
      exact Bool.and_eq_true_iff.mpr ⟨reqOk_answer t (.proc q v) hwf.1, ih t hwf.2⟩
    | rproc q v =>
      rw [opsWf, Bool.and_eq_true] at hwf
      have h := reqOk_answer t (.rproc q v) hwf.1
      rw [step_fresh_rproc]
      rw [Req.answer] at h ⊢
      revert h
      cases resolve (yamlExists t) q <;> exact fun h => Bool.and_eq_true_iff.mpr ⟨h, ih t hwf.2⟩
    | get q => exact Bool.and_eq_true_iff.mpr ⟨payloadOk_getComponent t q, ih t hwf⟩
    | inval => exact ih t hwf
    | put k c => exact ih _ hwf
    | del k => exact ih _ hwf

def embMode : Mode → TMode
  | .text => .text
  | .pre => .vpre
  | .name acc => .vname acc
  | .post n => .vpost n

theorem map_consChar (c : Char) (segs : List Seg) : (consChar c segs).map Tok.seg = consTok c (segs.map Tok.seg) := by
  unfold consChar consTok
  cases segs with
  | nil => rfl
  | cons x r => cases x <;> rfl

theorem varNames_consChar (c : Char) (segs : List Seg) : varNames (consChar c segs) = varNames segs := by
  unfold consChar
  cases segs with
  | nil => rfl
  | cons x r => cases x <;> rfl

/- `scan` unfolded by one character in the states it shares with `lex`. Through `scan.eq_def`, not through the equations
   `scan.eq_n`: Lean is slow to generate those for a function with this many overlapping alternatives. -/

theorem scan_text_cons (c : Char) (rest : Str) (h1 : ∀ r, c = '{' → rest = '{' :: r → False)
    (h2 : ∀ r, c = '{' → rest = '%' :: r → False) (h3 : ∀ r, c = '{' → rest = '#' :: r → False) :
    scan .text (c :: rest) = (scan .text rest).map (consTok c) := by
  rw [scan.eq_def, scan.match_1.eq_5]
  · exact h1
  · exact h2
  · exact h3

theorem scan_vpre (c : Char) (rest : Str) : scan .vpre (c :: rest) =
    if isTagSpace c then scan .vpre rest else if isIdentStart c then scan (.vname [c]) rest else none := by
  rw [scan.eq_def]

theorem scan_vname_ident (acc : Str) (c : Char) (rest : Str) (h : isIdentChar c = true) :
    scan (.vname acc) (c :: rest) = scan (.vname (c :: acc)) rest := by
  rw [scan.eq_def]; simp only [h, if_true]

theorem scan_vname_space (acc : Str) (c : Char) (rest : Str) (h : ¬ isIdentChar c = true) (h2 : isTagSpace c = true) :
    scan (.vname acc) (c :: rest) = scan (.vpost acc.reverse) rest := by
  rw [scan.eq_def]; simp only [h, h2, if_true, Bool.false_eq_true, if_false]

theorem scan_vname_close (acc : Str) (c : Char) (rest : Str) (h : ¬ isIdentChar c = true) (h2 : ¬ isTagSpace c = true)
    (h3 : (c == '}') = true) (hp : plainNameT acc.reverse = true) :
    scan (.vname acc) (c :: '}' :: rest) = (scan .text rest).map (Tok.seg (.var acc.reverse) :: ·) := by
  rw [scan.eq_def]; simp only [h, h2, h3, hp, if_true, Bool.false_eq_true, if_false]

theorem scan_vpost_space (n : Str) (c : Char) (rest : Str) (h2 : isTagSpace c = true) :
    scan (.vpost n) (c :: rest) = scan (.vpost n) rest := by
  rw [scan.eq_def]; simp only [h2, if_true]

theorem scan_vpost_close (n : Str) (c : Char) (rest : Str) (h2 : ¬ isTagSpace c = true)
    (h3 : (c == '}') = true) (hp : plainNameT n = true) :
    scan (.vpost n) (c :: '}' :: rest) = (scan .text rest).map (Tok.seg (.var n) :: ·) := by
  rw [scan.eq_def]; simp only [h2, h3, hp, if_true, Bool.false_eq_true, if_false]

theorem plainNameT_of (n : Str) (segs : List Seg) (hp : plainName n = true) (hb : blockKw ∉ varNames (.var n :: segs)) :
    plainNameT n = true ∧ blockKw ∉ varNames segs := by
  rw [varNames, List.mem_cons, not_or] at hb
  exact ⟨Bool.and_eq_true_iff.mpr ⟨hp, bne_iff_ne.mpr fun e => hb.1 e.symm⟩, hb.2⟩

theorem scan_of_lex (m : Mode) (s : Str) (segs : List Seg) (h : lex m s = some segs)
    (hb : blockKw ∉ varNames segs) : scan (embMode m) s = some (segs.map Tok.seg) := by
  fun_induction lex m s generalizing segs
  case case1 => cases h; rfl
  case case2 rest ih => exact ih segs h hb
  case case5 c rest h1 h2 h3 ih =>
    obtain ⟨segs', hl, rfl⟩ := Option.map_eq_some_iff.mp h
    rw [varNames_consChar] at hb
    rw [embMode, scan_text_cons c rest h1 h2 h3, ← embMode, ih segs' hl hb, Option.map_some, map_consChar]
  case case7 c rest hsp ih => rw [embMode, scan_vpre, if_pos hsp]; exact ih segs h hb
  case case8 c rest hsp hid ih => rw [embMode, scan_vpre, if_neg hsp, if_pos hid]; exact ih segs h hb
  case case11 acc c rest hid ih => rw [embMode, scan_vname_ident _ _ _ hid]; exact ih segs h hb
  case case12 acc c rest hid hsp ih => rw [embMode, scan_vname_space _ _ _ hid hsp]; exact ih segs h hb
  case case13 acc c hid hsp hc rest' hp ih =>
    obtain ⟨segs', hl, rfl⟩ := Option.map_eq_some_iff.mp h
    obtain ⟨hpt, hb'⟩ := plainNameT_of _ _ hp hb
    rw [embMode, scan_vname_close _ _ _ hid hsp hc hpt, ← embMode, ih segs' hl hb']
    rfl
  case case18 n c rest hsp ih => rw [embMode, scan_vpost_space _ _ _ hsp]; exact ih segs h hb
  case case19 n c hsp hc rest' hp ih =>
    obtain ⟨segs', hl, rfl⟩ := Option.map_eq_some_iff.mp h
    obtain ⟨hpt, hb'⟩ := plainNameT_of _ _ hp hb
    rw [embMode, scan_vpost_close _ _ _ hsp hc hpt, ← embMode, ih segs' hl hb']
    rfl
  all_goals cases h

def plainItems (segs : List Seg) : List Item := segs.map fun s => Item.b (.seg s)

theorem group_plain (segs : List Seg) : group none (segs.map Tok.seg) = some (plainItems segs) := by
  induction segs with
  | nil => rfl
  | cons x r ih => rw [List.map_cons, group, ih]; rfl

theorem itemsOk_plain (segs : List Seg) : itemsOk (plainItems segs) = true := by
  have h : extCount (plainItems segs) = 0 ∧ blockNames (plainItems segs) = [] := by
    induction segs with
    | nil => exact ⟨rfl, rfl⟩
    | cons x r ih => exact ih
  rw [itemsOk, h.1, h.2]
  rfl

theorem resolveItems_plain (rec : Str → LinkRes (List RNode)) (base : Str) (segs : List Seg) :
    resolveItems rec base (plainItems segs) = .ok ⟨none, segs.map RNode.seg⟩ := by
  induction segs with
  | nil => rfl
  | cons x r ih => rw [plainItems, List.map_cons, resolveItems, ← plainItems, ih]; rfl

theorem flatten_map_seg (segs : List Seg) : flatten (segs.map RNode.seg) = segs := by
  induction segs with
  | nil => rfl
  | cons x r ih => exact congrArg (x :: ·) ih

theorem linkContent_plain (rec : Str → LinkRes (List RNode)) (base content : Str) (segs : List Seg)
    (hl : lexTemplate content = some segs) (hb : blockKw ∉ varNames segs) :
    linkContent rec base content = .ok (segs.map RNode.seg) := by
  unfold linkContent parseItems
  rw [← embMode, scan_of_lex .text content segs hl hb]
  simp only [group_plain, itemsOk_plain, if_true, resolveItems_plain]

theorem processT_plain (t : List Leaf) (q : Query) (vars : List (Str × Str)) (hq : wf q = true)
    (content : Str) (segs : List Seg) (hg : yamlGet t (absRaw q) = some content)
    (hl : lexTemplate content = some segs) (hb : blockKw ∉ varNames segs) :
    processT t q vars = processComponent t q vars := by
  rw [processT_eq, compileP_wf t q hq, processComponent, processComponentWith_wf codeCfg t q vars hq]
  unfold linkedEntry
  simp only [hg, hl, linkContent_plain _ _ content segs hl hb, LinkRes.map, flatten_map_seg, execT]

end Query
