/-
  Proofs/QueryConc — lemmas for the concurrent-lookup theorems of C20 (Props/C20.lean).
  The argument is a frame argument: a step of one request leaves the tree alone, keeps every cached template current,
  does not touch the other requests, and does not change what the stepping request will eventually answer. That every
  request finishes is a bound on its remaining steps (`DoneWithin`) that each of its own steps lowers.
-/
import ControlModel.Model.QueryConc
import ControlModel.Proofs.Query

namespace Query
open Spec.C20

theorem Prog.step_tpl (s : Svc) (path : Str) (k : LinkRes (List Seg) → Prog) :
    ∃ r, ((Prog.tpl path k).step s).2 = k r ∧ ((Prog.tpl path k).step s).1.tree = s.tree ∧
      (CacheCurrent s → r = compileP s.tree path ∧ CacheCurrent ((Prog.tpl path k).step s).1) := by
  simp only [Prog.step]
  split
  next e hf => exact ⟨_, rfl, rfl, fun h => ⟨(h.hit hf).symm, h⟩⟩
  next =>
    cases hc : compileP s.tree path with
    | ok segs => exact ⟨_, rfl, rfl, fun h => ⟨rfl, h.insert hc⟩⟩
    | err c => exact ⟨_, rfl, rfl, fun h => ⟨rfl, h⟩⟩
    | unmodelled => exact ⟨_, rfl, rfl, fun h => ⟨rfl, h⟩⟩

theorem Prog.step_tree (s : Svc) (p : Prog) : (p.step s).1.tree = s.tree := by
  cases p with
  | tpl path k => obtain ⟨_, -, h2, -⟩ := Prog.step_tpl s path k; exact h2
  | _ => rfl

theorem Prog.step_current (s : Svc) (h : CacheCurrent s) (p : Prog) : CacheCurrent (p.step s).1 := by
  cases p with
  | tpl path k => obtain ⟨_, -, -, h3⟩ := Prog.step_tpl s path k; exact (h3 h).2
  | _ => exact h

theorem Prog.step_eval (s : Svc) (h : CacheCurrent s) (p : Prog) :
    Prog.eval s.tree (p.step s).2 = Prog.eval s.tree p := by
  cases p with
  | tpl path k =>
    obtain ⟨r, h1, -, h3⟩ := Prog.step_tpl s path k
    rw [h1, (h3 h).1]
    rfl
  | _ => rfl

theorem Prog.eval_of_result (t : List Leaf) (p : Prog) (r : Resp) (h : p.result? = some r) : Prog.eval t p = r := by
  cases p with
  | done r' => exact Option.some.inj h
  | _ => cases h

/-- the existence probes of `resolveP` for an arbitrary list of candidates: ask for each in turn, stop at the first
    that exists -/
def probeWalk : List Query → (Option Query → Prog) → Prog
  | [], k => k none
  | c :: cs, k => .ex (absRaw c) fun b => if b then k (some c) else probeWalk cs k

theorem resolveP_eq_probeWalk (q : Query) (k : Option Query → Prog) : resolveP q k = probeWalk (specCandidates q) k :=
  rfl

theorem eval_probeWalk (t : List Leaf) (l : List Query) (k : Option Query → Prog) :
    Prog.eval t (probeWalk l k) = Prog.eval t (k (l.find? fun c => yamlExists t (absRaw c))) := by
  induction l with
  | nil => rfl
  | cons c cs ih =>
    rw [probeWalk, Prog.eval, find?_cons_ite]
    split
    · rfl
    · exact ih

theorem eval_resolveP (t : List Leaf) (q : Query) (k : Option Query → Prog) :
    Prog.eval t (resolveP q k) = Prog.eval t (k (resolve (yamlExists t) q)) := by
  rw [resolveP_eq_probeWalk, eval_probeWalk, resolve_eq_find?]

theorem eval_getP (t : List Leaf) (q : Query) (k : Payload → Prog) :
    Prog.eval t (getP q k) = Prog.eval t (k (getComponent t q)) := by
  unfold getP getComponent
  rw [Prog.eval]
  split <;> rfl

theorem eval_procP (t : List Leaf) (q : Query) (vars : List (Str × Str)) (k : Payload → Prog) :
    Prog.eval t (procP q vars k) = Prog.eval t (k (processT t q vars)) := by
  rw [processT_eq, procP, Prog.eval]
  cases compileP t (print q) <;> rfl

theorem eval_progOf (t : List Leaf) (rq : Req) : Prog.eval t (progOf rq) = rq.answer t := by
  cases rq with
  | res q => rw [progOf, eval_resolveP]; rfl
  | get q => rw [progOf, eval_getP]; rfl
  | rget q =>
    rw [progOf, eval_resolveP, Req.answer]
    cases resolve (yamlExists t) q with
    | none => rfl
    | some rq => exact eval_getP t rq _
  | proc q vars => rw [progOf, eval_procP]; rfl
  | rproc q vars =>
    rw [progOf, eval_resolveP, Req.answer]
    cases resolve (yamlExists t) q with
    | none => rfl
    | some rq => exact eval_procP t rq vars _

/-- the invariant of a run over the unchanging tree `t`: the tree is `t`, every cached template is current, and every
    thread will still answer what it would have answered at the start -/
structure ConcInv (t : List Leaf) (answers : List Resp) (c : Conf) : Prop where
  tree : c.svc.tree = t
  current : CacheCurrent c.svc
  evals : c.pool.map (Prog.eval t) = answers

theorem ConcInv.stepAt {t : List Leaf} {answers : List Resp} {c : Conf} (h : ConcInv t answers c) (i : Nat) :
    ConcInv t answers (c.stepAt i) := by
  unfold Conf.stepAt
  cases hp : c.pool[i]? with
  | none => exact h
  | some p =>
    refine ⟨(Prog.step_tree _ p).trans h.tree, Prog.step_current c.svc h.current p, ?_⟩
    have he := Prog.step_eval c.svc h.current p
    rw [h.tree] at he
    obtain ⟨hlt, rfl⟩ := List.getElem?_eq_some_iff.mp hp
    show List.map (Prog.eval t) (c.pool.set i (c.pool[i].step c.svc).2) = answers
    rw [List.map_set, he, ← List.map_set, List.set_getElem_self hlt, h.evals]

theorem ConcInv.run {t : List Leaf} {answers : List Resp} (sched : List Nat) :
    ∀ {c : Conf}, ConcInv t answers c → ConcInv t answers (c.run sched) := by
  induction sched with
  | nil => exact id
  | cons i rest ih => exact fun h => ih (h.stepAt i)

theorem ConcInv.start (t : List Leaf) (reqs : List Req) :
    ConcInv t (reqs.map (Req.answer t)) (startConf t reqs) :=
  ⟨rfl, .of_empty rfl, by
    rw [startConf, List.map_map]
    exact List.map_congr_left fun rq _ => eval_progOf t rq⟩

theorem ConcInv.answer {t : List Leaf} {answers : List Resp} {c : Conf} (h : ConcInv t answers c) (i : Nat) (r : Resp)
    (ha : c.answer? i = some r) : answers[i]? = some r := by
  obtain ⟨p, hp, hr⟩ := Option.bind_eq_some_iff.mp ha
  rw [← h.evals, List.getElem?_map, hp, Option.map_some, Prog.eval_of_result t p r hr]

theorem startConf_answer (t : List Leaf) (reqs : List Req) (sched : List Nat) (i : Nat) (r : Resp)
    (h : ((startConf t reqs).run sched).answer? i = some r) : reqs[i]?.map (Req.answer t) = some r := by
  rw [← List.getElem?_map]
  exact ((ConcInv.start t reqs).run sched).answer i r h

theorem DoneWithin.add {n : Nat} {p : Prog} (h : DoneWithin n p) (d : Nat) : DoneWithin (n + d) p := by
  induction h with
  | done n r => exact .done _ r
  | ex n key k _ ih => rw [Nat.add_right_comm]; exact .ex _ key k ih
  | get n key k _ ih => rw [Nat.add_right_comm]; exact .get _ key k ih
  | tpl n path k _ ih => rw [Nat.add_right_comm]; exact .tpl _ path k ih

theorem DoneWithin.step {n : Nat} {p : Prog} (h : DoneWithin n p) (s : Svc) : DoneWithin (n - 1) (p.step s).2 := by
  cases h with
  | done _ r => exact .done _ r
  | ex _ key k h => exact h _
  | get _ key k h => exact h _
  | tpl _ path k h => obtain ⟨r, h1, -⟩ := Prog.step_tpl s path k; rw [h1]; exact h r

theorem DoneWithin.result {p : Prog} (h : DoneWithin 0 p) : p.result?.isSome = true := by
  cases h with
  | done _ r => rfl

theorem doneWithin_probeWalk (n : Nat) (l : List Query) (k : Option Query → Prog) (hk : ∀ r, DoneWithin n (k r)) :
    DoneWithin (n + l.length) (probeWalk l k) := by
  induction l with
  | nil => exact hk none
  | cons c cs ih =>
    refine .ex _ _ _ fun b => ?_
    cases b
    · exact ih
    · exact (hk _).add cs.length

theorem doneWithin_resolveP (n : Nat) (q : Query) (k : Option Query → Prog) (hk : ∀ r, DoneWithin n (k r)) :
    DoneWithin (n + 4) (resolveP q k) :=
  doneWithin_probeWalk n (specCandidates q) k hk

theorem doneWithin_getP (n : Nat) (q : Query) (k : Payload → Prog) (hk : ∀ p, DoneWithin n (k p)) :
    DoneWithin (n + 2) (getP q k) := by
  refine .ex _ _ _ fun b => ?_
  cases b
  · exact (hk _).add 1
  · exact .get _ _ _ fun v => hk _

theorem doneWithin_procP (n : Nat) (q : Query) (vars : List (Str × Str)) (k : Payload → Prog) (hk : ∀ p, DoneWithin n (k p)) :
    DoneWithin (n + 1) (procP q vars k) :=
  .tpl _ _ _ fun _ => hk _

/-- every request is finished after at most six atomic steps (four existence probes of the fallback, then Exists + Get
    of the payload or the template-set step) -/
theorem doneWithin_progOf (rq : Req) : DoneWithin 6 (progOf rq) := by
  cases rq with
  | res q => rw [progOf]; exact (doneWithin_resolveP 0 q _ fun r => .done 0 _).add 2
  | get q => rw [progOf]; exact (doneWithin_getP 0 q _ fun p => .done 0 _).add 4
  | rget q =>
    rw [progOf]
    refine doneWithin_resolveP 2 q _ fun r => ?_
    cases r with
    | none => exact .done 2 _
    | some rq => exact doneWithin_getP 0 rq _ fun p => .done 0 _
  | proc q vars => rw [progOf]; exact (doneWithin_procP 0 q vars _ fun p => .done 0 _).add 5
  | rproc q vars =>
    rw [progOf]
    refine (doneWithin_resolveP 1 q _ fun r => ?_).add 1
    cases r with
    | none => exact .done 1 _
    | some rq => exact doneWithin_procP 0 rq vars _ fun p => .done 0 _

theorem Conf.stepAt_length (c : Conf) (i : Nat) : (c.stepAt i).pool.length = c.pool.length := by
  unfold Conf.stepAt
  cases c.pool[i]? with
  | none => rfl
  | some p => exact List.length_set

theorem Conf.stepAt_other (c : Conf) (i j : Nat) (h : i ≠ j) : (c.stepAt i).pool[j]? = c.pool[j]? := by
  unfold Conf.stepAt
  cases c.pool[i]? with
  | none => rfl
  | some p => exact List.getElem?_set_ne h

theorem Conf.stepAt_self (c : Conf) (i : Nat) (p : Prog) (hp : c.pool[i]? = some p) :
    (c.stepAt i).pool[i]? = some (p.step c.svc).2 := by
  unfold Conf.stepAt
  rw [hp]
  exact List.getElem?_set_self (List.getElem?_eq_some_iff.mp hp).1

theorem Conf.run_finishes (sched : List Nat) (i : Nat) :
    ∀ (c : Conf) (n : Nat) (p : Prog), c.pool[i]? = some p → DoneWithin n p → n ≤ sched.count i →
      ((c.run sched).answer? i).isSome = true := by
  induction sched with
  | nil =>
    intro c n p hp hd hn
    cases Nat.le_zero.mp hn
    rw [Conf.run, Conf.answer?, hp]
    exact hd.result
  | cons j rest ih =>
    intro c n p hp hd hn
    rw [Conf.run]
    by_cases hji : j = i
    · subst hji
      rw [List.count_cons_self] at hn
      exact ih _ (n - 1) _ (c.stepAt_self j p hp) (hd.step c.svc) (Nat.sub_le_of_le_add hn)
    · rw [List.count_cons_of_ne hji] at hn
      exact ih _ n p ((c.stepAt_other j i hji).trans hp) hd hn

theorem count_roundRobin (threads n i : Nat) (h : i < threads) : (roundRobin threads n).count i = n := by
  unfold roundRobin
  induction n with
  | zero => rfl
  | succ n ih =>
    rw [List.replicate_succ, List.flatten_cons, List.count_append, ih, List.nodup_range.count,
      if_pos (List.mem_range.mpr h), Nat.add_comm]

theorem concOk_model (t : List Leaf) (reqs : List Req) (hwf : reqs.all reqWf = true) :
    concOk t reqs (modelConcObs t reqs) = true := by
  induction reqs with
  | nil => rfl
  | cons rq rest ih =>
    rw [List.all_cons, Bool.and_eq_true] at hwf
    have h := reqOk_answer t rq hwf.1
    rw [modelConcObs, List.map_cons, concOk, h, List.all_cons, h]
    exact ih hwf.2

end Query
