/-
  Proofs/Reconcile — invariants of Model/Reconcile.lean behind the C18 theorems (core Lean only).
  InvA, InvB (steps satisfying `stepOk`), InvR are preserved by every `Eff` (Proofs/ReconcileStep.lean), hence hold of every
  state in `Reach`: after every history of the model and of the layers over it; InvP along guarded runs (`invP_run`).

    InvA  identity: a persisted framework id is the one in memory, on the stream and in every later SUBSCRIBE
    InvB  well-formedness: table rows are `seen`, roster ids belong to rows of the current life, every row
          carries the persisted framework id, nothing is in flight for a dead core
    InvR  the roster and what the environments hold: every held task has a locked roster entry of its
          environment and vice versa — across teardowns split into `releaseBegin`/`releaseEnd` with deployments
          of other environments in between; needs `snapshotRewrite = false` (failed KILLs are appended back)
    InvP  (under `noReconnWhileOwning`) no reconciliation update in flight names a locked roster task
    InvQ  orphans: while connected, every killable task of an earlier life is covered by the SUBSCRIBED still
          to be read, by a reconciliation answer on its way, or by a KILL sent SINCE the latest RECONCILE call
          of the current life (so: every reconciliation round kills it again, `orphansKilledEachRound`).
          Stated here; it is `OrphanInv` of Proofs/Resubscribe.lean with nothing left out (`invQ_run`).
-/
import ControlModel.Proofs.ReconcileStep
open Reconcile Spec.C18

namespace Reconcile

theorem alive_dead {s : St} {P : Prop} (h : s.alive = true) (hd : s.alive = false) : P :=
  nomatch h.symm.trans hd

theorem mem_optional {α} {b : Bool} {a o : α} (h : o ∈ (if b then [a] else [])) : o = a := by
  cases b
  · cases h
  · exact List.mem_singleton.mp h

theorem mem_killsFor {l : Nat} {w : Why} {ts : List RTask} {o : Out} (h : o ∈ killsFor l w ts) :
    ∃ t ow, o = .kill l t w ow := by
  obtain ⟨x, _, rfl⟩ := List.mem_map.mp h
  exact ⟨_, _, rfl⟩

structure InvA (s : St) : Prop where
  persisted : ∀ l f, Out.persist l f ∈ s.log → s.kv = some f
  mem : s.alive = true → ∀ f, s.kv = some f → s.fidMem = some f
  hello : ∀ g, s.hello = some g → s.stream = some g
  stream : ∀ f, s.kv = some f → s.stream = none ∨ s.stream = some f
  same : sameIdentity s.log = true
  once : persistedOnce s.log = true

theorem invA_init (kv0 : Option Nat) : InvA (init kv0) := by
  cases kv0 <;> constructor <;> simp [init, sameIdentity, persistedOnce]

/-- Log entries other than SUBSCRIBE and `persist`: the identity predicates do not look at them. -/
def idQuiet : Out → Bool
  | .subscribe .. | .persist .. => false
  | _ => true

theorem idQuiet_append (new log : List Out) (hq : new.all idQuiet = true) :
    (∀ l f, Out.persist l f ∈ new ++ log → Out.persist l f ∈ log) ∧
    sameIdentity (new ++ log) = sameIdentity log ∧ persistedOnce (new ++ log) = persistedOnce log := by
  induction new with
  | nil => exact ⟨fun _ _ h => h, rfl, rfl⟩
  | cons o new ih =>
    rw [List.all_cons, Bool.and_eq_true] at hq
    obtain ⟨i1, i2, i3⟩ := ih hq.2
    cases o with
    | subscribe | persist => cases hq.1
    | kill | reconcile | stateError | snap =>
      exact ⟨fun l f h => i1 l f ((List.mem_cons.mp h).resolve_left nofun), i2, i3⟩

theorem killsFor_idQuiet (l : Nat) (w : Why) (ts : List RTask) : (killsFor l w ts).all idQuiet = true :=
  List.all_eq_true.mpr fun _ h => by obtain ⟨_, _, rfl⟩ := mem_killsFor h; rfl

theorem InvA.quiet {s s' : St} (h : InvA s) (new : List Out) (hq : new.all idQuiet = true)
    (hlog : s'.log = new ++ s.log) (hkv : s'.kv = s.kv) (hal : s'.alive = s.alive) (hmem : s'.fidMem = s.fidMem)
    (hhe : s'.hello = s.hello) (hst : s'.stream = s.stream) : InvA s' := by
  obtain ⟨q1, q2, q3⟩ := idQuiet_append new s.log hq
  exact ⟨fun l f hm => hkv ▸ h.persisted l f (q1 l f (hlog ▸ hm)), hal ▸ hkv ▸ hmem ▸ h.mem, hhe ▸ hst ▸ h.hello,
    hkv ▸ hst ▸ h.stream, hlog ▸ q2 ▸ h.same, hlog ▸ q3 ▸ h.once⟩

theorem InvA.exit {s : St} (h : InvA s) (new : List Out) (hq : new.all idQuiet = true) :
    InvA { s.exit with log := new ++ s.log } := by
  obtain ⟨q1, q2, q3⟩ := idQuiet_append new s.log hq
  exact ⟨fun l f hm => h.persisted l f (q1 l f hm), nofun, nofun, fun _ _ => .inl rfl, q2 ▸ h.same, q3 ▸ h.once⟩

theorem InvA.eff {c : Cfg} {W : World} {s s' : St} {x : Step} (hseed : c.seedFid = true) (hfo : c.failover = true)
    (h : InvA s) (e : Eff c W s x s') : InvA s' := by
  cases e with
  | idle => exact h
  | coreStart =>
    exact ⟨h.persisted, fun _ f hk => by simp only [hseed, if_true]; exact hk, h.hello, h.stream, h.same, h.once⟩
  | coreKill => exact h.exit [] rfl
  | coreTerm => exact h.exit _ (killsFor_idQuiet ..)
  | stateError => exact h.exit [_] rfl
  | subscribe f n hal hs hcarry =>
    -- what is persisted is in memory, and it is what SUBSCRIBE carries
    have hc : ∀ g, s.kv = some g → (if c.failover then s.fidMem else none) = some g := fun g hk => by
      rw [hfo, if_pos rfl]; exact h.mem hal g hk
    refine ⟨fun l g hm => h.persisted l g ((List.mem_cons.mp hm).resolve_left nofun), h.mem, fun _ hg => hg,
      fun g hk => .inr ?_, ?_, h.once⟩
    · rcases hcarry with ⟨hf, _⟩ | ⟨hf, _⟩
      · rw [Option.some.inj ((hc g hk).symm.trans hf)]
      · rw [hc g hk] at hf; cases hf
    · simp only [sameIdentity, h.same, Bool.and_true, List.all_eq_true]
      intro o ho
      split
      · next l g => simp only [hc g (h.persisted l g ho), beq_self_eq_true]
      · rfl
  | drop => exact ⟨h.persisted, h.mem, nofun, fun _ _ => .inl rfl, h.same, h.once⟩
  | readHello f hal hh he =>
    have hrc : (if c.reconcileOnSubscribed then [Out.reconcile s.life] else []).all idQuiet = true := by
      cases c.reconcileOnSubscribed <;> rfl
    cases hb : (s.fidMem != some f && c.persistFid) with
    | false =>
      obtain ⟨q1, q2, q3⟩ := idQuiet_append _ s.log hrc
      refine ⟨fun l g hp => h.persisted l g (q1 l g hp), fun _ g hk => ?_, nofun, h.stream, q2.trans h.same,
        q3.trans h.once⟩
      -- TrackSubscription let the id pass, and it is not new: it is the stored one
      have hm := h.mem hal g hk
      rw [hm, hfo] at he
      exact congrArg some (Eq.symm (by simpa using he))
    | true =>
      -- TrackSubscription let a new id pass: nothing was stored, so nothing was ever persisted
      have hnone : s.fidMem = none := by
        cases hfm : s.fidMem with
        | none => rfl
        | some g =>
          rw [hfm, hfo] at he; rw [hfm] at hb
          exact absurd (by simpa using he) (by simpa using hb : ¬ g = f ∧ _).1
      have hnp : ∀ l g, Out.persist l g ∉ s.log := fun l g hp => by
        have := h.mem hal g (h.persisted l g hp); rw [hnone] at this; cases this
      obtain ⟨q1, q2, q3⟩ := idQuiet_append _ (.persist s.life f :: s.log) hrc
      refine ⟨fun l g hp => ?_, fun _ g hk => hk, nofun, fun g hk => .inr (hk ▸ h.hello f hh), q2.trans h.same,
        q3.trans ?_⟩
      · rcases List.mem_cons.mp (q1 l g hp) with hp | hp
        · cases hp; rfl
        · exact absurd hp (hnp l g)
      · simp only [persistedOnce, h.once, Bool.and_true, List.all_eq_true]
        intro o ho
        split
        · next l g => exact absurd ho (hnp l g)
        · rfl
  | handleKill | snapshot => exact h.quiet [_] rfl rfl rfl rfl rfl rfl rfl
  | release | releaseEnd => exact h.quiet _ (killsFor_idQuiet ..) rfl rfl rfl rfl rfl rfl
  | readQueue | handleKillLost | handleUpdate | launch | status | reconUpdate | releaseFailed | releaseBegin
  | releaseEndFailed => exact ⟨h.persisted, h.mem, h.hello, h.stream, h.same, h.once⟩

theorem Reach.invA {c : Cfg} {ok : Step → Bool} {s : St} (hseed : c.seedFid = true) (hfo : c.failover = true)
    (h : Reach c ok s) : InvA s := by
  induction h with
  | init kv0 => exact invA_init kv0
  | eff _ _ e ih => exact ih.eff hseed hfo e

/-- hypotheses on the configuration used by the well-formedness and orphan invariants -/
structure Sound (c : Cfg) : Prop where
  seed : c.seedFid = true
  persist : c.persistFid = true
  failover : c.failover = true
  recon : c.reconcileOnSubscribed = true
  staging : c.killable .staging = true
  nonterm : ∀ st, c.killable st = true → st.terminal = false
  norewrite : c.snapshotRewrite = false

/-- No TASK_UNREACHABLE: a task in a live state the KILL branch does not list would pass a reconciliation round
    unkilled and could be alive again afterwards (`InvB.states`, used by `OrphanInv.eff`). -/
def stepOk (c : Cfg) : Step → Bool
  | .status _ st => st.terminal || c.killable st
  | _ => true

structure InvB (c : Cfg) (s : St) : Prop where
  seen : ∀ t ∈ s.tasks, t.id ∈ s.seen
  roster : ∀ r ∈ s.roster, ∀ t ∈ s.tasks, t.id = r.id → t.life = s.life
  tearing : ∀ d ∈ s.tearing, ∀ a ∈ d.act, ∀ t ∈ s.tasks, t.id = a → t.life = s.life
  fid : ∀ t ∈ s.tasks, s.kv = some t.fid
  mem : s.alive = true → s.fidMem = s.kv
  dead : s.alive = false → s.stream = none ∧ s.hello = none ∧ s.queue = [] ∧ s.roster = [] ∧ s.inbox = []
  conn : s.alive = true → ∀ f, s.stream = some f → s.hello.isSome = false → s.fidMem = some f
  states : ∀ t ∈ s.tasks, t.state.terminal = true ∨ c.killable t.state = true

theorem invB_init (c : Cfg) (kv0 : Option Nat) : InvB c (init kv0) := by
  cases kv0 <;> constructor <;> simp [init]

theorem mem_setState {ts : List MTask} {t : Nat} {st : MState} {y : MTask}
    (h : y ∈ ts.map (fun y => if y.id == t && !y.state.terminal then { y with state := st } else y)) :
    ∃ y0 ∈ ts, y.id = y0.id ∧ y.fid = y0.fid ∧ y.life = y0.life ∧
      (y.state = y0.state ∨ y0.state.terminal = false ∧ y.state = st) := by
  obtain ⟨y0, h0, rfl⟩ := List.mem_map.mp h
  refine ⟨y0, h0, ?_⟩
  split
  · next hc =>
    exact ⟨rfl, rfl, rfl, .inr ⟨(by simpa using hc : y0.id = t ∧ y0.state.terminal = false).2, rfl⟩⟩
  · exact ⟨rfl, rfl, rfl, .inl rfl⟩

/-- `updateTaskStatus` touches the `active` flag of an entry and nothing else. -/
theorem setActive_entry (t : Nat) (st : MState) (x : RTask) :
    ∃ a, (if x.id == t then
        (if st == .running then { x with active := true } else if st.inactivates then { x with active := false } else x)
      else x) = { x with active := a } := by
  split
  · split
    · exact ⟨true, rfl⟩
    · split
      · exact ⟨false, rfl⟩
      · exact ⟨x.active, rfl⟩
  · exact ⟨x.active, rfl⟩

theorem of_mem_setActive {rs : List RTask} {t : Nat} {st : MState} {r : RTask} (h : r ∈ setActive rs t st) :
    ∃ r0 ∈ rs, r.id = r0.id ∧ r.env = r0.env ∧ r.locked = r0.locked := by
  obtain ⟨r0, h0, rfl⟩ := List.mem_map.mp h
  obtain ⟨a, e⟩ := setActive_entry t st r0
  exact ⟨r0, h0, by rw [e]; exact ⟨rfl, rfl, rfl⟩⟩

/-- `seen` covers the table, under no hypothesis on the configuration -/
theorem seen_eff {c : Cfg} {W : World} {s s' : St} {x : Step} (e : Eff c W s x s')
    (h : ∀ t ∈ s.tasks, t.id ∈ s.seen) : ∀ t ∈ s'.tasks, t.id ∈ s'.seen := by
  cases e with
  | launch e t f =>
    intro y hy
    rcases List.mem_append.mp hy with hy | hy
    · exact List.mem_cons_of_mem _ (h y hy)
    · rw [List.mem_singleton.mp hy]; exact List.mem_cons_self
  | status t st x =>
    intro y hy
    obtain ⟨y0, h0, hid, _⟩ := mem_setState hy
    exact hid ▸ h y0 h0
  | reconUpdate t st => exact fun y hy => List.mem_cons_of_mem _ (h y hy)
  | _ => exact h

/-- `InvB.mem` on its own: it needs less of the configuration -/
theorem mem_eff {c : Cfg} {W : World} {s s' : St} {x : Step} (hseed : c.seedFid = true) (hpers : c.persistFid = true)
    (e : Eff c W s x s') (h : s.alive = true → s.fidMem = s.kv) : s'.alive = true → s'.fidMem = s'.kv := by
  cases e with
  | coreStart => exact fun _ => by simp only [hseed, if_true]
  | coreKill | coreTerm | stateError => exact nofun
  | readHello f hal =>
    intro _
    show some f = if (s.fidMem != some f && c.persistFid) = true then some f else s.kv
    rw [hpers, Bool.and_true]
    split
    · rfl
    · next hm => rw [← h hal]; exact (by simpa using hm : s.fidMem = some f).symm
  | _ => exact h

theorem InvB.exit {c : Cfg} {s : St} (h : InvB c s) (log : List Out) : InvB c { s.exit with log := log } :=
  ⟨h.seen, nofun, nofun, h.fid, nofun, fun _ => ⟨rfl, rfl, rfl, rfl, rfl⟩, nofun, h.states⟩

theorem InvB.roster_sub {c : Cfg} {s : St} (h : InvB c s) {rs : List RTask}
    (hsub : ∀ r' ∈ rs, ∃ r ∈ s.roster, r'.id = r.id) : ∀ r ∈ rs, ∀ t ∈ s.tasks, t.id = r.id → t.life = s.life := by
  intro r' hr' t ht hid
  obtain ⟨r, hr, e⟩ := hsub r' hr'
  exact h.roster r hr t ht (hid.trans e)

theorem InvB.eff {c : Cfg} {W : World} {s s' : St} {x : Step} (hc : Sound c) (hx : stepOk c x = true)
    (ha : ∀ g, s.hello = some g → s.stream = some g) (h : InvB c s) (e : Eff c W s x s') : InvB c s' := by
  have hseen := seen_eff e h.seen
  have hmem := mem_eff hc.seed hc.persist e h.mem
  cases e with
  | idle => exact h
  | coreStart hal =>
    exact ⟨hseen, nofun, nofun, h.fid, hmem, nofun,
      fun _ f hs => (by rw [(h.dead hal).1] at hs; cases hs), h.states⟩
  | coreKill | coreTerm | stateError => exact h.exit _
  | subscribe f n hal => exact ⟨hseen, h.roster, h.tearing, h.fid, hmem, alive_dead hal, nofun, h.states⟩
  | drop =>
    exact ⟨hseen, h.roster, h.tearing, h.fid, hmem, fun hd => ⟨rfl, rfl, rfl, (h.dead hd).2.2.2⟩, nofun, h.states⟩
  | readHello f hal hh he =>
    refine ⟨hseen, h.roster, h.tearing, fun t ht => ?_, hmem, alive_dead hal, fun _ g hg _ => ?_, h.states⟩
    · -- a row carries the persisted id, which is in memory; TrackSubscription let it pass: it is this stream's
      have hm := h.fid t ht
      rw [← h.mem hal] at hm
      rw [hm, hc.failover] at he
      exact (hmem hal).symm.trans (congrArg some (Eq.symm (by simpa using he)))
    · exact congrArg _ (Option.some.inj ((ha f hh).symm.trans hg))
  | readQueue u rest hal | handleKill t st r rest hal | handleKillLost t st r rest hal | snapshot os hal =>
    exact ⟨hseen, h.roster, h.tearing, h.fid, hmem, alive_dead hal, h.conn, h.states⟩
  | handleUpdate t st r rest hal =>
    exact ⟨hseen, h.roster_sub fun r' hr' => (of_mem_setActive hr').imp fun _ p => ⟨p.1, p.2.1⟩, h.tearing,
      h.fid, hmem, alive_dead hal, h.conn, h.states⟩
  | launch e t f hal hs hh hf =>
    refine ⟨hseen, fun r hr y hy hid => ?_, fun d hd a had y hy hid => ?_, fun y hy => ?_, hmem, alive_dead hal,
      h.conn, fun y hy => ?_⟩
    · rcases List.mem_append.mp hy with hy | hy
      · rcases List.mem_append.mp hr with hr | hr
        · exact h.roster r hr y hy hid
        · -- the new roster entry: its id is fresh, no row of the table carries it
          rw [List.mem_singleton.mp hr] at hid
          exact absurd ((show y.id = t from hid) ▸ h.seen y hy) hf
      · rw [List.mem_singleton.mp hy]
    · rcases List.mem_append.mp hy with hy | hy
      · exact h.tearing d hd a had y hy hid
      · rw [List.mem_singleton.mp hy]
    · rcases List.mem_append.mp hy with hy | hy
      · exact h.fid y hy
      · rw [List.mem_singleton.mp hy, ← h.mem hal]
        exact h.conn hal f hs (by rw [hh]; rfl)
    · rcases List.mem_append.mp hy with hy | hy
      · exact h.states y hy
      · rw [List.mem_singleton.mp hy]; exact .inr hc.staging
  | status t st x hf hterm =>
    refine ⟨hseen, fun r hr y hy hid => ?_, fun d hd a had y hy hid => ?_, fun y hy => ?_, hmem, fun hd => ?_, h.conn,
      fun y hy => ?_⟩
    · obtain ⟨y0, h0, e1, _, e3, _⟩ := mem_setState hy
      exact e3 ▸ h.roster r hr y0 h0 (e1 ▸ hid)
    · obtain ⟨y0, h0, e1, _, e3, _⟩ := mem_setState hy
      exact e3 ▸ h.tearing d hd a had y0 h0 (e1 ▸ hid)
    · obtain ⟨y0, h0, _, e2, _⟩ := mem_setState hy
      exact e2 ▸ h.fid y0 h0
    · obtain ⟨h1, h2, h3, h4⟩ := h.dead hd
      exact ⟨h1, h2, by show (if (s.stream == some x.fid) = true then _ else _) = _; rw [h1]; exact h3, h4⟩
    · obtain ⟨y0, h0, _, _, _, e4 | ⟨_, e4⟩⟩ := mem_setState hy
      · exact e4 ▸ h.states y0 h0
      · rw [e4]; simpa [stepOk] using hx
  | reconUpdate t st hs =>
    exact ⟨hseen, h.roster, h.tearing, h.fid, hmem, fun hd => (by rw [(h.dead hd).1] at hs; cases hs), h.conn, h.states⟩
  | release e hal =>
    exact ⟨hseen, h.roster_sub fun r hr => ⟨r, (List.mem_filter.mp hr).1, rfl⟩, h.tearing, h.fid, hmem,
      alive_dead hal, h.conn, h.states⟩
  | releaseFailed e hal =>
    refine ⟨hseen, h.roster_sub fun r hr => ?_, h.tearing, h.fid, hmem, alive_dead hal, h.conn, h.states⟩
    rcases List.mem_append.mp hr with hr | hr
    · exact ⟨r, (List.mem_filter.mp hr).1, rfl⟩
    · obtain ⟨r0, h0, rfl⟩ := List.mem_map.mp hr
      exact ⟨r0, (List.mem_filter.mp (List.mem_filter.mp h0).1).1, rfl⟩
  | releaseBegin e hal =>
    refine ⟨hseen, h.roster_sub fun r hr => ⟨r, (List.mem_filter.mp hr).1, rfl⟩, fun d hd a had y hy hid => ?_, h.fid,
      hmem, alive_dead hal, h.conn, h.states⟩
    rcases List.mem_append.mp hd with hd | hd
    · exact h.tearing d hd a had y hy hid
    · -- the tasks of the new teardown come out of the roster
      rw [List.mem_singleton.mp hd] at had
      obtain ⟨r0, h0, rfl⟩ := List.mem_map.mp had
      exact h.roster r0 (List.mem_filter.mp (List.mem_filter.mp h0).1).1 y hy hid
  | releaseEnd e d hal hf =>
    exact ⟨hseen, by rw [hc.norewrite]; exact h.roster, fun d' hd' => h.tearing d' (List.mem_of_mem_eraseP hd'), h.fid,
      hmem, alive_dead hal, h.conn, h.states⟩
  | releaseEndFailed e d hal hf =>
    refine ⟨hseen, fun r hr y hy hid => ?_, fun d' hd' => h.tearing d' (List.mem_of_mem_eraseP hd'), h.fid,
      hmem, alive_dead hal, h.conn, h.states⟩
    rw [hc.norewrite] at hr
    rcases List.mem_append.mp hr with hr | hr
    · exact h.roster r hr y hy hid
    · -- a task put back after its KILL failed was in the teardown
      obtain ⟨a, had, rfl⟩ := List.mem_map.mp hr
      exact h.tearing d (List.mem_of_find?_eq_some hf) a had y hy hid

theorem not_inRoster_of_old (c : Cfg) (s : St) (hB : InvB c s) (t : MTask) (ht : t ∈ s.tasks) (hlt : t.life < s.life) :
    inRoster s.roster t.id = false := by
  cases h : inRoster s.roster t.id with
  | false => rfl
  | true =>
    simp only [inRoster, List.any_eq_true, beq_iff_eq] at h
    obtain ⟨r, hr, hid⟩ := h
    have := hB.roster r hr t ht hid.symm
    omega

/-- A live core that has handled the SUBSCRIBED of its stream is subscribed under the id in `mesos_fid`. -/
theorem InvB.connected {c : Cfg} {s : St} (h : InvB c s) (ha : s.alive = true) (hc : s.connected = true) :
    ∃ f, s.stream = some f ∧ s.kv = some f := by
  simp only [St.connected, Bool.and_eq_true, Option.isSome_iff_exists, Option.isNone_iff_eq_none] at hc
  obtain ⟨⟨f, hf⟩, hh⟩ := hc
  exact ⟨f, hf, h.mem ha ▸ h.conn ha f hf (by rw [hh]; rfl)⟩

theorem Reach.invB {c : Cfg} {s : St} (hc : Sound c) (h : Reach c (stepOk c) s) : InvB c s := by
  induction h with
  | init kv0 => exact invB_init c kv0
  | eff hs hx e ih => exact ih.eff hc hx (hs.invA hc.seed hc.failover).hello e

/-- What a failed teardown appends back is unlocked: a locked entry of the new roster was there before. -/
theorem mem_of_locked_append {α} {rs : List RTask} {back : List α} {f : α → RTask} (hf : ∀ a, (f a).locked = false)
    {x : RTask} (hx : x ∈ rs ++ back.map f) (hl : x.locked = true) : x ∈ rs :=
  (List.mem_append.mp hx).resolve_right fun hb => by
    obtain ⟨a, _, rfl⟩ := List.mem_map.mp hb
    exact nomatch (hf a).symm.trans hl

/-- Every task a live environment holds has a locked roster entry of that environment, and every locked roster
    entry is held: the roster is COMPLETE (nothing owned is missing: what the roster test of the KILL branch
    relies on) and SOUND. -/
structure InvR (s : St) : Prop where
  complete : ∀ p ∈ s.held, ∃ r ∈ s.roster, r.id = p.1 ∧ r.env = p.2 ∧ r.locked = true
  sound : ∀ r ∈ s.roster, r.locked = true → (r.id, r.env) ∈ s.held

theorem invR_init (kv0 : Option Nat) : InvR (init kv0) := by
  cases kv0 <;> constructor <;> simp [init]

theorem InvR.eff {c : Cfg} {W : World} {s s' : St} {x : Step} (hrw : c.snapshotRewrite = false) (h : InvR s)
    (e : Eff c W s x s') : InvR s' := by
  -- a teardown of `e` takes the tasks of `e`, and only those, out of both
  have hfilter : ∀ e : Nat,
      (∀ p ∈ s.held.filter (fun p => p.2 != e), ∃ r ∈ s.roster.filter (fun x => x.env != e),
        r.id = p.1 ∧ r.env = p.2 ∧ r.locked = true) ∧
      (∀ r ∈ s.roster.filter (fun x => x.env != e), r.locked = true → (r.id, r.env) ∈ s.held.filter (fun p => p.2 != e)) :=
    fun e => ⟨fun p hp =>
        have ⟨hp, he⟩ := List.mem_filter.mp hp
        have ⟨r, hr, h1, h2, h3⟩ := h.complete p hp
        ⟨r, List.mem_filter.mpr ⟨hr, h2 ▸ he⟩, h1, h2, h3⟩,
      fun r hr hl =>
        have ⟨hr, he⟩ := List.mem_filter.mp hr
        List.mem_filter.mpr ⟨h.sound r hr hl, he⟩⟩
  cases e with
  | idle => exact h
  | coreStart | coreKill | coreTerm | stateError => exact ⟨nofun, nofun⟩
  | handleUpdate t st =>
    refine ⟨fun p hp => ?_, fun r hr hl => ?_⟩
    · obtain ⟨r, hr, hp⟩ := h.complete p hp
      obtain ⟨a, e⟩ := setActive_entry t st r
      exact ⟨_, List.mem_map.mpr ⟨r, hr, e⟩, hp⟩
    · obtain ⟨r0, hr0, g1, g2, g3⟩ := of_mem_setActive hr
      exact g1 ▸ g2 ▸ h.sound r0 hr0 (g3 ▸ hl)
  | launch e t =>
    refine ⟨fun p hp => ?_, fun r hr hl => ?_⟩
    · rcases List.mem_append.mp hp with hp | hp
      · obtain ⟨r, hr, hp⟩ := h.complete p hp
        exact ⟨r, List.mem_append_left _ hr, hp⟩
      · rw [List.mem_singleton.mp hp]
        exact ⟨_, List.mem_append_right _ List.mem_cons_self, rfl, rfl, rfl⟩
    · rcases List.mem_append.mp hr with hr | hr
      · exact List.mem_append_left _ (h.sound r hr hl)
      · rw [List.mem_singleton.mp hr]; exact List.mem_append_right _ List.mem_cons_self
  | release e | releaseBegin e => exact ⟨(hfilter e).1, (hfilter e).2⟩
  | releaseFailed e =>
    refine ⟨fun p hp => ?_, fun r hr hl => ?_⟩
    · obtain ⟨r, hr, hp⟩ := (hfilter e).1 p hp
      exact ⟨r, List.mem_append_left _ hr, hp⟩
    · exact (hfilter e).2 r (mem_of_locked_append (fun _ => rfl) hr hl) hl
  | releaseEnd => rw [hrw]; exact ⟨h.complete, h.sound⟩
  | releaseEndFailed =>
    rw [hrw]
    refine ⟨fun p hp => ?_, fun r hr hl => ?_⟩
    · obtain ⟨r, hr, hp⟩ := h.complete p hp
      exact ⟨r, List.mem_append_left _ hr, hp⟩
    · exact h.sound r (mem_of_locked_append (fun _ => rfl) hr hl) hl
  | subscribe | drop | readHello | readQueue | handleKill | handleKillLost | status | reconUpdate | snapshot =>
    exact ⟨h.complete, h.sound⟩

theorem Reach.invR {c : Cfg} {ok : Step → Bool} {s : St} (hrw : c.snapshotRewrite = false) (h : Reach c ok s) : InvR s := by
  induction h with
  | init kv0 => exact invR_init kv0
  | eff _ _ e ih => exact ih.eff hrw e

theorem heldBy_eq_lockedIn (s : St) (h : InvR s) (t : Nat) : heldBy s.held t = lockedIn s.roster t := by
  apply Bool.eq_iff_iff.mpr
  simp only [heldBy, lockedIn, List.any_eq_true, beq_iff_eq, Bool.and_eq_true]
  constructor
  · rintro ⟨p, hp, rfl⟩
    obtain ⟨r, hr, h1, _, h3⟩ := h.complete p hp
    exact ⟨r, hr, h1, h3⟩
  · rintro ⟨r, hr, rfl, hl⟩
    exact ⟨_, h.sound r hr hl, rfl⟩

/-- An update-caused KILL enters the log by `handleKill` only. -/
theorem Eff.update_kill {c : Cfg} {W : World} {s s' : St} {x : Step} (e : Eff c W s x s') {l t : Nat} {r : Reason}
    {ow : Bool} (hm : Out.kill l t (.update r) ow ∈ s'.log) :
    Out.kill l t (.update r) ow ∈ s.log ∨
    ∃ st rest, s.inbox = (t, st, r) :: rest ∧ (!c.reasonGuard || r == .recon) = true ∧
      (!c.rosterGuard || !inRoster s.roster t) = true ∧ ow = (lockedIn s.roster t || heldBy s.held t) := by
  have kills : ∀ {l' w ts}, Out.kill l t (.update r) ow ∈ killsFor l' w ts ++ s.log → (∀ r, w ≠ .update r) →
      Out.kill l t (.update r) ow ∈ s.log := fun hm hw =>
    (List.mem_append.mp hm).resolve_left fun hk => by
      obtain ⟨_, _, e⟩ := mem_killsFor hk
      injection e with _ _ e _
      exact hw r e.symm
  cases e with
  | coreTerm | release | releaseEnd => exact .inl (kills hm fun _ h => nomatch h)
  | subscribe | stateError | snapshot => exact .inl ((List.mem_cons.mp hm).resolve_left nofun)
  | readHello =>
    refine .inl ?_
    rcases List.mem_append.mp hm with hm | hm
    · cases mem_optional hm
    · rcases List.mem_append.mp hm with hm | hm
      · cases mem_optional hm
      · exact hm
  | handleKill t' st r' rest _ hi hr _ hg =>
    rcases List.mem_cons.mp hm with hm | hm
    · injection hm with _ e1 e2 e3
      injection e2 with e2
      subst e1 e2 e3
      exact .inr ⟨st, rest, hi, hr, hg, rfl⟩
    · exact .inl hm
  | idle | coreStart | coreKill | drop | readQueue | handleKillLost | handleUpdate | launch | status | reconUpdate
  | releaseFailed | releaseBegin | releaseEndFailed => exact .inl hm

theorem ownedSpared_iff {log : List Out} :
    ownedSpared log = true ↔ ∀ l t ow, Out.kill l t (.update .recon) ow ∈ log → ow = false := by
  rw [ownedSpared, List.all_eq_true]
  constructor
  · intro h l t ow hm; simpa using h _ hm
  · intro h o ho
    split
    · next l t ow => rw [h l t ow ho]; rfl
    · rfl

theorem updatesNeverKill_iff {log : List Out} :
    updatesNeverKill log = true ↔ ∀ l t ow, Out.kill l t (.update .none) ow ∉ log := by
  rw [updatesNeverKill, List.all_eq_true]
  constructor
  · intro h l t ow hm; simpa using h _ hm
  · intro h o ho
    split
    · next l t ow => exact absurd ho (h l t ow)
    · rfl

theorem lockedIn_eq_false {rs : List RTask} {t : Nat} :
    lockedIn rs t = false ↔ ∀ x ∈ rs, x.id = t → x.locked = false := by
  simp [lockedIn]

theorem not_lockedIn_of_not_inRoster {rs : List RTask} {t : Nat} (h : inRoster rs t = false) : lockedIn rs t = false := by
  rw [inRoster, List.any_eq_false] at h
  exact lockedIn_eq_false.mpr fun x hx hid => absurd (beq_iff_eq.mpr hid) (h x hx)

/-- With the roster test, a KILL caused by a reconciliation update never hits a held task: the roster is complete. -/
theorem Reach.spared {c : Cfg} {ok : Step → Bool} {s : St} (hg : c.rosterGuard = true) (hrw : c.snapshotRewrite = false)
    (h : Reach c ok s) : ownedSpared s.log = true := by
  induction h with
  | init kv0 => cases kv0 <;> rfl
  | eff hs _ e ih =>
    refine ownedSpared_iff.mpr fun l t ow hm => ?_
    rcases e.update_kill hm with hm | ⟨_, _, _, _, hr, rfl⟩
    · exact ownedSpared_iff.mp ih l t ow hm
    · rw [hg] at hr
      rw [heldBy_eq_lockedIn _ (hs.invR hrw), not_lockedIn_of_not_inRoster (by simpa using hr)]; rfl

theorem Reach.neverKill {c : Cfg} {ok : Step → Bool} {s : St} (hg : c.reasonGuard = true) (h : Reach c ok s) :
    updatesNeverKill s.log = true := by
  induction h with
  | init kv0 => cases kv0 <;> rfl
  | eff _ _ e ih =>
    refine updatesNeverKill_iff.mpr fun l t ow hm => ?_
    rcases e.update_kill hm with hm | ⟨_, _, _, hr, _, _⟩
    · exact updatesNeverKill_iff.mp ih l t ow hm
    · rw [hg] at hr; cases hr

structure InvP (s : St) : Prop where
  flight : ∀ t st, ((t, st, Reason.recon) ∈ s.queue ∨ (t, st, Reason.recon) ∈ s.inbox) → lockedIn s.roster t = false ∧ t ∈ s.seen
  hello : s.hello.isSome = true → s.roster.any (·.locked) = false
  spec : ownedSpared s.log = true

theorem invP_init (kv0 : Option Nat) : InvP (init kv0) := by
  cases kv0 <;> constructor <;> simp [init, ownedSpared]

theorem mem_answerOf {W : World} {n f : Nat} {tasks : List MTask} {u : Upd} :
    u ∈ answerOf W n f tasks ↔
      ∃ mt ∈ tasks, (mt.state.terminal = false ∧ mt.fid = f ∧ W.answers n mt.id = true) ∧
        (mt.id, mt.state, Reason.recon) = u := by
  simp only [answerOf, List.mem_map, List.mem_filter, Bool.and_eq_true, Bool.not_eq_true', beq_iff_eq, and_assoc]

theorem InvP.frame {s s' : St} (h : InvP s)
    (hfl : ∀ u : Upd, u ∈ s'.queue ∨ u ∈ s'.inbox → u.2.2 = .recon → u ∈ s.queue ∨ u ∈ s.inbox)
    (hro : ∀ x' ∈ s'.roster, x'.locked = true → ∃ x ∈ s.roster, x.id = x'.id ∧ x.locked = true)
    (hseen : ∀ t ∈ s.seen, t ∈ s'.seen) (hhello : s'.hello.isSome = true → s.hello.isSome = true)
    (hspec : ownedSpared s'.log = true) : InvP s' := by
  refine ⟨fun t st hm => ?_, fun hh => ?_, hspec⟩
  · have ⟨h1, h2⟩ := h.flight t st (hfl _ hm rfl)
    refine ⟨lockedIn_eq_false.mpr fun x' hx' hid => ?_, hseen t h2⟩
    cases hl : x'.locked with
    | false => rfl
    | true =>
      obtain ⟨x, hx, e1, e2⟩ := hro x' hx' hl
      exact absurd (lockedIn_eq_false.mp h1 x hx (e1.trans hid)) (by rw [e2]; nofun)
  · rw [List.any_eq_false]
    intro x' hx' hl
    obtain ⟨x, hx, _, e2⟩ := hro x' hx' hl
    exact List.any_eq_false.mp (h.hello (hhello hh)) x hx e2

theorem InvP.eff {c : Cfg} {W : World} {s s' : St} {x : Step} (hrw : c.snapshotRewrite = false)
    (hx : reconnOk s x = true) (hb : ∀ t ∈ s.tasks, t.id ∈ s.seen) (hR : InvR s) (h : InvP s)
    (e : Eff c W s x s') : InvP s' := by
  have hspec : ownedSpared s'.log = true := ownedSpared_iff.mpr fun l t ow hm => by
    rcases e.update_kill hm with hm | ⟨st, rest, hi, _, _, rfl⟩
    · exact ownedSpared_iff.mp h.spec l t ow hm
    · -- the message was in flight: its task is not locked, hence not held
      rw [heldBy_eq_lockedIn s hR, (h.flight t st (.inr (hi ▸ List.mem_cons_self))).1]; rfl
  cases e with
  | idle => exact h
  | subscribe f n hal hs =>
    -- the hypothesis: no stream is opened while the roster holds a locked task
    have hnl : s.roster.any (·.locked) = false := by simpa [reconnOk, hal, hs] using hx
    exact ⟨fun t st hm => hm.elim nofun fun hi => h.flight t st (.inr hi), fun _ => hnl, hspec⟩
  | readHello f hal hh =>
    -- the answer to RECONCILE goes into the queue while nothing is locked; it names rows of the table
    have hnl := List.any_eq_false.mp (h.hello (by rw [hh]; rfl))
    refine ⟨fun t st hm => ⟨lockedIn_eq_false.mpr fun x hx _ => by simpa using hnl x hx, ?_⟩, nofun, hspec⟩
    rcases hm with hm | hm
    · have hm : (t, st, Reason.recon) ∈ s.queue ∨ (t, st, Reason.recon) ∈ answerOf W s.recons f s.tasks := by
        dsimp only at hm; split at hm
        · exact List.mem_append.mp hm
        · exact .inl hm
      rcases hm with hm | hm
      · exact (h.flight t st (.inl hm)).2
      · obtain ⟨mt, hmt, _, e⟩ := mem_answerOf.mp hm
        cases e
        exact hb mt hmt
    · exact (h.flight t st (.inr hm)).2
  | launch e t f _ _ hh hf =>
    refine ⟨fun t' st hm => ?_, fun hi => (by rw [hh] at hi; cases hi), hspec⟩
    have ⟨h1, h2⟩ := h.flight t' st hm
    refine ⟨lockedIn_eq_false.mpr fun x hx hid => ?_, List.mem_cons_of_mem _ h2⟩
    rcases List.mem_append.mp hx with hx | hx
    · exact lockedIn_eq_false.mp h1 x hx hid
    · -- the new entry is locked, but its id is fresh
      rw [List.mem_singleton.mp hx] at hid
      exact absurd ((show t = t' from hid) ▸ h2) hf
  | reconUpdate t st =>
    -- the hypothesis: the master volunteers no reconciliation update for a locked task
    refine ⟨fun t' st' hm => ?_, h.hello, hspec⟩
    have : ((t', st', Reason.recon) ∈ s.queue ∨ (t', st', Reason.recon) ∈ s.inbox) ∨ t' = t :=
      hm.elim (fun hq => (List.mem_append.mp hq).elim (fun hq => .inl (.inl hq))
        fun hq => .inr (by injection List.mem_singleton.mp hq)) fun hi => .inl (.inr hi)
    rcases this with hm | rfl
    · exact ⟨(h.flight t' st' hm).1, List.mem_cons_of_mem _ (h.flight t' st' hm).2⟩
    · exact ⟨by simpa [reconnOk] using hx, List.mem_cons_self⟩
  | coreStart =>
    exact h.frame (fun u hu _ => hu.elim .inl nofun) nofun (fun _ => id) id hspec
  | coreKill | coreTerm | stateError => exact h.frame (fun u hu _ => hu.elim nofun nofun) nofun (fun _ => id) nofun hspec
  | drop => exact h.frame (fun u hu _ => hu.elim nofun .inr) (fun x hx hl => ⟨x, hx, rfl, hl⟩) (fun _ => id) nofun hspec
  | readQueue u rest _ _ hq =>
    refine h.frame (fun u' hu _ => ?_) (fun x hx hl => ⟨x, hx, rfl, hl⟩) (fun _ => id) id hspec
    rw [hq]
    exact hu.elim (fun h => .inl (List.mem_cons_of_mem _ h)) fun h => (List.mem_append.mp h).elim .inr
      fun h => .inl (List.mem_singleton.mp h ▸ List.mem_cons_self)
  | handleKill t st r rest _ hi | handleKillLost t st r rest _ hi =>
    exact h.frame (fun u hu _ => hu.imp_right fun h => hi ▸ List.mem_cons_of_mem _ h) (fun x hx hl => ⟨x, hx, rfl, hl⟩)
      (fun _ => id) id hspec
  | handleUpdate t st r rest _ hi =>
    refine h.frame (fun u hu _ => hu.imp_right fun h => hi ▸ List.mem_cons_of_mem _ h) (fun x hx hl => ?_) (fun _ => id) id hspec
    obtain ⟨x0, h0, e1, _, e3⟩ := of_mem_setActive hx
    exact ⟨x0, h0, e1.symm, e3 ▸ hl⟩
  | status t st x =>
    refine h.frame (fun u hu hr => hu.imp_left fun h => ?_) (fun x hx hl => ⟨x, hx, rfl, hl⟩) (fun _ => id) id hspec
    dsimp only at h; split at h
    · exact (List.mem_append.mp h).resolve_right fun h => by rw [List.mem_singleton.mp h] at hr; cases hr
    · exact h
  | release e | releaseBegin e =>
    exact h.frame (fun _ hu _ => hu) (fun x hx hl => ⟨x, (List.mem_filter.mp hx).1, rfl, hl⟩) (fun _ => id) id hspec
  | releaseFailed e =>
    exact h.frame (fun _ hu _ => hu)
      (fun x hx hl => ⟨x, (List.mem_filter.mp (mem_of_locked_append (fun _ => rfl) hx hl)).1, rfl, hl⟩) (fun _ => id) id hspec
  | releaseEnd => exact h.frame (fun _ hu _ => hu) (fun x hx hl => ⟨x, by rw [hrw] at hx; exact hx, rfl, hl⟩) (fun _ => id) id hspec
  | releaseEndFailed =>
    refine h.frame (fun _ hu _ => hu) (fun x hx hl => ?_) (fun _ => id) id hspec
    rw [hrw] at hx
    exact ⟨x, mem_of_locked_append (fun _ => rfl) hx hl, rfl, hl⟩
  | snapshot => exact h.frame (fun _ hu _ => hu) (fun x hx hl => ⟨x, hx, rfl, hl⟩) (fun _ => id) id hspec

theorem invP_run (c : Cfg) (W : World) (hrw : c.snapshotRewrite = false)
    (h : List Step) (s : St) (hh : noReconnWhileOwning c W h s = true)
    (hb : ∀ t ∈ s.tasks, t.id ∈ s.seen) (hR : InvR s) (hP : InvP s) : InvP (run c W h s) := by
  induction h generalizing s with
  | nil => exact hP
  | cons x xs ih =>
    rw [noReconnWhileOwning, Bool.and_eq_true] at hh
    have e := step_eff c W s x
    exact ih _ hh.2 (seen_eff e hb) (hR.eff hrw e) (hP.eff hrw hh.1 hb hR e)

theorem sinceReconcile_kill (l l' t w o) (log : List Out) :
    sinceReconcile l (.kill l' t w o :: log) = .kill l' t w o :: sinceReconcile l log := rfl
theorem sinceReconcile_snap (l l' os) (log : List Out) :
    sinceReconcile l (.snap l' os :: log) = .snap l' os :: sinceReconcile l log := rfl
theorem sinceReconcile_subscribe (l l' c) (log : List Out) :
    sinceReconcile l (.subscribe l' c :: log) = .subscribe l' c :: sinceReconcile l log := rfl
theorem sinceReconcile_persist (l l' f) (log : List Out) :
    sinceReconcile l (.persist l' f :: log) = .persist l' f :: sinceReconcile l log := rfl
theorem sinceReconcile_stateError (l l') (log : List Out) :
    sinceReconcile l (.stateError l' :: log) = .stateError l' :: sinceReconcile l log := rfl
theorem sinceReconcile_reconcile_self (l) (log : List Out) :
    sinceReconcile l (.reconcile l :: log) = [] := by simp [sinceReconcile]

theorem sinceReconcile_eq_takeWhile (l : Nat) (log : List Out) :
    sinceReconcile l log = log.takeWhile (· != .reconcile l) := by
  induction log with
  | nil => rfl
  | cons o log ih =>
    rw [List.takeWhile_cons, ← ih]
    cases o <;> simp [sinceReconcile]

theorem sinceReconcile_sub (l : Nat) (log : List Out) : ∀ o ∈ sinceReconcile l log, o ∈ log := by
  rw [sinceReconcile_eq_takeWhile]
  exact fun o h => (List.takeWhile_prefix _).subset h

theorem reconKills_of_sub {part log : List Out} (hsub : ∀ o ∈ part, o ∈ log) {l : Nat} {os : List Nat}
    (h : os.all (fun t => part.any (isReconKill l t)) = true) : os.all (fun t => log.any (isReconKill l t)) = true :=
  List.all_eq_true.mpr fun t ht =>
    have ⟨o, ho, hk⟩ := List.any_eq_true.mp (List.all_eq_true.mp h t ht)
    List.any_eq_true.mpr ⟨o, hsub o ho, hk⟩

/-- The per-round statement implies the per-task one: a KILL since the latest RECONCILE is a KILL. -/
theorem orphansKilled_of_eachRound (log : List Out) (h : orphansKilledEachRound log = true) :
    orphansKilled log = true := by
  induction log with
  | nil => rfl
  | cons a as ih =>
    simp only [orphansKilledEachRound, Bool.and_eq_true] at h
    simp only [orphansKilled, Bool.and_eq_true]
    refine ⟨?_, ih h.2⟩
    cases a with
    | snap l os => exact reconKills_of_sub (sinceReconcile_sub l as) h.1
    | _ => rfl

/-- a KILL of life `l` for task `t`, caused by a reconciliation update, is in the log — and it is NEWER than
    the latest RECONCILE call of life `l` -/
def Killed (log : List Out) (l t : Nat) : Prop := ∃ o, Out.kill l t (.update .recon) o ∈ sinceReconcile l log

theorem Killed.mem {log : List Out} {l t : Nat} (h : Killed log l t) : ∃ o, Out.kill l t (.update .recon) o ∈ log := by
  obtain ⟨o, ho⟩ := h
  exact ⟨o, sinceReconcile_sub l log _ ho⟩

/-- the answer to a reconciliation, still on its way to taskman -/
def Pending (c : Cfg) (s : St) (t : Nat) : Prop :=
  ∃ st, c.killable st = true ∧ ((t, st, Reason.recon) ∈ s.queue ∨ (t, st, Reason.recon) ∈ s.inbox)

structure InvQ (c : Cfg) (s : St) : Prop where
  orphan : s.alive = true → s.stream.isSome = true → ∀ t ∈ s.tasks, t.life < s.life → c.killable t.state = true →
    s.hello.isSome = true ∨ Pending c s t.id ∨ Killed s.log s.life t.id
  spec : orphansKilledEachRound s.log = true

end Reconcile
