/-
  Proofs/ReconcileStep — what one step of Model/Reconcile.lean does, said once (core Lean only).

  `Eff c W s x s'`: one constructor per branch of `Reconcile.step`, with the conditions that select the branch and
  the fields in which `s'` differs from `s`. `step_eff` says `step` is an instance; every invariant of
  Proofs/Reconcile.lean and Proofs/Resubscribe.lean is proved by a walk over the constructors of `Eff`.

  `Reach c ok s`: `s` comes from an initial state by `Eff`s — whatever the master answers, whatever the observer
  notes. The runs of every model of the slice end in such states (`Reach.run` here, `Reach.rrun` in
  Proofs/Resubscribe.lean), and the invariants are theorems about them.
-/
import ControlModel.Spec.C18
open Reconcile Spec.C18

namespace Reconcile

theorem killsFor_ite (b : Bool) (l : Nat) (w : Why) (ts : List RTask) :
    (if b then killsFor l w ts else []) = killsFor l w (if b then ts else []) := by
  cases b <;> rfl

/-- When a step can happen: the guard under which `Reconcile.step` does anything for it. Model/Reconcile.lean speaks
    of steps that are "not enabled" without a predicate of that name: its `step` tests the guard and returns the state
    as it is when the test fails (`Eff.idle`, `step_eff`). -/
def enabled (s : St) : Step → Bool
  | .coreStart => !s.alive
  | .coreKill | .coreTerm | .release _ | .releaseBegin _ => s.alive
  | .subscribe => s.alive && !s.stream.isSome
  | .drop | .reconUpdate _ _ => s.stream.isSome
  | .read => s.alive && (s.hello.isSome || !s.queue.isEmpty)
  | .handle => s.alive && !s.inbox.isEmpty
  | .launch _ t => s.alive && s.connected && !s.seen.contains t
  | .status t _ => (s.tasks.find? (fun y => y.id == t)).any (fun y => !y.state.terminal)
  | .releaseEnd e => s.alive && (s.tearing.find? (fun d => d.env == e)).isSome
  | .snapshot => s.quiescent

/-- The entry a snapshot logs is left open: the snapshot of Model/Resubscribe.lean, which lists the orphans the
    master can report, is an instance too — so the orphan predicates, which read `.snap` entries, are no
    facts about `Reach` (`OrphanSpec`). `idle` carries the guard: an enabled step cannot pass for an idle one. -/
inductive Eff (c : Cfg) (W : World) (s : St) : Step → St → Prop
  | idle (x : Step) : enabled s x = false → Eff c W s x s
  | coreStart : s.alive = false →
      Eff c W s .coreStart
        { s with alive := true, life := s.life + 1, fidMem := if c.seedFid then s.kv else none,
                 roster := [], held := [], tearing := [], inbox := [] }
  | coreKill : s.alive = true → Eff c W s .coreKill s.exit
  | coreTerm : s.alive = true →
      Eff c W s .coreTerm
        { s.exit with log := killsFor s.life .term (if s.stream.isSome then (s.roster.filter (·.active)).reverse else [])
                             ++ s.log }
  /-- `f` is the stored id if SUBSCRIBE carries one, else the master's next fresh id -/
  | subscribe (f n : Nat) : s.alive = true → s.stream = none →
      ((if c.failover then s.fidMem else none) = some f ∧ n = s.nextFid ∨
       (if c.failover then s.fidMem else none) = none ∧ f = s.nextFid ∧ n = s.nextFid + 1) →
      Eff c W s .subscribe
        { s with stream := some f, hello := some f, queue := [], nextFid := n,
                 log := .subscribe s.life (if c.failover then s.fidMem else none) :: s.log }
  | drop : s.stream.isSome = true → Eff c W s .drop { s with stream := none, hello := none, queue := [] }
  /-- TrackSubscription refuses the SUBSCRIBED -/
  | stateError (f : Nat) : s.alive = true → s.hello = some f →
      (s.fidMem.isSome && s.fidMem != some f && c.failover) = true →
      Eff c W s .read { s.exit with log := .stateError s.life :: s.log }
  /-- SUBSCRIBED accepted: the id is stored (and written back if it is new), RECONCILE goes out -/
  | readHello (f : Nat) : s.alive = true → s.hello = some f →
      (s.fidMem.isSome && s.fidMem != some f && c.failover) = false →
      Eff c W s .read
        { s with fidMem := some f,
                 kv := if s.fidMem != some f && c.persistFid then some f else s.kv,
                 hello := none,
                 queue := if c.reconcileOnSubscribed then s.queue ++ answerOf W s.recons f s.tasks else s.queue,
                 recons := if c.reconcileOnSubscribed then s.recons + 1 else s.recons,
                 log := (if c.reconcileOnSubscribed then [.reconcile s.life] else []) ++
                        ((if s.fidMem != some f && c.persistFid then [.persist s.life f] else []) ++ s.log) }
  | readQueue (u : Upd) (rest : List Upd) : s.alive = true → s.hello = none → s.queue = u :: rest →
      Eff c W s .read { s with queue := rest, inbox := s.inbox ++ [u] }
  /-- the KILL branch of handleMessage -/
  | handleKill (t : Nat) (st : MState) (r : Reason) (rest : List Upd) : s.alive = true → s.inbox = (t, st, r) :: rest →
      (!c.reasonGuard || r == .recon) = true → c.killable st = true → (!c.rosterGuard || !inRoster s.roster t) = true →
      s.stream.isSome = true →
      Eff c W s .handle
        { s with inbox := rest,
                 log := .kill s.life t (.update r) (lockedIn s.roster t || heldBy s.held t) :: s.log }
  /-- … without a stream the call fails: the message is dropped -/
  | handleKillLost (t : Nat) (st : MState) (r : Reason) (rest : List Upd) : s.alive = true →
      s.inbox = (t, st, r) :: rest →
      ((!c.reasonGuard || r == .recon) && c.killable st && (!c.rosterGuard || !inRoster s.roster t)) = true →
      s.stream = none → Eff c W s .handle { s with inbox := rest }
  | handleUpdate (t : Nat) (st : MState) (r : Reason) (rest : List Upd) : s.alive = true → s.inbox = (t, st, r) :: rest →
      ((!c.reasonGuard || r == .recon) && c.killable st && (!c.rosterGuard || !inRoster s.roster t)) = false →
      Eff c W s .handle { s with inbox := rest, roster := setActive s.roster t st }
  | launch (e t f : Nat) : s.alive = true → s.stream = some f → s.hello = none → t ∉ s.seen →
      Eff c W s (.launch e t)
        { s with roster := s.roster ++ [{ id := t, env := e, locked := true, active := false }],
                 held := s.held ++ [(t, e)],
                 tasks := s.tasks ++ [{ id := t, fid := f, life := s.life, env := e, state := .staging }],
                 seen := t :: s.seen }
  | status (t : Nat) (st : MState) (x : MTask) : s.tasks.find? (fun y => y.id == t) = some x → x.state.terminal = false →
      Eff c W s (.status t st)
        { s with tasks := s.tasks.map (fun y => if y.id == t && !y.state.terminal then { y with state := st } else y),
                 queue := if s.stream == some x.fid then s.queue ++ [(t, st, .none)] else s.queue }
  | reconUpdate (t : Nat) (st : MState) : s.stream.isSome = true →
      Eff c W s (.reconUpdate t st) { s with queue := s.queue ++ [(t, st, .recon)], seen := t :: s.seen }
  | release (e : Nat) : s.alive = true → s.stream.isSome = true →
      Eff c W s (.release e)
        { s with roster := s.roster.filter (fun x => x.env != e), held := s.held.filter (fun p => p.2 != e),
                 log := killsFor s.life .release
                          ((((s.roster.filter (fun x => x.env == e)).filter (·.active)).map
                            (fun x => { x with locked := false })).reverse) ++ s.log }
  /-- the KILL calls fail: the ACTIVE tasks go back to the roster, unlocked -/
  | releaseFailed (e : Nat) : s.alive = true → s.stream = none →
      Eff c W s (.release e)
        { s with roster := s.roster.filter (fun x => x.env != e) ++
                           ((s.roster.filter (fun x => x.env == e)).filter (·.active)).map (fun x => { x with locked := false }),
                 held := s.held.filter (fun p => p.2 != e) }
  | releaseBegin (e : Nat) : s.alive = true →
      Eff c W s (.releaseBegin e)
        { s with roster := s.roster.filter (fun x => x.env != e), held := s.held.filter (fun p => p.2 != e),
                 tearing := s.tearing ++ [{ env := e, snap := s.roster.filter (fun x => x.env != e),
                                            act := ((s.roster.filter (fun x => x.env == e)).filter (·.active)).map (·.id) }] }
  | releaseEnd (e : Nat) (d : Teardown) : s.alive = true → s.tearing.find? (fun d => d.env == e) = some d →
      s.stream.isSome = true →
      Eff c W s (.releaseEnd e)
        { s with tearing := s.tearing.eraseP (fun d => d.env == e),
                 roster := if c.snapshotRewrite then d.snap else s.roster,
                 log := killsFor s.life .release ((d.act.map (putBack e)).reverse) ++ s.log }
  | releaseEndFailed (e : Nat) (d : Teardown) : s.alive = true → s.tearing.find? (fun d => d.env == e) = some d →
      s.stream = none →
      Eff c W s (.releaseEnd e)
        { s with tearing := s.tearing.eraseP (fun d => d.env == e),
                 roster := (if c.snapshotRewrite then d.snap else s.roster) ++ d.act.map (putBack e) }
  | snapshot (os : List Nat) : s.alive = true → s.connected = true → s.queue = [] → s.inbox = [] →
      Eff c W s .snapshot { s with log := .snap s.life os :: s.log }

/-- The observer's note listing `os`; nothing unless the state is quiescent. -/
def snapWith (s : St) (os : List Nat) : St :=
  if s.quiescent then { s with log := .snap s.life os :: s.log } else s

theorem step_snapshot (c : Cfg) (W : World) (s : St) : step c W s .snapshot = snapWith s (orphans c s) := rfl

theorem snapWith_eff (c : Cfg) (W : World) (s : St) (os : List Nat) : Eff c W s .snapshot (snapWith s os) := by
  unfold snapWith; split
  · next hq =>
    simp only [St.quiescent, Bool.and_eq_true, List.isEmpty_iff] at hq
    exact .snapshot _ hq.1.1.1 hq.1.1.2 hq.1.2 hq.2
  · next hq => exact .idle _ (eq_false_of_ne_true hq)

theorem step_eff (c : Cfg) (W : World) (s : St) (x : Step) : Eff c W s x (step c W s x) := by
  -- cases numbered in the order of the branches of `Reconcile.step` as written
  fun_cases step c W s x with
  | case4 h | case11 h | case29 _ _ h | case40 h => exact .idle _ (eq_false_of_ne_true h)
  | case5 h | case12 h | case18 h | case30 _ h | case33 _ h | case35 _ h =>
    exact .idle _ (by simp [enabled, (by simpa using h : s.alive = false)])
  | case1 | case16 | case19 | case22 | case25 | case26 | case36 => exact .idle _ (by simp [enabled, St.connected, *])
  | case7 h => exact .idle _ (by revert h; simp only [enabled]; cases s.alive <;> cases s.stream.isSome <;> decide)
  | case23 e t f hs h => exact .idle _ (by
      revert h; simp only [enabled, St.connected, hs, Option.isSome_some, Bool.true_and]
      cases s.alive <;> cases s.hello <;> cases s.seen.contains t <;> simp)
  | case2 h => exact .coreStart (eq_false_of_ne_true h)
  | case3 h => exact .coreKill h
  | case6 h ks => rw [show ks = _ from killsFor_ite ..]; exact .coreTerm (Bool.not_not_eq.mp h)
  | case8 h _ f hf =>
    have h : s.alive = true ∧ s.stream = none := by simpa using h
    exact .subscribe f s.nextFid h.1 h.2 (.inl ⟨hf, rfl⟩)
  | case9 h _ hf =>
    have h : s.alive = true ∧ s.stream = none := by simpa using h
    exact hf ▸ .subscribe s.nextFid (s.nextFid + 1) h.1 h.2 (.inr ⟨hf, rfl, rfl⟩)
  | case10 h => exact .drop h
  | case13 ha f hh he => exact .stateError f (Bool.not_not_eq.mp ha) hh he
  | case14 ha f hh he s1 hr | case15 ha f hh he s1 hr =>
    -- the model updates a record twice, the constructor once: they agree in each case of the tests
    have key := Eff.readHello (c := c) (W := W) f (Bool.not_not_eq.mp ha) hh (eq_false_of_ne_true he)
    revert key
    simp only [s1, hr]
    cases hb : (s.fidMem != some f) with
    | true => cases c.persistFid <;> exact id
    | false => intro key; rwa [← show s.fidMem = some f by simpa using hb] at key
  | case17 ha hh u rest hq => exact .readQueue u rest (Bool.not_not_eq.mp ha) hh hq
  | case20 ha t st r rest hi h =>
    split
    · next hs =>
      simp only [Bool.and_eq_true] at h
      exact .handleKill t st r rest (Bool.not_not_eq.mp ha) hi h.1.1 h.1.2 h.2 hs
    · next hs => exact .handleKillLost t st r rest (Bool.not_not_eq.mp ha) hi h (by simpa using hs)
  | case21 ha t st r rest hi h => exact .handleUpdate t st r rest (Bool.not_not_eq.mp ha) hi (eq_false_of_ne_true h)
  | case24 e t f hs h =>
    have h : (s.alive = true ∧ s.hello = none) ∧ t ∉ s.seen := by simpa using h
    exact .launch e t f h.1.1 hs h.1.2 h.2
  | case27 t st x hf h => exact .status t st x hf (eq_false_of_ne_true h)
  | case28 t st h => exact .reconUpdate t st h
  | case31 e ha _ _ _ hs => exact .release e (Bool.not_not_eq.mp ha) hs
  | case32 e ha _ _ _ hs => exact .releaseFailed e (Bool.not_not_eq.mp ha) (by simpa using hs)
  | case34 e ha => exact .releaseBegin e (Bool.not_not_eq.mp ha)
  | case37 e ha d hf _ hs => exact .releaseEnd e d (Bool.not_not_eq.mp ha) hf hs
  | case38 e ha d hf _ hs => exact .releaseEndFailed e d (Bool.not_not_eq.mp ha) hf (by simpa using hs)
  | case39 h =>
    simp only [Bool.and_eq_true, List.isEmpty_iff] at h
    exact .snapshot _ h.1.1.1 h.1.1.2 h.1.2 h.2

/-- The states the core and the master can reach by steps that satisfy `ok`. -/
inductive Reach (c : Cfg) (ok : Step → Bool) : St → Prop
  | init (kv0 : Option Nat) : Reach c ok (init kv0)
  | eff {W : World} {s s' : St} {x : Step} : Reach c ok s → ok x = true → Eff c W s x s' → Reach c ok s'

theorem Reach.run {c : Cfg} {ok : Step → Bool} (W : World) (h : List Step) (hh : h.all ok = true) {s : St}
    (hs : Reach c ok s) : Reach c ok (run c W h s) := by
  induction h generalizing s with
  | nil => exact hs
  | cons x xs ih =>
    rw [List.all_cons, Bool.and_eq_true] at hh
    exact ih hh.2 (hs.eff hh.1 (step_eff c W s x))

theorem all_true {α} (l : List α) : l.all (fun _ => true) = true := List.all_eq_true.mpr fun _ _ => rfl

end Reconcile
