/-
  Proofs/Registry — invariants of the writer-registry model (Model/Registry.lean).

  `Move` says what an enabled step does, one constructor per path through the two functions.
  `Inv` holds after every schedule of the EXCLUSIVE configuration (the code as it is): at most
  one caller is inside createOrGetWriter / ClearEventWriters, what it has seen of the map is
  still true, everything handed out in the current epoch is what the map holds for its topic,
  and every writer ever handed out is closed or still registered.
  `Fresh` holds for every configuration: registered and closed writers are distinct.
  The map is the association list of Basic (`find_eq_get`, `put_eq_set`); what a write does to a
  lookup and to membership comes from Proofs/Assoc.
-/
import ControlModel.Model.Registry
import ControlModel.Proofs.Assoc

namespace Registry

theorem find_eq_get (m : List (Topic × WId)) (t : Topic) : find m t = Assoc.get m t := by
  induction m with
  | nil => rfl
  | cons kv rest ih => simp only [find, Assoc.get, beq_iff_eq, ih]

theorem put_eq_set (m : List (Topic × WId)) (t : Topic) (v : WId) : put m t v = Assoc.set m t v := by
  induction m with
  | nil => rfl
  | cons kv rest ih => simp only [put, Assoc.set, beq_iff_eq, ih]

theorem find_put (m : List (Topic × WId)) (t t' : Topic) (v : WId) :
    find (put m t v) t' = if t = t' then some v else find m t' := by
  rw [find_eq_get, put_eq_set, Assoc.get_set, find_eq_get]

theorem mem_vals_of_find {m : List (Topic × WId)} {t : Topic} {w : WId} (h : find m t = some w) : w ∈ vals m :=
  List.mem_map.mpr ⟨(t, w), Assoc.mem_of_get (find_eq_get m t ▸ h), rfl⟩

theorem vals_put_absent (m : List (Topic × WId)) (t : Topic) (v : WId) (h : find m t = none) :
    vals (put m t v) = vals m ++ [v] := by
  fun_induction find m t with
  | case1 => rfl
  | case2 => cases h
  | case3 k v' rest t hk ih => simp only [put, hk, if_false]; exact congrArg (v' :: ·) (ih h)

theorem mem_vals_put {m : List (Topic × WId)} {t : Topic} {v w : WId} (h : w ∈ vals (put m t v)) :
    w = v ∨ w ∈ vals m := by
  obtain ⟨kv, hkv, rfl⟩ := List.mem_map.mp h
  rw [put_eq_set] at hkv
  exact (Assoc.mem_set hkv).imp (fun e => by rw [e]) fun hm => List.mem_map.mpr ⟨kv, hm, rfl⟩

theorem nodup_vals_put {m : List (Topic × WId)} {t : Topic} {v : WId} (hn : (vals m).Nodup) (hv : v ∉ vals m) :
    (vals (put m t v)).Nodup := by
  induction m with
  | nil => exact List.nodup_cons.mpr ⟨List.not_mem_nil, List.nodup_nil⟩
  | cons kv rest ih =>
    obtain ⟨k, v'⟩ := kv
    obtain ⟨hn1, hn2⟩ := List.nodup_cons.mp hn
    have hv' : v ≠ v' ∧ v ∉ vals rest := not_or.mp (mt List.mem_cons.mpr hv)
    simp only [put]
    split
    · exact List.nodup_cons.mpr ⟨hv'.2, hn2⟩
    · refine List.nodup_cons.mpr ⟨fun hmem => ?_, ih hn2 hv'.2⟩
      rcases mem_vals_put hmem with h | h
      · exact hv'.1 h.symm
      · exact hn1 h

theorem upd_same (f : Caller → Pc) (c : Caller) (p : Pc) : upd f c p c = p := if_pos rfl
theorem upd_other (f : Caller → Pc) {c x : Caller} (p : Pc) (h : x ≠ c) : upd f c p x = f x := if_neg h

/-- `Move cfg s st s'`: step `st` is enabled in `s` and takes it to `s'`. -/
inductive Move (cfg : Cfg) (s : State) : Step → State → Prop
  | enter (c : Caller) (t : Topic) (hi : s.pc c = .idle) (hcl : s.clearer = none)
      (hx : cfg.exclusive = true → s.holders = []) :
      Move cfg s (.enter c t) { s with pc := upd s.pc c (.locked t), holders := c :: s.holders }
  | hit (c : Caller) (t : Topic) (w : WId) (hp : s.pc c = .locked t) (hf : find s.reg t = some w) :
      Move cfg s (.look c) { s with pc := upd s.pc c (.found t w) }
  | miss (c : Caller) (t : Topic) (hp : s.pc c = .locked t) (hf : find s.reg t = none) :
      Move cfg s (.look c) { s with pc := upd s.pc c (.missed t) }
  | create (c : Caller) (t : Topic) (hp : s.pc c = .missed t) :
      Move cfg s (.create c)
        { s with reg := put s.reg t s.next, next := s.next + 1, pc := upd s.pc c (.found t s.next) }
  | ret (c : Caller) (t : Topic) (w : WId) (hp : s.pc c = .found t w) :
      Move cfg s (.ret c)
        { s with pc := upd s.pc c .idle, holders := s.holders.erase c,
                 handed := s.handed ++ [(c, t, w)], everHanded := s.everHanded ++ [w] }
  | enterClear (c : Caller) (hi : s.pc c = .idle) (hcl : s.clearer = none) (hh : s.holders = []) :
      Move cfg s (.enterClear c) { s with pc := upd s.pc c .clearing, clearer := some c }
  | closeAll (c : Caller) (hp : s.pc c = .clearing) :
      Move cfg s (.closeAll c)
        { s with pc := upd s.pc c .cleared, closed := s.closed ++ vals s.reg, reg := [], handed := [] }
  | retClear (c : Caller) (hp : s.pc c = .cleared) :
      Move cfg s (.retClear c) { s with pc := upd s.pc c .idle, clearer := none }

theorem fire_move {cfg : Cfg} {s : State} {st : Step} (hen : enabled cfg s st = true) : Move cfg s st (fire s st) := by
  cases st with
  | enter c t =>
    simp only [enabled, Bool.and_eq_true, beq_iff_eq, Option.isNone_iff_eq_none, Bool.or_eq_true,
      Bool.not_eq_true', List.isEmpty_iff] at hen
    exact .enter c t hen.1.1 hen.1.2 fun hx => hen.2.resolve_left (by rw [hx]; decide)
  | look c =>
    cases hp : s.pc c with
    | locked t =>
      cases hf : find s.reg t with
      | none => simp only [fire, hp, hf]; exact .miss c t hp hf
      | some w => simp only [fire, hp, hf]; exact .hit c t w hp hf
    | _ => simp [enabled, hp] at hen
  | create c =>
    cases hp : s.pc c with
    | missed t => simp only [fire, hp]; exact .create c t hp
    | _ => simp [enabled, hp] at hen
  | ret c =>
    cases hp : s.pc c with
    | found t w => simp only [fire, hp]; exact .ret c t w hp
    | _ => simp [enabled, hp] at hen
  | enterClear c =>
    simp only [enabled, Bool.and_eq_true, beq_iff_eq, Option.isNone_iff_eq_none, List.isEmpty_iff] at hen
    exact .enterClear c hen.1.1 hen.1.2 hen.2
  | closeAll c => exact .closeAll c (beq_iff_eq.mp hen)
  | retClear c => exact .retClear c (beq_iff_eq.mp hen)

theorem run_invariant {cfg : Cfg} {P : State → Prop} (hP : ∀ s st s', Move cfg s st s' → P s → P s')
    (sched : List Step) (s : State) (h : P s) : P (run cfg s sched) := by
  induction sched generalizing s with
  | nil => exact h
  | cons st rest ih =>
    refine ih _ ?_
    unfold step; split
    · exact hP _ _ _ (fire_move ‹_›) h
    · exact h

theorem run_append (cfg : Cfg) (s : State) (a b : List Step) : run cfg s (a ++ b) = run cfg (run cfg s a) b := by
  induction a generalizing s with
  | nil => rfl
  | cons st rest ih => exact ih _

def Pc.getter : Pc → Bool
  | .locked _ | .missed _ | .found _ _ => true
  | _ => false

def Pc.clr : Pc → Bool
  | .clearing | .cleared => true
  | _ => false

theorem idle_or (p : Pc) : p = .idle ∨ p.getter = true ∨ p.clr = true := by
  cases p <;> simp [Pc.getter, Pc.clr]

structure Inv (s : State) : Prop where
  /-- a caller inside createOrGetWriter is the only holder of the mutex -/
  getter : ∀ c, (s.pc c).getter = true → s.holders = [c] ∧ s.clearer = none
  /-- a caller inside ClearEventWriters is the only holder of the mutex -/
  clr : ∀ c, (s.pc c).clr = true → s.holders = [] ∧ s.clearer = some c
  /-- what a caller has seen of the map is still true -/
  missed : ∀ c t, s.pc c = .missed t → find s.reg t = none
  found : ∀ c t w, s.pc c = .found t w → find s.reg t = some w
  /-- everything handed out since the last shutdown is what the map holds for its topic -/
  handedReg : ∀ h ∈ s.handed, find s.reg h.2.1 = some h.2.2
  /-- every writer ever handed out has been closed or is still registered -/
  noOrphan : ∀ w ∈ s.everHanded, w ∈ s.closed ∨ w ∈ vals s.reg

theorem inv_init : Inv init := by
  constructor <;> simp [init, Pc.getter, Pc.clr]

namespace Inv
variable {s s' : State}

theorem holds (h : Inv s) {c : Caller} (hc : s.pc c ≠ .idle) :
    (s.holders = [c] ∧ s.clearer = none) ∨ (s.holders = [] ∧ s.clearer = some c) :=
  (idle_or (s.pc c)).elim (absurd · hc) fun h' => h'.imp (h.getter c) (h.clr c)

theorem one (h : Inv s) {c c' : Caller} (hc : s.pc c ≠ .idle) (hc' : s.pc c' ≠ .idle) : c = c' := by
  rcases h.holds hc with ⟨a, b⟩ | ⟨a, b⟩ <;> rcases h.holds hc' with ⟨a', b'⟩ | ⟨a', b'⟩
  · rw [a] at a'; exact (List.cons.inj a').1
  · rw [a] at a'; cases a'
  · rw [a] at a'; cases a'
  · rw [b] at b'; exact Option.some.inj b'

theorem others_idle (h : Inv s) {c x : Caller} {p : Pc} (hp : s.pc c = p) (hc : p ≠ .idle) (hx : x ≠ c) :
    s.pc x = .idle :=
  Decidable.byContradiction fun hne => hx (h.one hne (hp ▸ hc))

theorem all_idle (h : Inv s) (hh : s.holders = []) (hc : s.clearer = none) (x : Caller) : s.pc x = .idle :=
  Decidable.byContradiction fun hne => by
    rcases h.holds hne with ⟨a, _⟩ | ⟨_, b⟩
    · rw [hh] at a; cases a
    · rw [hc] at b; cases b

/-- With everybody but `c` idle, the four clauses about program counters speak of `c`'s alone. -/
theorem of_sole {c : Caller} {p : Pc} (hidle : ∀ x, x ≠ c → s.pc x = .idle) (hpc : s'.pc = upd s.pc c p)
    (hg : p.getter = true → s'.holders = [c] ∧ s'.clearer = none)
    (hc : p.clr = true → s'.holders = [] ∧ s'.clearer = some c)
    (hm : ∀ t, p = .missed t → find s'.reg t = none)
    (hf : ∀ t w, p = .found t w → find s'.reg t = some w)
    (hh : ∀ h ∈ s'.handed, find s'.reg h.2.1 = some h.2.2)
    (ho : ∀ w ∈ s'.everHanded, w ∈ s'.closed ∨ w ∈ vals s'.reg) : Inv s' := by
  have hx : ∀ x, s'.pc x = p ∧ x = c ∨ s'.pc x = .idle := fun x => by
    rw [hpc]
    by_cases hxc : x = c
    · subst hxc; exact .inl ⟨upd_same .., rfl⟩
    · rw [upd_other _ _ hxc]; exact .inr (hidle x hxc)
  refine ⟨fun x hx' => ?_, fun x hx' => ?_, fun x t hx' => ?_, fun x t w hx' => ?_, hh, ho⟩
  · rcases hx x with ⟨e, rfl⟩ | e <;> rw [e] at hx'
    · exact hg hx'
    · cases hx'
  · rcases hx x with ⟨e, rfl⟩ | e <;> rw [e] at hx'
    · exact hc hx'
    · cases hx'
  · rcases hx x with ⟨e, rfl⟩ | e <;> rw [e] at hx'
    · exact hm t hx'
    · cases hx'
  · rcases hx x with ⟨e, rfl⟩ | e <;> rw [e] at hx'
    · exact hf t w hx'
    · cases hx'

end Inv

namespace Move

theorem inv {s s' : State} {st : Step} (hm : Move codeCfg s st s') (h : Inv s) : Inv s' := by
  cases hm with
  | enter c t _ hcl hx =>
    have hh := hx rfl
    exact .of_sole (fun x _ => h.all_idle hh hcl x) rfl (fun _ => ⟨by show c :: s.holders = [c]; rw [hh], hcl⟩)
      nofun nofun nofun h.handedReg h.noOrphan
  | hit c t w hp hf =>
    exact .of_sole (fun x => h.others_idle hp nofun) rfl (fun _ => h.getter c (by rw [hp]; rfl))
      nofun nofun (fun _ _ e => by cases e; exact hf) h.handedReg h.noOrphan
  | miss c t hp hf =>
    exact .of_sole (fun x => h.others_idle hp nofun) rfl (fun _ => h.getter c (by rw [hp]; rfl))
      nofun (fun _ e => by cases e; exact hf) nofun h.handedReg h.noOrphan
  | create c t hp =>
    have hnone := h.missed c t hp
    refine .of_sole (fun x => h.others_idle hp nofun) rfl (fun _ => h.getter c (by rw [hp]; rfl)) nofun nofun
      (fun _ _ e => by cases e; show find (put s.reg t s.next) t = _; rw [find_put, if_pos rfl])
      (fun e he => ?_) (fun w hw => (h.noOrphan w hw).imp_right fun h1 => ?_)
    · -- a topic that was handed out is registered, so it is not the one being created
      show find (put s.reg t s.next) e.2.1 = some e.2.2
      rw [find_put, if_neg fun ht => by have := h.handedReg e he; rw [← ht, hnone] at this; cases this]
      exact h.handedReg e he
    · show w ∈ vals (put s.reg t s.next)
      rw [vals_put_absent _ _ _ hnone]; exact List.mem_append_left _ h1
  | ret c t w hp =>
    have hreg := h.found c t w hp
    refine .of_sole (fun x => h.others_idle hp nofun) rfl nofun nofun nofun nofun (fun e he => ?_) (fun w' hw' => ?_)
    · rcases List.mem_append.mp he with he | he
      · exact h.handedReg e he
      · cases List.mem_singleton.mp he; exact hreg
    · rcases List.mem_append.mp hw' with hw' | hw'
      · exact h.noOrphan w' hw'
      · cases List.mem_singleton.mp hw'; exact .inr (mem_vals_of_find hreg)
  | enterClear c _ hcl hh =>
    exact .of_sole (fun x _ => h.all_idle hh hcl x) rfl nofun (fun _ => ⟨hh, rfl⟩) nofun nofun h.handedReg h.noOrphan
  | closeAll c hp =>
    exact .of_sole (fun x => h.others_idle hp nofun) rfl nofun (fun _ => h.clr c (by rw [hp]; rfl)) nofun nofun nofun
      fun w hw => .inl (List.mem_append.mpr (h.noOrphan w hw))
  | retClear c hp =>
    exact .of_sole (fun x => h.others_idle hp nofun) rfl nofun nofun nofun nofun h.handedReg h.noOrphan

end Move

theorem inv_reach (sched : List Step) : Inv (run codeCfg init sched) :=
  run_invariant (fun _ _ _ hm => hm.inv) sched init inv_init

structure Fresh (s : State) : Prop where
  regLt : ∀ w ∈ vals s.reg, w < s.next
  closedLt : ∀ w ∈ s.closed, w < s.next
  regNodup : (vals s.reg).Nodup
  closedNodup : s.closed.Nodup
  disjoint : ∀ w ∈ vals s.reg, w ∉ s.closed

theorem fresh_init : Fresh init := by constructor <;> simp [init, vals]

namespace Move

/-- Writers are numbered in creation order, so a new one is neither registered nor closed yet; a
    shutdown moves the registered writers, which were not closed, to the closed ones. -/
theorem fresh {cfg : Cfg} {s s' : State} {st : Step} (hm : Move cfg s st s') (h : Fresh s) : Fresh s' := by
  cases hm with
  | create c t =>
    refine ⟨fun w hw => ?_, fun w hw => Nat.lt_succ_of_lt (h.closedLt w hw),
      nodup_vals_put h.regNodup fun hm => Nat.lt_irrefl _ (h.regLt _ hm), h.closedNodup, fun w hw => ?_⟩
    · rcases mem_vals_put hw with h1 | h1
      · rw [h1]; exact Nat.lt_succ_self _
      · exact Nat.lt_succ_of_lt (h.regLt w h1)
    · rcases mem_vals_put hw with h1 | h1
      · rw [h1]; exact fun hc => Nat.lt_irrefl _ (h.closedLt _ hc)
      · exact h.disjoint w h1
  | closeAll c =>
    refine ⟨nofun, fun w hw => (List.mem_append.mp hw).elim (h.closedLt w) (h.regLt w), List.nodup_nil, ?_, nofun⟩
    exact List.nodup_append.mpr ⟨h.closedNodup, h.regNodup, fun a ha b hb hab => h.disjoint b hb (hab ▸ ha)⟩
  | _ => exact { h with }

end Move

theorem fresh_reach (cfg : Cfg) (sched : List Step) : Fresh (run cfg init sched) :=
  run_invariant (fun _ _ _ hm => hm.fresh) sched init fresh_init

theorem handedFor_mem {s : State} {t : Topic} {w : WId} (h : w ∈ handedFor s t) :
    ∃ c, (c, t, w) ∈ s.handed := by
  simp only [handedFor, List.mem_map, List.mem_filter, beq_iff_eq] at h
  obtain ⟨⟨c, t', w'⟩, ⟨hm, ht⟩, hw⟩ := h
  simp only at ht hw
  subst ht; subst hw
  exact ⟨c, hm⟩

theorem allSame_of_all_eq {l : List WId} (h : ∀ x ∈ l, ∀ y ∈ l, x = y) : allSame l = true := by
  cases l with
  | nil => rfl
  | cons a rest =>
    simp only [allSame, List.headD_cons, List.all_eq_true, beq_iff_eq]
    exact fun x hx => h x hx a List.mem_cons_self

theorem length_eraseDups_le_one {l : List WId} (h : ∀ x ∈ l, ∀ y ∈ l, x = y) : l.eraseDups.length ≤ 1 := by
  cases l with
  | nil => simp
  | cons a rest =>
    -- everything after the head equals it, so the head alone survives
    have : rest.filter (fun b => !b == a) = [] :=
      List.filter_eq_nil_iff.mpr fun x hx => by simp [h x (List.mem_cons_of_mem _ hx) a List.mem_cons_self]
    rw [List.eraseDups_cons, this]; simp

end Registry
