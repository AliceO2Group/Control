/-
  Proofs/Resubscribe — invariants of Model/Resubscribe.lean behind the C18 theorems about SEVERAL subscriptions
  in one life and incomplete reconciliation answers (core Lean only).

    lifting    a base step of the layered model is a step of Model/Reconcile.lean against the master as it answers at
               that moment, or the observer's note (`rstep_base`): an `Eff` on the base state, so the base states of
               its runs are in `Reach` and InvA / InvB / InvR and the log predicates hold of them
    OrphanInv  orphans: while connected, every killable task of an earlier life is covered by the SUBSCRIBED still
               to be read, by a reconciliation answer on its way, by a KILL sent SINCE THE LATEST SUBSCRIBE (and the
               latest RECONCILE) of the current life, or it is in `m`: the answer to this subscription's RECONCILE
               left it out. Its step lemma (`Orphans.eff`) is about `Eff`, with a hypothesis saying how `m` moves; it is
               instantiated with `m = []` for Model/Reconcile.lean against complete answers (`InvQ` of
               Proofs/Reconcile.lean) and with `m = r.missed` for the layered model.
    InvS       identity: the id in memory is the persisted one, the newest `Sub` is the connected stream, every
               accepted `Sub` was assigned the persisted id; hence `identityKept` and `oneFramework`
    also       the orphan predicates (`OrphanSpec`), conservativity (`rrun_plain`), `rrun_preserves`
-/
import ControlModel.Proofs.Reconcile
open Reconcile Spec.C18

namespace Reconcile

/-- `St.accepts` is the guard of `Eff.readHello`. -/
theorem accepts_iff {c : Cfg} {s : St} :
    s.accepts c = true ↔
      ∃ f, s.hello = some f ∧ s.alive = true ∧ (s.fidMem.isSome && s.fidMem != some f && c.failover) = false := by
  unfold St.accepts
  cases s.hello with
  | none => exact ⟨nofun, fun ⟨_, h, _⟩ => nomatch h⟩
  | some g =>
    dsimp only
    rw [Bool.and_eq_true, Bool.not_eq_true']
    exact ⟨fun h => ⟨g, rfl, h⟩, fun ⟨_, hf, h⟩ => Option.some.inj hf ▸ h⟩

theorem Eff.kv_stream {c : Cfg} {W : World} {s s' : St} {x : Step} (e : Eff c W s x s') :
    (s'.kv = s.kv ∨ x = .read ∧ s.accepts c = true) ∧ (s'.stream = s.stream ∨ s'.stream = none ∨ x = .subscribe) := by
  cases e with
  | coreKill | coreTerm | stateError | drop => exact ⟨.inl rfl, .inr (.inl rfl)⟩
  | subscribe => exact ⟨.inl rfl, .inr (.inr rfl)⟩
  | readHello f hal hh he => exact ⟨.inr ⟨rfl, accepts_iff.mpr ⟨f, hh, hal, he⟩⟩, .inl rfl⟩
  | _ => exact ⟨.inl rfl, .inl rfl⟩

theorem step_world (c : Cfg) (W W' : World) (s : St) (x : Step) (hx : x ≠ .read) : step c W s x = step c W' s x := by
  cases x with
  | read => exact absurd rfl hx
  | _ => rfl

/-- A base step of the layered model: a step of Model/Reconcile.lean against the master as it answers NOW (the
    snapshot lists what the master can report), `missed` starts afresh at an accepted SUBSCRIBED, `subs` records
    SUBSCRIBE and acceptance. -/
theorem rstep_base (c : Cfg) (r : RSt) (y : Step) :
    rstep c r (.base y) =
      { r with
        base := if y = .snapshot then snapWith r.base (visibleOrphans c r)
                else step c (worldOf r.hidden r.muted) r.base y
        missed := if y = .read ∧ r.base.accepts c = true then
                    (if r.muted || !c.reconcileOnSubscribed then r.base.tasks.map (·.id) else r.hidden)
                  else r.missed
        subs := if y = .read ∧ r.base.accepts c = true then acceptHead r.subs
                else if y = .subscribe ∧ (r.base.alive && !r.base.stream.isSome) = true then
                  { life := r.base.life, carry := (if c.failover then r.base.fidMem else none),
                    assigned := (step c (worldOf r.hidden r.muted) r.base y).stream.getD 0, accepted := false } :: r.subs
                else r.subs } := by
  cases y with
  | read => simp only [rstep]; cases r.base.accepts c <;> rfl
  | snapshot => simp only [rstep, snapWith]; cases r.base.quiescent <;> rfl
  | subscribe => simp only [rstep]; cases (r.base.alive && !r.base.stream.isSome) <;> rfl
  | _ => rfl

theorem rstep_eff (c : Cfg) (r : RSt) (y : Step) :
    Eff c (worldOf r.hidden r.muted) r.base y (rstep c r (.base y)).base := by
  rw [rstep_base]; dsimp only; split
  · next h => subst h; exact snapWith_eff ..
  · exact step_eff ..

/-- the `stepOk` of Proofs/Reconcile.lean on the layered steps -/
def rstepOk (c : Cfg) : RStep → Bool
  | .base x => stepOk c x
  | _ => true

theorem Reach.rstep {c : Cfg} {ok : Step → Bool} {r : RSt} (x : RStep) (hx : ∀ y, x = .base y → ok y = true)
    (h : Reach c ok r.base) : Reach c ok (rstep c r x).base := by
  cases x with
  | base y => exact h.eff (hx y rfl) (rstep_eff c r y)
  | hide | unhide | mute | unmute => exact h

theorem Reach.rrun {c : Cfg} {ok : Step → Bool} (h : List RStep) (hh : ∀ y, .base y ∈ h → ok y = true) {r : RSt}
    (hr : Reach c ok r.base) : Reach c ok (rrun c h r).base := by
  induction h generalizing r with
  | nil => exact hr
  | cons x xs ih =>
    exact ih (fun y hy => hh y (List.mem_cons_of_mem _ hy)) (hr.rstep x fun y hy => hh y (hy ▸ List.mem_cons_self))

theorem rrun_preserves {P : RSt → Prop} {ok : RStep → Bool} (c : Cfg)
    (hstep : ∀ r x, ok x = true → P r → P (rstep c r x))
    (h : List RStep) (hh : h.all ok = true) (r : RSt) (hr : P r) : P (rrun c h r) := by
  induction h generalizing r with
  | nil => exact hr
  | cons x xs ih =>
    rw [List.all_cons, Bool.and_eq_true] at hh
    exact ih hh.2 _ (hstep r x hh.1 hr)

theorem worldOf_nil : worldOf [] false = World.complete := by
  simp [worldOf, World.complete]

theorem rstep_plain (c : Cfg) (r : RSt) (x : Step) (hh : r.hidden = []) (hm : r.muted = false) :
    (rstep c r (.base x)).base = step c World.complete r.base x ∧
    (rstep c r (.base x)).hidden = [] ∧ (rstep c r (.base x)).muted = false := by
  rw [rstep_base]
  refine ⟨?_, hh, hm⟩
  dsimp only; rw [hh, hm, worldOf_nil]; split
  · next h => subst h; simp [step_snapshot, visibleOrphans, hh, List.filter_eq_self.mpr]
  · rfl

theorem rrun_plain (c : Cfg) (h : List Step) (r : RSt) (hh : r.hidden = []) (hm : r.muted = false) :
    (rrun c (h.map .base) r).base = run c World.complete h r.base := by
  induction h generalizing r with
  | nil => rfl
  | cons x xs ih =>
    obtain ⟨e, h1, h2⟩ := rstep_plain c r x hh hm
    simp only [List.map_cons, rrun, run]
    rw [ih _ h1 h2, e]

theorem sinceSubscribe_kill (l l' t w o) (log : List Out) :
    sinceSubscribe l (.kill l' t w o :: log) = .kill l' t w o :: sinceSubscribe l log := rfl
theorem sinceSubscribe_snap (l l' os) (log : List Out) :
    sinceSubscribe l (.snap l' os :: log) = .snap l' os :: sinceSubscribe l log := rfl
theorem sinceSubscribe_reconcile (l l') (log : List Out) :
    sinceSubscribe l (.reconcile l' :: log) = .reconcile l' :: sinceSubscribe l log := rfl
theorem sinceSubscribe_persist (l l' f) (log : List Out) :
    sinceSubscribe l (.persist l' f :: log) = .persist l' f :: sinceSubscribe l log := rfl
theorem sinceSubscribe_stateError (l l') (log : List Out) :
    sinceSubscribe l (.stateError l' :: log) = .stateError l' :: sinceSubscribe l log := rfl
theorem sinceSubscribe_subscribe_self (l c) (log : List Out) :
    sinceSubscribe l (.subscribe l c :: log) = [] := by simp [sinceSubscribe]

theorem sinceSubscribe_eq_takeWhile (l : Nat) (log : List Out) :
    sinceSubscribe l log = log.takeWhile (fun o => match o with | .subscribe l' _ => l' != l | _ => true) := by
  induction log with
  | nil => rfl
  | cons o log ih =>
    rw [List.takeWhile_cons, ← ih]
    cases o <;> simp [sinceSubscribe]

theorem sinceSubscribe_sub (l : Nat) (log : List Out) : ∀ o ∈ sinceSubscribe l log, o ∈ log := by
  rw [sinceSubscribe_eq_takeWhile]
  exact fun o h => (List.takeWhile_prefix _).subset h

/-- The per-subscription statement implies the per-task one: a KILL since the latest SUBSCRIBE is a KILL. -/
theorem orphansKilled_of_eachSubscription (log : List Out) (h : orphansKilledEachSubscription log = true) :
    orphansKilled log = true := by
  induction log with
  | nil => rfl
  | cons a as ih =>
    simp only [orphansKilledEachSubscription, Bool.and_eq_true] at h
    simp only [orphansKilled, Bool.and_eq_true]
    refine ⟨?_, ih h.2⟩
    cases a with
    | snap l os => exact reconKills_of_sub (sinceSubscribe_sub l as) h.1
    | _ => rfl

/-- KILLs and the observer's snapshots: log entries that end no round and no subscription. -/
def aside : Out → Bool
  | .kill .. | .snap .. => true
  | _ => false

theorem killsFor_aside (l : Nat) (w : Why) (ts : List RTask) : (killsFor l w ts).all aside = true :=
  List.all_eq_true.mpr fun _ h => by obtain ⟨_, _, rfl⟩ := mem_killsFor h; rfl

/-- An aside is neither a SUBSCRIBE nor a RECONCILE: both prefixes pass over it. -/
theorem since_aside (l : Nat) (new log : List Out) (h : new.all aside = true) :
    sinceSubscribe l (new ++ log) = new ++ sinceSubscribe l log ∧
    sinceReconcile l (new ++ log) = new ++ sinceReconcile l log := by
  rw [List.all_eq_true] at h
  simp only [sinceSubscribe_eq_takeWhile, sinceReconcile_eq_takeWhile]
  constructor
  · refine List.takeWhile_append_of_pos fun o ho => ?_
    cases o with
    | kill | snap => rfl
    | _ => cases h _ ho
  · refine List.takeWhile_append_of_pos fun o ho => ?_
    cases o with
    | kill | snap => rfl
    | _ => cases h _ ho

/-- a KILL of life `l` for task `t`, caused by a reconciliation update, NEWER than the latest SUBSCRIBE of life `l`
    and NEWER than its latest RECONCILE -/
def KilledS (log : List Out) (l t : Nat) : Prop :=
  ∃ o, Out.kill l t (.update .recon) o ∈ sinceSubscribe l log ∧ Out.kill l t (.update .recon) o ∈ sinceReconcile l log

theorem KilledS.any {log : List Out} {l t : Nat} (h : KilledS log l t) :
    (sinceSubscribe l log).any (isReconKill l t) = true ∧ (sinceReconcile l log).any (isReconKill l t) = true := by
  obtain ⟨o, h1, h2⟩ := h
  exact ⟨List.any_eq_true.mpr ⟨_, h1, by simp [isReconKill]⟩, List.any_eq_true.mpr ⟨_, h2, by simp [isReconKill]⟩⟩

theorem KilledS.aside {log : List Out} {l t : Nat} (h : KilledS log l t) (new : List Out) (hn : new.all aside = true) :
    KilledS (new ++ log) l t := by
  obtain ⟨o, h1, h2⟩ := h
  obtain ⟨e1, e2⟩ := since_aside l new log hn
  exact ⟨o, e1 ▸ List.mem_append_right _ h1, e2 ▸ List.mem_append_right _ h2⟩

/-- The orphan invariant on a base state `s` with the set `m` of tasks the current subscription's answer missed. -/
def OrphanInv (c : Cfg) (s : St) (m : List Nat) : Prop :=
  s.alive = true → s.stream.isSome = true → ∀ t ∈ s.tasks, t.life < s.life → c.killable t.state = true →
    s.hello.isSome = true ∨ Pending c s t.id ∨ KilledS s.log s.life t.id ∨ t.id ∈ m

/-- The invariant moves along a step that keeps life, connection and the SUBSCRIBED still to be read, if every
    orphan of the new table was one before, an answer on its way stays on its way or has its KILL, and a KILL stays
    newer than the latest SUBSCRIBE and RECONCILE. -/
theorem OrphanInv.step {c : Cfg} {s s' : St} {m : List Nat} (h : OrphanInv c s m)
    (hl : s'.life = s.life) (ha : s'.alive = s.alive) (hst : s'.stream = s.stream) (hh : s'.hello = s.hello)
    (ht : ∀ y ∈ s'.tasks, y.life < s.life → c.killable y.state = true →
      ∃ y0 ∈ s.tasks, y0.id = y.id ∧ y0.life < s.life ∧ c.killable y0.state = true)
    (hp : ∀ y0 ∈ s.tasks, y0.life < s.life → Pending c s y0.id → Pending c s' y0.id ∨ KilledS s'.log s.life y0.id)
    (hk : ∀ t, KilledS s.log s.life t → KilledS s'.log s.life t) : OrphanInv c s' m := by
  intro ha' hs' y hy hlt hky
  rw [hl] at hlt ⊢; rw [ha] at ha'; rw [hst] at hs'; rw [hh]
  obtain ⟨y0, h0, hid, hlt0, hk0⟩ := ht y hy hlt hky
  rw [← hid]
  rcases h ha' hs' y0 h0 hlt0 hk0 with h1 | h2 | h3 | h4
  · exact .inl h1
  · exact (hp y0 h0 hlt0 h2).elim (fun p => .inr (.inl p)) fun k => .inr (.inr (.inl k))
  · exact .inr (.inr (.inl (hk _ h3)))
  · exact .inr (.inr (.inr h4))

/-- A step that leaves the table and the connection alone, moves messages along (stream to channel, none lost) and
    logs nothing but KILLs and snapshots. -/
theorem OrphanInv.frame {c : Cfg} {s : St} {m : List Nat} (h : OrphanInv c s m) {q i : List Upd} {ro : List RTask}
    {he : List (Nat × Nat)} {te : List Teardown} {se : List Nat}
    (hq : ∀ u ∈ s.queue, u ∈ q ∨ u ∈ i) (hi : ∀ u ∈ s.inbox, u ∈ i) (new : List Out) (hn : new.all aside = true) :
    OrphanInv c { s with queue := q, inbox := i, roster := ro, held := he, tearing := te, seen := se,
                         log := new ++ s.log } m :=
  h.step rfl rfl rfl rfl (fun y hy hlt hk => ⟨y, hy, rfl, hlt, hk⟩)
    (fun _ _ _ ⟨st, hk, hp⟩ => .inl ⟨st, hk, hp.elim (hq _) fun hp => .inr (hi _ hp)⟩)
    fun _ hk => hk.aside new hn

/-- At a quiet point nothing is in flight: an orphan has its KILL, or the answer left it out. -/
theorem OrphanInv.quiet {c : Cfg} {s : St} {m : List Nat} (h : OrphanInv c s m) (hq : s.quiescent = true) :
    ∀ t ∈ s.tasks, t.life < s.life → c.killable t.state = true → KilledS s.log s.life t.id ∨ t.id ∈ m := by
  intro t ht hlt hk
  simp only [St.quiescent, St.connected, Bool.and_eq_true, List.isEmpty_iff, Option.isNone_iff_eq_none] at hq
  obtain ⟨⟨⟨hal, hst, hh⟩, hqu⟩, hin⟩ := hq
  rcases h hal hst t ht hlt hk with h1 | ⟨st, _, h2 | h2⟩ | h3
  · rw [hh] at h1; cases h1
  · rw [hqu] at h2; cases h2
  · rw [hin] at h2; cases h2
  · exact h3

/-- A SUBSCRIBED that is accepted starts a round whose answer covers every orphan the master can report; the
    others are missed. Whatever was missed before does not count. -/
theorem OrphanInv.accept {c : Cfg} {W : World} {s s' : St} {m : List Nat} (hc : Sound c) (hA : InvA s) (hB : InvB c s)
    (e : Eff c W s .read s') (hacc : s.accepts c = true)
    (hcov : ∀ t ∈ s.tasks, W.answers s.recons t.id = false → t.id ∈ m) : OrphanInv c s' m := by
  obtain ⟨f', hh', hal', _⟩ := accepts_iff.mp hacc
  cases e with
  | idle _ hen => simp [enabled, hal', hh'] at hen
  | stateError => exact nofun
  | readQueue u rest _ hh => rw [hh] at hh'; cases hh'
  | readHello f hal hh he =>
    intro _ _ t ht hlt hk
    -- every row of the table carries the id of this stream
    have hfid : t.fid = f := by
      have h1 := hB.fid t ht
      have h2 := hA.hello f hh
      rcases hA.stream t.fid h1 with h3 | h3 <;> rw [h2] at h3 <;> cases h3
      rfl
    cases hv : W.answers s.recons t.id with
    | false => exact .inr (.inr (.inr (hcov t ht hv)))
    | true =>
      refine .inr (.inl ⟨t.state, hk, .inl ?_⟩)
      show _ ∈ (if c.reconcileOnSubscribed = true then _ else _)
      rw [if_pos hc.recon]
      exact List.mem_append_right _ (mem_answerOf.mpr ⟨t, ht, ⟨hc.nonterm _ hk, hfid, hv⟩, rfl⟩)

theorem OrphanInv.eff {c : Cfg} {W : World} {s s' : St} {x : Step} {m : List Nat} (hB : InvB c s)
    (h : OrphanInv c s m) (e : Eff c W s x s') (hx : x = .read → s.accepts c = false) : OrphanInv c s' m := by
  cases e with
  | idle => exact h
  | coreStart hal => exact fun _ hs => by rw [(hB.dead hal).1] at hs; cases hs
  | coreKill | coreTerm | stateError => exact nofun
  | subscribe => exact fun _ _ _ _ _ _ => .inl rfl
  | drop => exact fun _ => nofun
  | readHello f hal hh he => rw [accepts_iff.mpr ⟨f, hh, hal, he⟩] at hx; cases hx rfl
  | readQueue u rest _ _ hq =>
    refine h.frame (fun p hp => ?_) (fun p hp => List.mem_append_left _ hp) [] rfl
    rw [hq] at hp
    exact (List.mem_cons.mp hp).elim (fun e => .inr (e ▸ List.mem_append_right _ List.mem_cons_self)) .inl
  | handleKill t st r rest _ hi =>
    refine h.step rfl rfl rfl rfl (fun y hy hlt hk => ⟨y, hy, rfl, hlt, hk⟩) (fun _ _ _ ⟨st0, hst0, hp⟩ => ?_)
      fun _ hk => hk.aside [_] rfl
    rcases hp with hp | hp
    · exact .inl ⟨st0, hst0, .inl hp⟩
    · rw [hi] at hp
      rcases List.mem_cons.mp hp with e | hp
      · -- this very message is handled now: KILL
        injection e with e1 e2; injection e2 with e2 e3
        subst e1 e2 e3
        exact .inr ⟨_, List.mem_cons_self, List.mem_cons_self⟩
      · exact .inl ⟨st0, hst0, .inr hp⟩
  | handleKillLost t st r rest _ _ _ hs => exact fun _ hs' => by rw [hs] at hs'; cases hs'
  | handleUpdate t st r rest _ hi hcond =>
    refine h.step rfl rfl rfl rfl (fun y hy hlt hk => ⟨y, hy, rfl, hlt, hk⟩)
      (fun y0 h0 hlt0 ⟨st0, hst0, hp⟩ => .inl ⟨st0, hst0, hp.imp_right fun hp => ?_⟩) fun _ => id
    rw [hi] at hp
    refine (List.mem_cons.mp hp).resolve_left fun e => ?_
    -- the answer about an orphan goes to the KILL branch: an orphan is not in the roster
    injection e with e1 e2; injection e2 with e2 e3
    subst e1 e2 e3
    simp [hst0, not_inRoster_of_old c s hB y0 h0 hlt0] at hcond
  | launch e t f =>
    refine h.step rfl rfl rfl rfl (fun y hy hlt hk => ?_) (fun _ _ _ hp => .inl hp) fun _ => id
    rcases List.mem_append.mp hy with hy | hy
    · exact ⟨y, hy, rfl, hlt, hk⟩
    · rw [List.mem_singleton.mp hy] at hlt; exact absurd hlt (Nat.lt_irrefl _)
  | status t st x =>
    refine h.step rfl rfl rfl rfl (fun y hy hlt hk => ?_)
      (fun _ _ _ ⟨st0, hst0, hp⟩ => .inl ⟨st0, hst0, hp.imp_left fun hp => ?_⟩) fun _ => id
    · obtain ⟨y0, h0, e1, _, e3, e4⟩ := mem_setState hy
      -- a row that changes state was not terminal, hence killable before
      exact ⟨y0, h0, e1.symm, e3 ▸ hlt, e4.elim (fun e => e ▸ hk) fun e =>
        (hB.states y0 h0).resolve_left (by rw [e.1]; nofun)⟩
    · show _ ∈ (if _ then _ else _); split
      · exact List.mem_append_left _ hp
      · exact hp
  | reconUpdate => exact h.frame (fun _ hp => .inl (List.mem_append_left _ hp)) (fun _ => id) [] rfl
  | release | releaseEnd => exact h.frame (fun _ => .inl) (fun _ => id) _ (killsFor_aside ..)
  | snapshot => exact h.frame (fun _ => .inl) (fun _ => id) [_] rfl
  | releaseFailed | releaseBegin | releaseEndFailed => exact h.frame (fun _ => .inl) (fun _ => id) [] rfl

/-- A reachable state with a set `m` that covers what the answer to its current subscription's RECONCILE left out. -/
structure Orphans (c : Cfg) (s : St) (m : List Nat) : Prop where
  reach : Reach c (stepOk c) s
  inv : OrphanInv c s m

theorem orphans_init (c : Cfg) (kv0 : Option Nat) : Orphans c (init kv0) [] :=
  ⟨.init kv0, fun ha => by cases kv0 <;> cases ha⟩

theorem Orphans.eff {c : Cfg} {W : World} {s s' : St} {x : Step} {m m' : List Nat} (hc : Sound c) (h : Orphans c s m)
    (hx : stepOk c x = true) (e : Eff c W s x s')
    (hm : if x = .read ∧ s.accepts c = true then ∀ t ∈ s.tasks, W.answers s.recons t.id = false → t.id ∈ m' else m' = m) :
    Orphans c s' m' := by
  refine ⟨h.reach.eff hx e, ?_⟩
  have hB := h.reach.invB hc
  split at hm
  · next hy => obtain ⟨rfl, hacc⟩ := hy; exact .accept hc (h.reach.invA hc.seed hc.failover) hB e hacc hm
  · next hy => subst hm; exact h.inv.eff hB e fun hr => by simpa [hr] using hy

/-- Kept by every `Eff` but a snapshot; by a snapshot if what it lists has its KILL (`OrphanSpec.snap`, from `OrphanInv`). -/
def OrphanSpec (log : List Out) : Prop :=
  orphansKilledEachSubscription log = true ∧ orphansKilledEachRound log = true

/-- the two predicates only look at the log when a snapshot is taken -/
theorem orphanSpec_append (new log : List Out) (hn : ∀ l os, Out.snap l os ∉ new) (h : OrphanSpec log) :
    OrphanSpec (new ++ log) := by
  induction new with
  | nil => exact h
  | cons o new ih =>
    have ih := ih fun l os hm => hn l os (List.mem_cons_of_mem _ hm)
    cases o with
    | snap l os => exact absurd List.mem_cons_self (hn l os)
    | _ => exact ⟨by simpa [orphansKilledEachSubscription] using ih.1, by simpa [orphansKilledEachRound] using ih.2⟩

theorem OrphanSpec.eff {c : Cfg} {W : World} {s s' : St} {x : Step} (e : Eff c W s x s') (hx : x ≠ .snapshot)
    (h : OrphanSpec s.log) : OrphanSpec s'.log := by
  have kills : ∀ l w ts, OrphanSpec (killsFor l w ts ++ s.log) := fun l w ts =>
    orphanSpec_append _ _ (fun _ _ hm => by obtain ⟨_, _, e⟩ := mem_killsFor hm; cases e) h
  cases e with
  | snapshot => exact absurd rfl hx
  | coreTerm | release | releaseEnd => exact kills ..
  | subscribe | stateError | handleKill => exact orphanSpec_append [_] _ (fun _ _ hm => nomatch List.mem_singleton.mp hm) h
  | readHello =>
    refine orphanSpec_append _ _ (fun _ _ hm => nomatch mem_optional hm) (orphanSpec_append _ _ (fun _ _ hm => ?_) h)
    cases mem_optional hm
  | _ => exact h

/-- A snapshot keeps both predicates if it lists only orphans that the latest answer did not leave out: each has its
    KILL since the latest SUBSCRIBE and since the latest RECONCILE. -/
theorem OrphanSpec.snap {c : Cfg} {s : St} {m : List Nat} (hV : OrphanInv c s m) (h : OrphanSpec s.log) (os : List Nat)
    (hos : s.quiescent = true → ∀ t ∈ os, t ∈ orphans c s ∧ t ∉ m) : OrphanSpec (snapWith s os).log := by
  unfold snapWith
  split
  · next hq =>
    have key : ∀ t ∈ os, KilledS s.log s.life t := fun t ht => by
      obtain ⟨ho, hnm⟩ := hos hq t ht
      simp only [orphans, List.mem_filter, List.mem_map, Bool.and_eq_true, decide_eq_true_eq] at ho
      obtain ⟨mt, ⟨hmt, hlt, hk⟩, rfl⟩ := ho
      exact (hV.quiet hq mt hmt hlt hk).resolve_right hnm
    simp only [OrphanSpec, orphansKilledEachSubscription, orphansKilledEachRound, h.1, h.2, Bool.and_true]
    exact ⟨List.all_eq_true.mpr fun t ht => (key t ht).any.1, List.all_eq_true.mpr fun t ht => (key t ht).any.2⟩
  · exact h

theorem orphanSpec_init (kv0 : Option Nat) : OrphanSpec (init kv0).log := by
  cases kv0 <;> simp [OrphanSpec, init, orphansKilledEachSubscription, orphansKilledEachRound]

/-- Model/Reconcile.lean against complete answers: nothing is ever missed, and a snapshot lists all orphans. -/
theorem orphans_run (c : Cfg) (W : World) (hc : Sound c) (hW : ∀ n t, W.answers n t = true) (h : List Step)
    (hh : h.all (stepOk c) = true) {s : St} (hs : Orphans c s [] ∧ OrphanSpec s.log) :
    Orphans c (run c W h s) [] ∧ OrphanSpec (run c W h s).log := by
  induction h generalizing s with
  | nil => exact hs
  | cons x xs ih =>
    rw [List.all_cons, Bool.and_eq_true] at hh
    have e := step_eff c W s x
    refine ih hh.2 ⟨hs.1.eff hc hh.1 e ?_, ?_⟩
    · split
      · exact fun t _ hv => nomatch (hW _ _).symm.trans hv
      · rfl
    · by_cases hx : x = .snapshot
      · subst hx; exact OrphanSpec.snap hs.1.inv hs.2 _ fun _ t ht => ⟨ht, List.not_mem_nil⟩
      · exact OrphanSpec.eff e hx hs.2

theorem plain_orphans (c : Cfg) (W : World) (hc : Sound c) (hW : ∀ n t, W.answers n t = true)
    (kv0 : Option Nat) (h : List Step) (hh : h.all (stepOk c) = true) :
    OrphanInv c (run c W h (init kv0)) [] ∧ OrphanSpec (run c W h (init kv0)).log :=
  have ⟨hv, hs⟩ := orphans_run c W hc hW h hh ⟨orphans_init c kv0, orphanSpec_init kv0⟩
  ⟨hv.inv, hs⟩

theorem invQ_run (c : Cfg) (W : World) (hc : Sound c) (hW : ∀ n t, W.answers n t = true)
    (kv0 : Option Nat) (h : List Step) (hh : h.all (stepOk c) = true) : InvQ c (run c W h (init kv0)) := by
  obtain ⟨hv, hs⟩ := plain_orphans c W hc hW kv0 h hh
  refine ⟨fun ha hst t ht hlt hk => ?_, hs.2⟩
  rcases hv ha hst t ht hlt hk with h1 | h2 | ⟨o, _, h3⟩ | h4
  · exact .inl h1
  · exact .inr (.inl h2)
  · exact .inr (.inr ⟨o, h3⟩)
  · cases h4

/-- Model/Resubscribe.lean: `r.missed` is such a set. -/
theorem orphans_rstep (c : Cfg) (hc : Sound c) (r : RSt) (x : RStep) (hx : rstepOk c x = true)
    (h : Orphans c r.base r.missed) : Orphans c (rstep c r x).base (rstep c r x).missed := by
  cases x with
  | hide | unhide | mute | unmute => exact h
  | base y =>
    refine h.eff hc hx (rstep_eff c r y) ?_
    rw [congrArg RSt.missed (rstep_base c r y)]
    dsimp only; split
    · -- what the answer leaves out: everything if the call is lost, else the tasks whose agent is away
      intro t ht hv
      rw [hc.recon]
      cases hmu : r.muted with
      | true => exact List.mem_map.mpr ⟨t, ht, rfl⟩
      | false => simpa [worldOf, hmu] using hv
    · rfl

theorem orphans_rrun (c : Cfg) (hc : Sound c) (h : List RStep) (hh : h.all (rstepOk c) = true) (r : RSt)
    (hr : Orphans c r.base r.missed) : Orphans c (rrun c h r).base (rrun c h r).missed :=
  rrun_preserves (P := fun r => Orphans c r.base r.missed) c (orphans_rstep c hc) h hh r hr

/-- `OrphanSpec` is preserved by a step that satisfies `lateOk`: what the snapshot lists is not in `missed`. -/
theorem orphanSpec_rstep (c : Cfg) (r : RSt) (x : RStep) (hV : OrphanInv c r.base r.missed) (hl : lateOk c r x = true)
    (h : OrphanSpec r.base.log) : OrphanSpec (rstep c r x).base.log := by
  cases x with
  | hide | unhide | mute | unmute => exact h
  | base y =>
    by_cases hy : y = .snapshot
    · subst hy
      rw [rstep_base]
      refine OrphanSpec.snap hV h _ fun hq t ht => ⟨(List.mem_filter.mp ht).1, ?_⟩
      simp only [lateOk, hq, Bool.not_true, Bool.false_or] at hl
      simpa using List.all_eq_true.mp hl t ht
    · exact OrphanSpec.eff (rstep_eff c r y) hy h

theorem orphanSpec_rrun (c : Cfg) (hc : Sound c) (h : List RStep) (hh : h.all (rstepOk c) = true) (r : RSt)
    (hr : Orphans c r.base r.missed) (hno : noLateOrphans c h r = true) (hs : OrphanSpec r.base.log) :
    OrphanSpec (rrun c h r).base.log := by
  induction h generalizing r with
  | nil => exact hs
  | cons x xs ih =>
    rw [List.all_cons, Bool.and_eq_true] at hh
    rw [noLateOrphans, Bool.and_eq_true] at hno
    exact ih hh.2 _ (orphans_rstep c hc r x hh.1 hr) hno.2 (orphanSpec_rstep c r x hr.inv hno.1 hs)

theorem identityKept_acceptHead (subs : List Sub) : identityKept (acceptHead subs) = identityKept subs := by
  cases subs with
  | nil => rfl
  | cons y ys => simp [acceptHead, identityKept]

structure InvS (r : RSt) : Prop where
  a : InvA r.base
  /-- the id in memory of a live core is the persisted one -/
  mem : r.base.alive = true → r.base.fidMem = r.base.kv
  /-- the newest SUBSCRIBE is the connected stream -/
  head : ∀ g, r.base.stream = some g → ∃ y ys, r.subs = y :: ys ∧ y.assigned = g
  /-- an accepted SUBSCRIBE was assigned the persisted id -/
  acc : ∀ y ∈ r.subs, y.accepted = true → r.base.kv = some y.assigned
  kept : identityKept r.subs = true
  one : oneFramework r.subs = true

theorem invS_init (kv0 : Option Nat) : InvS (rinit kv0) :=
  ⟨invA_init kv0, nofun, by cases kv0 <;> exact nofun, nofun, rfl, rfl⟩

theorem invS_rstep (c : Cfg) (hseed : c.seedFid = true) (hpers : c.persistFid = true) (hfo : c.failover = true)
    (r : RSt) (x : RStep) (h : InvS r) : InvS (rstep c r x) := by
  cases x with
  | hide | unhide | mute | unmute => exact ⟨h.a, h.mem, h.head, h.acc, h.kept, h.one⟩
  | base y =>
    have e := rstep_eff c r y
    have hsubs := congrArg RSt.subs (rstep_base c r y)
    have hbase := congrArg RSt.base (rstep_base c r y)
    generalize rstep c r (.base y) = r' at e hsubs hbase ⊢
    obtain ⟨s', _, _, _, subs'⟩ := r'
    dsimp only at e hsubs hbase ⊢
    have ha' := h.a.eff hseed hfo e
    have hmem' := mem_eff hseed hpers e h.mem
    obtain ⟨hkv, hst⟩ := e.kv_stream
    split at hsubs
    · next hy =>
      -- a SUBSCRIBED is accepted: the id of the stream becomes (or already is) the persisted one
      obtain ⟨rfl, hacc⟩ := hy
      obtain ⟨f', hh', hal', he'⟩ := accepts_iff.mp hacc
      cases e with
      | idle _ hen => simp [enabled, hal', hh'] at hen
      | stateError f _ hh he => rw [hh] at hh'; cases hh'; rw [he] at he'; cases he'
      | readQueue u rest _ hh => rw [hh] at hh'; cases hh'
      | readHello f hal hh he =>
        have hstr := h.a.hello f hh
        obtain ⟨y0, ys, hs0, hass⟩ := h.head f hstr
        have hkv' : some f = (if (r.base.fidMem != some f && c.persistFid) = true then some f else r.base.kv) :=
          hmem' hal
        -- nothing was in memory, or the id of this very stream: what was accepted before was assigned `f` too
        have hold : ∀ z ∈ r.subs, z.accepted = true → z.assigned = f := by
          intro z hz hza
          have hk := h.acc z hz hza
          rw [← h.mem hal] at hk
          rw [hk, hfo] at he
          simpa using he
        subst hsubs
        have hkept := h.kept
        have hone := h.one
        rw [hs0] at hold hkept hone ⊢
        refine ⟨ha', hmem', fun g hg => ⟨_, ys, rfl, ?_⟩, fun z hz hza => ?_, ?_, ?_⟩
        · exact hass.trans (Option.some.inj (hstr.symm.trans hg))
        · show (if _ then _ else _) = _
          rw [← hkv']
          rcases List.mem_cons.mp hz with rfl | hz
          · exact congrArg some hass.symm
          · exact congrArg some (hold z (List.mem_cons_of_mem _ hz) hza).symm
        · exact (identityKept_acceptHead (y0 :: ys)).trans hkept
        · have h6 := hone
          simp only [acceptHead, oneFramework, Bool.and_eq_true] at h6 ⊢
          refine ⟨?_, h6.2⟩
          simp only [Bool.not_true, Bool.false_or, List.all_eq_true, Bool.or_eq_true, Bool.not_eq_true', beq_iff_eq]
          intro z hz
          cases hza : z.accepted with
          | false => exact .inl rfl
          | true => exact .inr ((hold z (List.mem_cons_of_mem _ hz) hza).trans hass.symm)
    · next hy =>
      have hkv : s'.kv = r.base.kv := hkv.resolve_right hy
      split at hsubs
      · next hy2 =>
        -- a new SUBSCRIBE: it presents what is in memory, which is what every accepted one was assigned
        obtain ⟨rfl, hen⟩ := hy2
        subst hsubs
        -- the new entry's `assigned` is read off the stream of the state the step leaves
        rw [if_neg nofun] at hbase
        rw [← hbase]
        cases e with
        | idle _ hen' => exact nomatch hen.symm.trans hen'
        | subscribe f n hal hs hcarry =>
          refine ⟨ha', hmem', fun g hg => ⟨_, _, rfl, Option.some.inj hg⟩, fun z hz hza => ?_, ?_, ?_⟩
          · rcases List.mem_cons.mp hz with rfl | hz
            · cases hza
            · exact h.acc z hz hza
          · simp only [identityKept, h.kept, Bool.and_true]
            cases hfind : r.subs.find? (·.accepted) with
            | none => rfl
            | some z =>
              have hk := h.acc z (List.mem_of_find?_eq_some hfind) (List.find?_some hfind)
              rw [← h.mem hal] at hk
              simp [hk]
          · simp [oneFramework, h.one]
      · next hy2 =>
        subst hsubs
        refine ⟨ha', hmem', fun g hg => ?_, fun z hz hza => hkv ▸ h.acc z hz hza, h.kept, h.one⟩
        rcases hst with hst | hst | rfl
        · exact h.head g (hst ▸ hg)
        · rw [hst] at hg; cases hg
        · -- `subscribe`, not enabled
          cases e with
          | idle => exact h.head g hg
          | subscribe f n hal hs => simp [hal, hs] at hy2

theorem invS_rrun (c : Cfg) (hseed : c.seedFid = true) (hpers : c.persistFid = true) (hfo : c.failover = true)
    (h : List RStep) (r : RSt) (hr : InvS r) : InvS (rrun c h r) :=
  rrun_preserves c (fun r x _ hr => invS_rstep c hseed hpers hfo r x hr) h (all_true h) r hr

end Reconcile
