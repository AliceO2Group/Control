/-
  Proofs/RoleTraits — lemmas behind the hook/traits theorems of Props/C11 (core only).

  Every function of Model/RoleTraits.lean and every fold predicate of Spec/C11Traits.lean is the plain
  one of Model/RoleTree.lean / Spec/C11.lean after `forget`; so the invariants of Proofs/RoleTree.lean
  carry over to trees with hooks. The predicates that exist for trees with traits only (`critErrT`,
  `sameLeavesT`, `zeroOrFoldT` and the path predicates) are treated here directly.
-/
import ControlModel.Model.RoleTraits
import ControlModel.Spec.C11Traits
import ControlModel.Proofs.RoleTree

namespace RoleTree
open TForest TState TStatus

theorem skipped_eq (c : Bool) (tr : Traits) : skipped c tr = !tr.crit := by
  cases c <;> rfl

theorem forwards_eq (c : Bool) (tr : Traits) : forwards c tr = tr.crit := by
  cases tr with
  | mk k h => cases k <;> rfl

theorem aggStateFromT_forget (acc : TState) (f : TForest) :
    aggStateFromT acc f = aggStateFrom acc (forget f) := by
  induction f generalizing acc with
  | nil => rfl
  | leaf c tr st su next ih =>
    simp only [aggStateFromT, forget, aggStateFrom, skipped_eq, ih]
    cases tr.crit <;> rfl
  | agg st su kids next _ ih => exact ih _

theorem aggregateStateT_forget (f : TForest) : aggregateStateT f = aggregateState (forget f) :=
  aggStateFromT_forget _ f

theorem aggStatusFromT_forget (acc : TStatus) (f : TForest) :
    aggStatusFromT acc f = aggStatusFrom acc (forget f) := by
  induction f generalizing acc with
  | nil => rfl
  | leaf c tr st su next ih => simp only [aggStatusFromT, forget, aggStatusFrom, ih]
  | agg st su kids next _ ih => simp only [aggStatusFromT, forget, aggStatusFrom, ih]

theorem aggregateStatusT_forget (f : TForest) : aggregateStatusT f = aggregateStatus (forget f) := by
  cases f with
  | nil => rfl
  | leaf c tr st su next => exact aggStatusFromT_forget su next
  | agg st su kids next => exact aggStatusFromT_forget su next

theorem mergeStateT_forget (a s : TState) (f : TForest) : mergeStateT a s f = mergeState a s (forget f) := by
  simp only [mergeStateT, mergeState, aggregateStateT_forget]

theorem mergeStatusT_forget (a s : TStatus) (f : TForest) : mergeStatusT a s f = mergeStatus a s (forget f) := by
  simp only [mergeStatusT, mergeStatus, aggregateStatusT_forget]

theorem updStateT_forget (f : TForest) (p : List Nat) (s : TState) :
    updState (forget f) p s = (forget (updStateT f p s).1, (updStateT f p s).2) := by
  fun_induction updStateT f p s with
  | case1 | case4 => rfl
  | case2 f s _ => cases f <;> rfl
  | case3 c tr st su next s => simp only [forget, updState, forwards_eq]
  | case5 c tr st su next i rest s r ih => simp +zetaDelta only [forget, updState, ih]
  | case6 st su kids next rest s r hnone ih => simp +zetaDelta only [forget, updState, ih, hnone]
  | case7 st su kids next rest s r v hsome st' ih =>
    simp +zetaDelta only [forget, updState, ih, hsome, mergeStateT_forget]
  | case8 st su kids next i rest s r ih => simp +zetaDelta only [forget, updState, ih]

theorem updStatusT_forget (f : TForest) (p : List Nat) (s : TStatus) :
    updStatus (forget f) p s = (forget (updStatusT f p s).1, (updStatusT f p s).2) := by
  fun_induction updStatusT f p s with
  | case1 | case3 | case4 => rfl
  | case2 f s _ => cases f <;> rfl
  | case5 c tr st su next i rest s r ih => simp +zetaDelta only [forget, updStatus, ih]
  | case6 st su kids next rest s r hnone ih => simp +zetaDelta only [forget, updStatus, ih, hnone]
  | case7 st su kids next rest s r v hsome su' ih =>
    simp +zetaDelta only [forget, updStatus, ih, hsome, mergeStatusT_forget]
  | case8 st su kids next i rest s r ih => simp +zetaDelta only [forget, updStatus, ih]

theorem applyUpdateT_forget (f : TForest) (u : Update) :
    forget (applyUpdateT f u) = applyUpdate (forget f) u := by
  cases u with
  | state p s => exact (congrArg Prod.fst (updStateT_forget f (0 :: p) s)).symm
  | status p s => exact (congrArg Prod.fst (updStatusT_forget f (0 :: p) s)).symm

theorem runT_forget (f : TForest) (us : List Update) : forget (runT f us) = run (forget f) us := by
  induction us generalizing f with
  | nil => rfl
  | cons u us ih => exact (ih _).trans (congrArg (run · us) (applyUpdateT_forget f u))

theorem traceT_forget (f : TForest) (us : List Update) :
    (traceT f us).map forget = trace (forget f) us := by
  induction us generalizing f with
  | nil => rfl
  | cons u us ih => simp only [traceT, trace, List.map_cons, ih, applyUpdateT_forget]

theorem dumpT_forget (f : TForest) : dumpT f = dump (forget f) := by
  induction f with
  | nil => rfl
  | leaf c tr st su next ih => simp only [dumpT, forget, dump, ih]
  | agg st su kids next ihk ihn => simp only [dumpT, forget, dump, ihk, ihn]

theorem specStateT_forget (f : TForest) : specStateT f = specState (forget f) := by
  induction f with
  | nil => rfl
  | leaf c tr st su next ih => simp only [specStateT, forget, specState, ih]
  | agg st su kids next ihk ihn => simp only [specStateT, forget, specState, ihk, ihn]

theorem specStatusT?_forget (f : TForest) : specStatusT? f = specStatus? (forget f) := by
  induction f with
  | nil => rfl
  | leaf c tr st su next ih =>
    simp only [specStatusT?, forget, specStatus?, ih]
    cases specStatus? (forget next) <;> rfl
  | agg st su kids next ihk ihn =>
    simp only [specStatusT?, forget, specStatus?, ihk, ihn]
    cases specStatus? (forget next) <;> rfl

theorem specStatusT_forget (f : TForest) : specStatusT f = specStatus (forget f) := by
  simp only [specStatusT, specStatus, specStatusT?_forget]

theorem stateOkT_forget (f : TForest) : stateOkT f = stateOk (forget f) := by
  induction f with
  | nil => rfl
  | leaf c tr st su next ih => simp only [stateOkT, forget, stateOk, ih]
  | agg st su kids next ihk ihn => simp only [stateOkT, forget, stateOk, ihk, ihn, specStateT_forget]

theorem statusOkT_forget (f : TForest) : statusOkT f = statusOk (forget f) := by
  induction f with
  | nil => rfl
  | leaf c tr st su next ih => simp only [statusOkT, forget, statusOk, ih]
  | agg st su kids next ihk ihn => simp only [statusOkT, forget, statusOk, ihk, ihn, specStatusT_forget]

theorem hasCriticalT_forget (f : TForest) : hasCriticalT f = hasCritical (forget f) := by
  induction f with
  | nil => rfl
  | leaf c tr st su next ih => simp only [hasCriticalT, forget, hasCritical, ih]
  | agg st su kids next ihk ihn => simp only [hasCriticalT, forget, hasCritical, ihk, ihn]

theorem noBarrenT_forget (f : TForest) : noBarrenT f = noBarren (forget f) := by
  induction f with
  | nil => rfl
  | leaf c tr st su next ih => simp only [noBarrenT, forget, noBarren, ih]
  | agg st su kids next ihk ihn => simp only [noBarrenT, forget, noBarren, ihk, ihn, hasCriticalT_forget]

/-- Every role still holds the values the YAML loader gives it (hooks, too: a task hook is
    loaded STANDBY/INACTIVE like a basic task). -/
def allInitT : TForest → Bool
  | .nil => true
  | .leaf _ _ st su next => decide (st = .STANDBY) && decide (su = .INACTIVE) && allInitT next
  | .agg st su kids next => decide (st = .STANDBY) && decide (su = .INACTIVE) && allInitT kids && allInitT next

theorem allInitT_forget (f : TForest) : allInitT f = allInit (forget f) := by
  induction f with
  | nil => rfl
  | leaf c tr st su next ih => simp only [allInitT, forget, allInit, ih]
  | agg st su kids next ihk ihn => simp only [allInitT, forget, allInit, ihk, ihn]

def noEmptyAggT : TForest → Bool
  | .nil => true
  | .leaf _ _ _ _ next => noEmptyAggT next
  | .agg _ _ kids next => (match kids with | .nil => false | _ => true) && noEmptyAggT kids && noEmptyAggT next

theorem noEmptyAggT_forget (f : TForest) : noEmptyAggT f = noEmptyAgg (forget f) := by
  induction f with
  | nil => rfl
  | leaf c tr st su next ih => simp only [noEmptyAggT, forget, noEmptyAgg, ih]
  | agg st su kids next ihk ihn =>
    simp only [noEmptyAggT, forget, noEmptyAgg, ihk, ihn]
    cases kids <;> rfl

def ConsistentT (f : TForest) : Prop := Consistent (forget f)
def ConsistentUT (f : TForest) : Prop := ConsistentU (forget f)

theorem critErr_spec (f : TForest) (h : critErrT f = true) : specStateT f = .ERROR := by
  induction f with
  | nil => cases h
  | leaf c tr st su next ih =>
    simp only [critErrT, Bool.or_eq_true, Bool.and_eq_true, decide_eq_true_eq] at h
    simp only [specStateT]
    rcases h with ⟨hc, he⟩ | hn
    · rw [hc, he]; exact X_error_left _
    · rw [ih hn]; cases tr.crit
      · rfl
      · exact X_error_right st
  | agg st su kids next ihk ihn =>
    simp only [critErrT, Bool.or_eq_true] at h
    simp only [specStateT]
    rcases h with hk | hn
    · rw [ihk hk, X_error_left]
    · rw [ihn hn, X_error_right]

theorem stateOk_errKept (f : TForest) (h : stateOkT f = true) : errKeptT f = true := by
  induction f with
  | nil => rfl
  | leaf c tr st su next ih => exact ih h
  | agg st su kids next ihk ihn =>
    simp only [stateOkT, Bool.and_eq_true, decide_eq_true_eq] at h
    obtain ⟨⟨hst, hk⟩, hn⟩ := h
    simp only [errKeptT, Bool.and_eq_true, Bool.or_eq_true, Bool.not_eq_true', decide_eq_true_eq]
    refine ⟨⟨?_, ihk hk⟩, ihn hn⟩
    cases hce : critErrT kids
    · exact Or.inl rfl
    · exact Or.inr (hst.trans (critErr_spec kids hce))

theorem sameLeaves_spec (f g : TForest) (h : sameLeavesT f g = true) : specStateT f = specStateT g := by
  fun_induction sameLeavesT f g with
  | case1 => rfl
  | case2 c tr st su next c' tr' st' su' next' ih =>
    simp only [Bool.and_eq_true, decide_eq_true_eq] at h
    obtain ⟨⟨⟨⟨_, htr⟩, hst⟩, _⟩, hn⟩ := h
    simp only [specStateT, htr, hst, ih hn]
  | case3 st su kids next st' su' kids' next' ihk ihn =>
    simp only [Bool.and_eq_true] at h
    simp only [specStateT, ihk h.1, ihn h.2]
  | case4 => cases h

theorem sameLeaves_states (f g : TForest) (h : sameLeavesT f g = true)
    (hf : stateOkT f = true) (hg : stateOkT g = true) :
    (dumpT f).map (·.1) = (dumpT g).map (·.1) := by
  fun_induction sameLeavesT f g with
  | case1 => rfl
  | case2 c tr st su next c' tr' st' su' next' ih =>
    simp only [Bool.and_eq_true, decide_eq_true_eq] at h
    simp only [dumpT, List.map_cons, h.1.1.2, ih h.2 hf hg]
  | case3 st su kids next st' su' kids' next' ihk ihn =>
    simp only [Bool.and_eq_true] at h
    simp only [stateOkT, Bool.and_eq_true, decide_eq_true_eq] at hf hg
    simp only [dumpT, List.map_cons, List.map_append, ihk h.1 hf.1.2 hg.1.2, ihn h.2 hf.2 hg.2,
      hf.1.1, hg.1.1, sameLeaves_spec kids kids' h.1]
  | case4 => cases h

theorem updStatusT_top (f : TForest) (p : List Nat) (s : TStatus) :
    Repl opX (aggregateStatusT f) (aggregateStatusT (updStatusT f p s).1) (updStatusT f p s).2 := by
  have t := updStatus_aggregateStatus (forget f) p s
  rwa [updStatusT_forget, ← aggregateStatusT_forget, ← aggregateStatusT_forget] at t

theorem updStateT_aggregateStatusT (f : TForest) (p : List Nat) (s : TState) :
    aggregateStatusT (updStateT f p s).1 = aggregateStatusT f := by
  have := updState_aggregateStatus (forget f) p s
  rwa [updStateT_forget, ← aggregateStatusT_forget, ← aggregateStatusT_forget] at this

/-- The step of the argument about repeated reports (`C11_zero_or_fold_kept`): an aggregator that has folded nothing yet, or is the fold of its children,
    IS the fold of its children after merging what the updated child hands up — also when that child did not change. -/
theorem mergeStatusT_refolds (su v : TStatus) (kids : TForest) (rest : List Nat) (s : TStatus)
    (hv : (updStatusT kids rest s).2 = some v)
    (hpre : su = .UNDEFINED ∨ su = aggregateStatusT kids) :
    mergeStatusT su v (updStatusT kids rest s).1 = aggregateStatusT (updStatusT kids rest s).1 := by
  obtain ⟨a, o, h1, h2⟩ := (updStatusT_top kids rest s).2 v hv
  rw [h2, mergeStatusT_forget]
  rw [aggregateStatusT_forget] at h2
  rcases hpre with h | h
  · rw [h]; exact mergeStatus_zero_sound v o _ h2
  · rw [h, h1]; exact mergeStatus_sound a v o _ h2

theorem zeroOrFoldT_agg {st su kids next} :
    zeroOrFoldT (.agg st su kids next) = true ↔
      (su = .UNDEFINED ∨ su = aggregateStatusT kids) ∧ zeroOrFoldT kids = true ∧ zeroOrFoldT next = true := by
  simp only [zeroOrFoldT, Bool.and_eq_true, Bool.or_eq_true, decide_eq_true_eq, and_assoc]

theorem zeroOrFold_pathPre (f : TForest) (p : List Nat) (h : zeroOrFoldT f = true) : pathStatusPreT f p = true := by
  fun_induction pathStatusPreT f p with
  | case1 => rfl
  | case2 => rfl
  | case3 c tr st su next i rest ih => exact ih h
  | case4 => rfl
  | case5 st su kids next rest ih =>
    obtain ⟨h1, hk, _⟩ := zeroOrFoldT_agg.mp h
    simp only [Bool.and_eq_true, Bool.or_eq_true, decide_eq_true_eq]; exact ⟨h1, ih hk⟩
  | case6 st su kids next i rest ih => exact ih (zeroOrFoldT_agg.mp h).2.2

theorem updStatusT_refolds_path (f : TForest) (p : List Nat) (s : TStatus)
    (hpre : pathStatusPreT f p = true) (hv : (updStatusT f p s).2 ≠ none) :
    pathStatusOkT (updStatusT f p s).1 p = true := by
  fun_induction updStatusT f p s with
  | case1 => rfl
  | case2 => exact absurd rfl hv
  | case3 => rfl
  | case4 => exact absurd rfl hv
  | case5 c tr st su next i rest s r ih => exact ih hpre hv
  | case6 st su kids next rest s r hnone ih => exact absurd rfl hv
  | case7 st su kids next rest s r v hsome su' ih =>
    simp only [pathStatusPreT, Bool.and_eq_true, Bool.or_eq_true, decide_eq_true_eq] at hpre
    simp only [pathStatusOkT, Bool.and_eq_true, decide_eq_true_eq]
    exact ⟨mergeStatusT_refolds su v kids rest s hsome hpre.1, ih hpre.2 (hsome ▸ nofun)⟩
  | case8 st su kids next i rest s r ih => exact ih hpre hv

theorem updStatusT_zeroOrFold (f : TForest) (p : List Nat) (s : TStatus) (h : zeroOrFoldT f = true) :
    zeroOrFoldT (updStatusT f p s).1 = true := by
  fun_induction updStatusT f p s with
  | case1 => rfl
  | case2 | case3 | case4 => exact h
  | case5 c tr st su next i rest s r ih => exact ih h
  | case6 st su kids next rest s r hnone ih =>
    obtain ⟨h1, hk, hn⟩ := zeroOrFoldT_agg.mp h
    exact zeroOrFoldT_agg.mpr ⟨by rw [(updStatusT_top kids rest s).1 hnone]; exact h1, ih hk, hn⟩
  | case7 st su kids next rest s r v hsome su' ih =>
    obtain ⟨h1, hk, hn⟩ := zeroOrFoldT_agg.mp h
    exact zeroOrFoldT_agg.mpr ⟨Or.inr (mergeStatusT_refolds su v kids rest s hsome h1), ih hk, hn⟩
  | case8 st su kids next i rest s r ih =>
    obtain ⟨h1, hk, hn⟩ := zeroOrFoldT_agg.mp h
    exact zeroOrFoldT_agg.mpr ⟨h1, hk, ih hn⟩

theorem updStateT_zeroOrFold (f : TForest) (p : List Nat) (s : TState) (h : zeroOrFoldT f = true) :
    zeroOrFoldT (updStateT f p s).1 = true := by
  fun_induction updStateT f p s with
  | case1 => rfl
  | case2 | case3 | case4 => exact h
  | case5 c tr st su next i rest s r ih => exact ih h
  | case6 st su kids next rest s r _ ih | case7 st su kids next rest s r _ _ _ ih =>
    obtain ⟨h1, hk, hn⟩ := zeroOrFoldT_agg.mp h
    exact zeroOrFoldT_agg.mpr ⟨by rw [updStateT_aggregateStatusT kids rest s]; exact h1, ih hk, hn⟩
  | case8 st su kids next i rest s r ih =>
    obtain ⟨h1, hk, hn⟩ := zeroOrFoldT_agg.mp h
    exact zeroOrFoldT_agg.mpr ⟨h1, hk, ih hn⟩

theorem updStatusT_reaches (f : TForest) (p : List Nat) (s : TStatus) (h : reachesLeafT f p = true) :
    (updStatusT f p s).2 ≠ none ∧ (valAtT (updStatusT f p s).1 p).map (·.2) = some s := by
  fun_induction updStatusT f p s with
  | case1 => cases h
  | case2 f s _ => cases f <;> cases h
  | case3 => exact ⟨nofun, rfl⟩
  | case4 => cases h
  | case5 c tr st su next i rest s r ih => exact ih h
  | case6 st su kids next rest s r hnone ih => exact absurd hnone (ih h).1
  | case7 st su kids next rest s r v hsome su' ih =>
    refine ⟨nofun, ?_⟩
    cases rest with
    | nil => cases kids <;> cases h
    | cons a as => exact (ih h).2
  | case8 st su kids next i rest s r ih => exact ih h

theorem updStateT_reaches (f : TForest) (p : List Nat) (s : TState) (h : reachesLeafT f p = true) :
    (valAtT (updStateT f p s).1 p).map (·.1) = some s := by
  fun_induction updStateT f p s with
  | case1 => cases h
  | case2 f s _ => cases f <;> cases h
  | case3 => rfl
  | case4 => cases h
  | case5 c tr st su next i rest s r ih => exact ih h
  | case6 st su kids next rest s r _ ih | case7 st su kids next rest s r _ _ _ ih =>
    cases rest with
    | nil => cases kids <;> cases h
    | cons a as => exact ih h
  | case8 st su kids next i rest s r ih => exact ih h

theorem stepsOkT_trace_cons (f : TForest) (u : Update) (us : List Update) :
    stepsOkT (traceT f (u :: us)) (u :: us) =
      (stepOkT (applyUpdateT f u) u && stepsOkT (traceT (applyUpdateT f u) us) us) := by
  cases us <;> rfl

end RoleTree
