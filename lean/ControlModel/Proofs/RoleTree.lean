/-
  Proofs/RoleTree — lemmas behind Props/C11 (core only).

  Both folds are summarised by a value of the sibling list (`S`, `SU`); an update replaces one operand
  of that value (`upd_top`, `updStatus_top`), and the shortcuts of the two `merge`s are sound for such a
  replacement because the products are semilattices (`merge_sound`, `mergeStatus_sound`). Local
  consistency of the caches (`Consistent`, `ConsistentU`) is therefore kept by every update and implies
  the property's predicates (`consistent_spec`, `consistentU_spec`).
-/
import ControlModel.Model.RoleTree
import ControlModel.Spec.C11

namespace RoleTree
open Forest TState TStatus

/-! `TState.X` and `TStatus.X` are fixed finite tables; a law of theirs is checked by trying every entry,
  which these instances let `decide` do. -/

instance TState.decForall (p : TState → Prop) [DecidablePred p] : Decidable (∀ a, p a) :=
  decidable_of_iff
    (p .UNKNOWN ∧ p .STANDBY ∧ p .CONFIGURED ∧ p .RUNNING ∧ p .ERROR ∧ p .DONE ∧ p .MIXED ∧ p .INVARIANT)
    ⟨fun ⟨h0, h1, h2, h3, h4, h5, h6, h7⟩ a => by cases a <;> assumption,
     fun h => ⟨h _, h _, h _, h _, h _, h _, h _, h _⟩⟩

instance TStatus.decForall (p : TStatus → Prop) [DecidablePred p] : Decidable (∀ a, p a) :=
  decidable_of_iff (p .UNDEFINED ∧ p .INACTIVE ∧ p .PARTIAL ∧ p .ACTIVE ∧ p .UNDEPLOYABLE)
    ⟨fun ⟨h0, h1, h2, h3, h4⟩ a => by cases a <;> assumption, fun h => ⟨h _, h _, h _, h _, h _⟩⟩

theorem X_comm : ∀ a b : TState, a.X b = b.X a := by decide
theorem X_assoc : ∀ a b c : TState, (a.X b).X c = a.X (b.X c) := by decide +kernel
theorem X_idem : ∀ a : TState, a.X a = a := by decide
theorem X_invariant_left : ∀ a : TState, TState.INVARIANT.X a = a := by decide
theorem X_invariant_right : ∀ a : TState, a.X .INVARIANT = a := by decide
theorem X_error_left : ∀ a : TState, TState.ERROR.X a = .ERROR := by decide
theorem X_error_right : ∀ a : TState, a.X .ERROR = .ERROR := by decide
theorem X_mixed_left : ∀ a : TState, a ≠ .ERROR → TState.MIXED.X a = .MIXED := by decide
theorem X_ne_error : ∀ {a b : TState}, a ≠ .ERROR → b ≠ .ERROR → a.X b ≠ .ERROR := by decide

theorem U_comm : ∀ a b : TStatus, a.X b = b.X a := by decide
theorem U_assoc : ∀ a b c : TStatus, (a.X b).X c = a.X (b.X c) := by decide
theorem U_idem : ∀ a : TStatus, a.X a = a := by decide
theorem U_undefined_left : ∀ a : TStatus, TStatus.UNDEFINED.X a = .UNDEFINED := by decide
theorem U_undefined_right : ∀ a : TStatus, a.X .UNDEFINED = .UNDEFINED := by decide
theorem U_active : ∀ a b : TStatus, a.X b = .ACTIVE ↔ a = .ACTIVE ∧ b = .ACTIVE := by decide

theorem X_left_comm (a b c : TState) : a.X (b.X c) = b.X (a.X c) := by
  rw [← X_assoc, ← X_assoc, X_comm a b]

theorem U_left_comm (a b c : TStatus) : a.X (b.X c) = b.X (a.X c) := by
  rw [← U_assoc, ← U_assoc, U_comm a b]

/-- How an update that hands `r` upward changes the summary `x` of a sibling list into `y`: without a
    report not at all; a report `v` replaces one operand `a` of the fold. -/
def Repl {V O W : Type} (ins : V → O → W) (x y : W) (r : Option V) : Prop :=
  (r = none → y = x) ∧ ∀ v, r = some v → ∃ a o, x = ins a o ∧ y = ins v o

theorem Repl.none {V O W : Type} (ins : V → O → W) (x : W) : Repl ins x x none :=
  ⟨fun _ => rfl, fun _ => nofun⟩

theorem Repl.some {V O W : Type} (ins : V → O → W) (a v : V) (o : O) : Repl ins (ins a o) (ins v o) (some v) :=
  ⟨nofun, fun _ e => Option.some.inj e ▸ ⟨a, o, rfl, rfl⟩⟩

/-- The same holds in front of further siblings, whose contribution `g` commutes with the operand. -/
theorem Repl.map {V O W : Type} {ins : V → O → W} {x y : W} {r : Option V} (g : W → W) (g' : O → O)
    (hg : ∀ a o, g (ins a o) = ins a (g' o)) (h : Repl ins x y r) : Repl ins (g x) (g y) r := by
  refine ⟨fun e => by rw [h.1 e], fun v e => ?_⟩
  obtain ⟨a, o, h1, h2⟩ := h.2 v e
  exact ⟨a, g' o, by rw [h1, hg], by rw [h2, hg]⟩

/-- What a sibling list folds to for its owner (status: `SU`). -/
abbrev S (f : Forest) : TState := aggregateState f

theorem aggStateFrom_X (a b : TState) (f : Forest) : aggStateFrom (a.X b) f = a.X (aggStateFrom b f) := by
  induction f generalizing b with
  | nil => rfl
  | leaf c crit st su next ih =>
    simp only [aggStateFrom]
    cases crit
    · exact ih b
    · simp only [if_true, X_assoc, ih]
  | agg st su kids next _ ih => simp only [aggStateFrom, X_assoc, ih]

theorem S_nil : S .nil = .INVARIANT := rfl
theorem S_agg (st su kids next) : S (.agg st su kids next) = st.X (S next) :=
  (congrArg (aggStateFrom · next) (X_comm .INVARIANT st)).trans (aggStateFrom_X st .INVARIANT next)
theorem S_leaf (c crit st su next) :
    S (.leaf c crit st su next) = (if crit then st else .INVARIANT).X (S next) := by
  cases crit
  · exact (X_invariant_left _).symm
  · exact S_agg st su .nil next

/-- Soundness of the three shortcuts of `SafeState.merge`: when the cache is the fold `a ⊔ o` of the child's
    old value and its siblings, and the child now reports `v`, so that the children fold to `v ⊔ o`, every
    branch yields that new fold. -/
theorem merge_sound (a o v : TState) (kids : Forest) (hk : S kids = v.X o) :
    mergeState (a.X o) v kids = v.X o := by
  generalize hc : a.X o = c
  fun_cases mergeState c v kids with
  | case1 h1 =>
    -- the cache is `v` already: `v = a ⊔ o` has absorbed `o`
    rw [← h1, ← hc, X_assoc, X_idem]
  | case2 _ h2 =>
    -- MIXED absorbs everything but ERROR, and `o` is not ERROR since the cache is not
    rw [h2.1, X_mixed_left o fun ho => h2.2 (by rw [← hc, ho, X_error_right])]
  | case3 _ _ h3 => rw [h3, X_error_left]
  | case4 => exact hk

theorem upd_top (f : Forest) (p : List Nat) (s : TState) :
    Repl TState.X (S f) (S (updState f p s).1) (updState f p s).2 := by
  fun_induction updState f p s with
  | case1 | case2 | case4 => exact Repl.none ..
  | case3 c crit st su next s =>
    simp only [S_leaf]
    cases crit
    · exact Repl.none ..
    · exact Repl.some ..
  | case5 c crit st su next i rest s r ih =>
    simp only [S_leaf]; exact ih.map (TState.X _) (TState.X _) (X_left_comm _)
  | case6 st su kids next rest s r hnone => simp only [S_agg]; exact Repl.none ..
  | case7 st su kids next rest s r v hsome st' => simp only [S_agg]; exact Repl.some ..
  | case8 st su kids next i rest s r ih =>
    simp only [S_agg]; exact ih.map st.X st.X (X_left_comm st)

def Consistent : Forest → Prop
  | .nil => True
  | .leaf _ _ _ _ next => Consistent next
  | .agg st _ kids next => st = S kids ∧ Consistent kids ∧ Consistent next

theorem upd_consistent (f : Forest) (p : List Nat) (s : TState) (h : Consistent f) :
    Consistent (updState f p s).1 := by
  fun_induction updState f p s with
  | case1 => trivial
  | case2 | case3 | case4 => exact h
  | case5 c crit st su next i rest s r ih => exact ih h
  | case6 st su kids next rest s r hnone ih =>
    obtain ⟨h1, h2, h3⟩ := h
    refine ⟨?_, ih h2, h3⟩
    rw [(upd_top kids rest s).1 hnone]; exact h1
  | case7 st su kids next rest s r v hsome st' ih =>
    obtain ⟨h1, h2, h3⟩ := h
    refine ⟨?_, ih h2, h3⟩
    obtain ⟨a, o, e1, e2⟩ := (upd_top kids rest s).2 v hsome
    show mergeState st v r.1 = S r.1
    rw [e2, h1, e1]; exact merge_sound a o v r.1 e2
  | case8 st su kids next i rest s r ih =>
    obtain ⟨h1, h2, h3⟩ := h
    exact ⟨h1, h2, ih h3⟩

theorem specState_leaf (c crit st su next) :
    specState (.leaf c crit st su next) = (if crit then st else .INVARIANT).X (specState next) := by
  cases crit
  · exact (X_invariant_left _).symm
  · rfl

theorem specState_agg (st su kids next) :
    specState (.agg st su kids next) = (specState kids).X (specState next) := rfl

theorem consistent_spec (f : Forest) (h : Consistent f) : S f = specState f ∧ stateOk f = true := by
  induction f with
  | nil => exact ⟨rfl, rfl⟩
  | leaf c crit st su next ih =>
    obtain ⟨e, ok⟩ := ih h
    exact ⟨by rw [S_leaf, specState_leaf, e], ok⟩
  | agg st su kids next ihk ihn =>
    obtain ⟨h1, h2, h3⟩ := h
    obtain ⟨ek, okk⟩ := ihk h2
    obtain ⟨en, okn⟩ := ihn h3
    have hst : st = specState kids := h1.trans ek
    refine ⟨by rw [S_agg, specState_agg, hst, en], ?_⟩
    simp only [stateOk, hst, okk, okn, decide_true, Bool.and_self]

/-- Every role still holds the values the YAML loader gives it. -/
def allInit : Forest → Bool
  | .nil => true
  | .leaf _ _ st su next => decide (st = .STANDBY) && decide (su = .INACTIVE) && allInit next
  | .agg st su kids next => decide (st = .STANDBY) && decide (su = .INACTIVE) && allInit kids && allInit next

theorem allInit_leaf {c crit st su next} (h : allInit (.leaf c crit st su next) = true) :
    st = .STANDBY ∧ su = .INACTIVE ∧ allInit next = true := by
  simpa only [allInit, Bool.and_eq_true, decide_eq_true_eq, and_assoc] using h

theorem allInit_agg {st su kids next} (h : allInit (.agg st su kids next) = true) :
    st = .STANDBY ∧ su = .INACTIVE ∧ allInit kids = true ∧ allInit next = true := by
  simpa only [allInit, Bool.and_eq_true, decide_eq_true_eq, and_assoc] using h

theorem noBarren_agg {st su kids next} (h : noBarren (.agg st su kids next) = true) :
    hasCritical kids = true ∧ noBarren kids = true ∧ noBarren next = true := by
  simpa only [noBarren, Bool.and_eq_true, and_assoc] using h

/-- With only initial values below it, a sibling list folds to STANDBY or to nothing. -/
theorem init_standby (f : Forest) (h : allInit f = true) : TState.STANDBY.X (S f) = .STANDBY := by
  induction f with
  | nil => rfl
  | leaf c crit st su next ih =>
    obtain ⟨hst, _, hn⟩ := allInit_leaf h
    rw [S_leaf, hst, ← X_assoc]; cases crit <;> exact ih hn
  | agg st su kids next _ ihn =>
    obtain ⟨hst, _, _, hn⟩ := allInit_agg h
    rw [S_agg, hst, ← X_assoc]; exact ihn hn

theorem init_fold (f : Forest) (h : allInit f = true) (hc : hasCritical f = true) : S f = .STANDBY := by
  induction f with
  | nil => cases hc
  | leaf c crit st su next ih =>
    obtain ⟨hst, _, hn⟩ := allInit_leaf h
    rw [S_leaf, hst]
    cases crit
    · exact (X_invariant_left _).trans (ih hn hc)
    · exact init_standby next hn
  | agg st su kids next _ _ =>
    obtain ⟨hst, _, _, hn⟩ := allInit_agg h
    rw [S_agg, hst]; exact init_standby next hn

theorem init_consistent (f : Forest) (h : allInit f = true) (nb : noBarren f = true) : Consistent f := by
  induction f with
  | nil => trivial
  | leaf c crit st su next ih => exact ih (allInit_leaf h).2.2 nb
  | agg st su kids next ihk ihn =>
    obtain ⟨hst, _, hk, hn⟩ := allInit_agg h
    obtain ⟨hc, nbk, nbn⟩ := noBarren_agg nb
    exact ⟨hst.trans (init_fold kids hk hc).symm, ihk hk nbk, ihn hn nbn⟩

/-! The status fold has no neutral element: the summary `SU` of a sibling list is `none` for the empty list. -/

def opX (a : TStatus) : Option TStatus → TStatus
  | none => a
  | some o => a.X o

theorem opX_undefined (o : Option TStatus) : opX .UNDEFINED o = .UNDEFINED := by
  cases o with
  | none => rfl
  | some o => exact U_undefined_left o

theorem opX_swap (st a : TStatus) (o : Option TStatus) :
    opX st (some (opX a o)) = opX a (some (opX st o)) := by
  cases o with
  | none => exact U_comm st a
  | some o => exact U_left_comm st a o

def SU : Forest → Option TStatus
  | .nil => none
  | f => some (aggregateStatus f)

theorem aggregateStatus_eq (f : Forest) : aggregateStatus f = (SU f).getD .UNDEFINED := by
  cases f <;> rfl

theorem aggregateStatus_of_SU_eq (f g : Forest) (h : SU f = SU g) : aggregateStatus f = aggregateStatus g := by
  rw [aggregateStatus_eq, aggregateStatus_eq, h]

theorem aggStatusFrom_undefined (f : Forest) : aggStatusFrom .UNDEFINED f = .UNDEFINED := by
  cases f <;> rfl

/-- The early exit of the loop changes nothing, UNDEFINED being absorbing. -/
theorem aggStatusFrom_leaf (acc : TStatus) (c crit st su next) :
    aggStatusFrom acc (.leaf c crit st su next) = aggStatusFrom (acc.X su) next := by
  by_cases h : acc = .UNDEFINED
  · rw [h, U_undefined_left, aggStatusFrom_undefined, aggStatusFrom_undefined]
  · simp only [aggStatusFrom, if_neg h]

theorem aggStatusFrom_agg (acc : TStatus) (st su kids next) :
    aggStatusFrom acc (.agg st su kids next) = aggStatusFrom (acc.X su) next := by
  by_cases h : acc = .UNDEFINED
  · rw [h, U_undefined_left, aggStatusFrom_undefined, aggStatusFrom_undefined]
  · simp only [aggStatusFrom, if_neg h]

theorem aggStatusFrom_X (a b : TStatus) (f : Forest) :
    aggStatusFrom (a.X b) f = a.X (aggStatusFrom b f) := by
  induction f generalizing b with
  | nil => rfl
  | leaf c crit st su next ih => rw [aggStatusFrom_leaf, aggStatusFrom_leaf, U_assoc, ih]
  | agg st su kids next _ ih => rw [aggStatusFrom_agg, aggStatusFrom_agg, U_assoc, ih]

theorem aggStatusFrom_opX (a : TStatus) (f : Forest) : aggStatusFrom a f = opX a (SU f) := by
  cases f with
  | nil => rfl
  | leaf c crit st su next => rw [aggStatusFrom_leaf]; exact aggStatusFrom_X a su next
  | agg st su kids next => rw [aggStatusFrom_agg]; exact aggStatusFrom_X a su next

theorem SU_leaf (c crit st su next) : SU (.leaf c crit st su next) = some (opX su (SU next)) :=
  congrArg some (aggStatusFrom_opX su next)
theorem SU_agg (st su kids next) : SU (.agg st su kids next) = some (opX su (SU next)) :=
  congrArg some (aggStatusFrom_opX su next)

/-- The shortcuts of `SafeStatus.merge` are sound in the same way as those of `SafeState.merge`. -/
theorem mergeStatus_sound (a v : TStatus) (o : Option TStatus) (kids : Forest)
    (hk : aggregateStatus kids = opX v o) : mergeStatus (opX a o) v kids = opX v o := by
  generalize hc : opX a o = c
  fun_cases mergeStatus c v kids with
  | case1 h1 =>
    rw [← h1, ← hc]
    cases o with
    | none => rfl
    | some o => exact ((U_assoc a o o).trans (congrArg a.X (U_idem o))).symm
  | case2 _ h2 => rw [h2, opX_undefined]
  | case3 => exact hk

/-- From the zero value the merge yields the fold as well: UNDEFINED is the fold `a ⊔ o` for `a` = UNDEFINED. -/
theorem mergeStatus_zero_sound (v : TStatus) (o : Option TStatus) (kids : Forest)
    (hk : aggregateStatus kids = opX v o) : mergeStatus .UNDEFINED v kids = opX v o :=
  opX_undefined o ▸ mergeStatus_sound .UNDEFINED v o kids hk

theorem updStatus_top (f : Forest) (p : List Nat) (s : TStatus) :
    Repl (fun a o => some (opX a o)) (SU f) (SU (updStatus f p s).1) (updStatus f p s).2 := by
  fun_induction updStatus f p s with
  | case1 | case2 | case4 => exact Repl.none ..
  | case3 c crit st su next s => simp only [SU_leaf]; exact Repl.some ..
  | case5 c crit st su next i rest s r ih =>
    simp only [SU_leaf]; exact ih.map (some <| opX su ·) (some <| opX su ·) fun a o => congrArg some (opX_swap su a o)
  | case6 st su kids next rest s r hnone => simp only [SU_agg]; exact Repl.none _ (some (opX su (SU next)))
  | case7 st su kids next rest s r v hsome su' => simp only [SU_agg]; exact Repl.some ..
  | case8 st su kids next i rest s r ih =>
    simp only [SU_agg]; exact ih.map (some <| opX su ·) (some <| opX su ·) fun a o => congrArg some (opX_swap su a o)

/-- The same in terms of the value the code computes, which does not tell an empty list from an UNDEFINED one. -/
theorem updStatus_aggregateStatus (f : Forest) (p : List Nat) (s : TStatus) :
    Repl opX (aggregateStatus f) (aggregateStatus (updStatus f p s).1) (updStatus f p s).2 := by
  have t := updStatus_top f p s
  refine ⟨fun h => aggregateStatus_of_SU_eq _ _ (t.1 h), fun v hv => ?_⟩
  obtain ⟨a, o, h1, h2⟩ := t.2 v hv
  rw [aggregateStatus_eq, aggregateStatus_eq, h1, h2]
  exact ⟨a, o, rfl, rfl⟩

def ConsistentU : Forest → Prop
  | .nil => True
  | .leaf _ _ _ _ next => ConsistentU next
  | .agg _ su kids next => su = aggregateStatus kids ∧ ConsistentU kids ∧ ConsistentU next

theorem updStatus_consistent (f : Forest) (p : List Nat) (s : TStatus) (h : ConsistentU f) :
    ConsistentU (updStatus f p s).1 := by
  fun_induction updStatus f p s with
  | case1 => trivial
  | case2 | case3 | case4 => exact h
  | case5 c crit st su next i rest s r ih => exact ih h
  | case6 st su kids next rest s r hnone ih =>
    obtain ⟨h1, h2, h3⟩ := h
    refine ⟨?_, ih h2, h3⟩
    rw [(updStatus_aggregateStatus kids rest s).1 hnone]; exact h1
  | case7 st su kids next rest s r v hsome su' ih =>
    obtain ⟨h1, h2, h3⟩ := h
    refine ⟨?_, ih h2, h3⟩
    obtain ⟨a, o, e1, e2⟩ := (updStatus_aggregateStatus kids rest s).2 v hsome
    show mergeStatus su v r.1 = aggregateStatus r.1
    rw [e2, h1, e1]; exact mergeStatus_sound a v o r.1 e2
  | case8 st su kids next i rest s r ih =>
    obtain ⟨h1, h2, h3⟩ := h
    exact ⟨h1, h2, ih h3⟩

/-- No aggregator without children (the loader prunes them). -/
def noEmptyAgg : Forest → Bool
  | .nil => true
  | .leaf _ _ _ _ next => noEmptyAgg next
  | .agg _ _ kids next => (match kids with | .nil => false | _ => true) && noEmptyAgg kids && noEmptyAgg next

theorem specStatus?_leaf (c crit st su next) :
    specStatus? (.leaf c crit st su next) = some (opX su (specStatus? next)) := by
  simp only [specStatus?]; cases specStatus? next <;> rfl

theorem specStatus?_agg (st su kids next) :
    specStatus? (.agg st su kids next) = some (opX (specStatus kids) (specStatus? next)) := by
  simp only [specStatus?, specStatus]; cases specStatus? next <;> rfl

theorem swapHead_spec (f : Forest) :
    specState (swapHead f) = specState f ∧ specStatus? (swapHead f) = specStatus? f := by
  fun_cases swapHead f with
  | case1 | case2 | case3 | case4 =>
    simp only [specState_leaf, specState_agg, specStatus?_leaf, specStatus?_agg]
    exact ⟨X_left_comm .., congrArg some (opX_swap ..)⟩
  | case5 => exact ⟨rfl, rfl⟩

theorem consistentU_spec (f : Forest) (h : ConsistentU f) : SU f = specStatus? f ∧ statusOk f = true := by
  induction f with
  | nil => exact ⟨rfl, rfl⟩
  | leaf c crit st su next ih =>
    obtain ⟨e, ok⟩ := ih h
    exact ⟨by rw [SU_leaf, specStatus?_leaf, e], ok⟩
  | agg st su kids next ihk ihn =>
    obtain ⟨h1, h2, h3⟩ := h
    obtain ⟨ek, okk⟩ := ihk h2
    obtain ⟨en, okn⟩ := ihn h3
    have hk : su = specStatus kids := by rw [h1, aggregateStatus_eq, ek]; rfl
    refine ⟨by rw [SU_agg, specStatus?_agg, hk, en], ?_⟩
    simp only [statusOk, hk, okk, okn, decide_true, Bool.and_self]

theorem init_inactive (f : Forest) (h : allInit f = true) : aggStatusFrom .INACTIVE f = .INACTIVE := by
  induction f with
  | nil => rfl
  | leaf c crit st su next ih =>
    obtain ⟨_, hsu, hn⟩ := allInit_leaf h
    rw [aggStatusFrom_leaf, hsu]; exact ih hn
  | agg st su kids next _ ihn =>
    obtain ⟨_, hsu, _, hn⟩ := allInit_agg h
    rw [aggStatusFrom_agg, hsu]; exact ihn hn

theorem init_consistentU (f : Forest) (h : allInit f = true) (ne : noEmptyAgg f = true) : ConsistentU f := by
  induction f with
  | nil => trivial
  | leaf c crit st su next ih => exact ih (allInit_leaf h).2.2 ne
  | agg st su kids next ihk ihn =>
    obtain ⟨_, hsu, hk, hn⟩ := allInit_agg h
    simp only [noEmptyAgg, Bool.and_eq_true] at ne
    obtain ⟨⟨hne, nek⟩, nen⟩ := ne
    refine ⟨?_, ihk hk nek, ihn hn nen⟩
    cases kids with
    | nil => cases hne
    | leaf c crit st' su' n =>
      obtain ⟨_, rfl, h2⟩ := allInit_leaf hk
      exact hsu.trans (init_inactive n h2).symm
    | agg st' su' k n =>
      obtain ⟨_, rfl, _, h2⟩ := allInit_agg hk
      exact hsu.trans (init_inactive n h2).symm

theorem updStatus_S (f : Forest) (p : List Nat) (s : TStatus) : S (updStatus f p s).1 = S f := by
  fun_induction updStatus f p s <;> simp +zetaDelta only [S_leaf, S_agg, *]

theorem updState_aggregateStatus (f : Forest) (p : List Nat) (s : TState) :
    aggregateStatus (updState f p s).1 = aggregateStatus f := by
  apply aggregateStatus_of_SU_eq
  fun_induction updState f p s <;> simp +zetaDelta only [SU_leaf, SU_agg, *]

theorem updStatus_keeps_state_consistency (f : Forest) (p : List Nat) (s : TStatus) (h : Consistent f) :
    Consistent (updStatus f p s).1 := by
  fun_induction updStatus f p s with
  | case1 => trivial
  | case2 | case3 | case4 => exact h
  | case5 c crit st su next i rest s r ih => exact ih h
  | case6 st su kids next rest s r _ ih | case7 st su kids next rest s r _ _ _ ih =>
    obtain ⟨h1, h2, h3⟩ := h
    exact ⟨h1.trans (updStatus_S kids rest s).symm, ih h2, h3⟩
  | case8 st su kids next i rest s r ih =>
    obtain ⟨h1, h2, h3⟩ := h
    exact ⟨h1, h2, ih h3⟩

theorem updState_keeps_status_consistency (f : Forest) (p : List Nat) (s : TState) (h : ConsistentU f) :
    ConsistentU (updState f p s).1 := by
  fun_induction updState f p s with
  | case1 => trivial
  | case2 | case3 | case4 => exact h
  | case5 c crit st su next i rest s r ih => exact ih h
  | case6 st su kids next rest s r _ ih | case7 st su kids next rest s r _ _ _ ih =>
    obtain ⟨h1, h2, h3⟩ := h
    exact ⟨h1.trans (updState_aggregateStatus kids rest s).symm, ih h2, h3⟩
  | case8 st su kids next i rest s r ih =>
    obtain ⟨h1, h2, h3⟩ := h
    exact ⟨h1, h2, ih h3⟩

theorem run_consistent (f : Forest) (us : List Update) (h : Consistent f) : Consistent (run f us) :=
  List.foldlRecOn us applyUpdate h fun f h u _ => by
    cases u with
    | state p s => exact upd_consistent f _ s h
    | status p s => exact updStatus_keeps_state_consistency f _ s h

theorem run_consistentU (f : Forest) (us : List Update) (h : ConsistentU f) : ConsistentU (run f us) :=
  List.foldlRecOn us applyUpdate h fun f h u _ => by
    cases u with
    | state p s => exact updState_keeps_status_consistency f _ s h
    | status p s => exact updStatus_consistent f _ s h

end RoleTree
