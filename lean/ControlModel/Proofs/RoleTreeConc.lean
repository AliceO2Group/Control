/-
  Proofs/RoleTreeConc — invariants of the concurrent propagation model (Model/RoleTreeConc.lean),
  behind the `C11_conc_*` theorems of Props/C11.lean. Core only.

  * `Act`, `Move`  every step of the model leaves the configuration alone or is one of eleven acts of the
                stepping thread (proved once: `step_move`);
  * `NL`        never lost: an ERROR child the parent looks at is covered by the parent's state, by a
                thread still on its way with it, or by the fold that is in progress;
  * `Clean`     never invented: no ERROR anywhere it could travel from (a step keeps it or puts a critical leaf into
                ERROR; needs `PcOk`);
  * `Mutex`     at most one thread folds under one role;
  * `LeafSrc`   a leaf holds its initial state or the value of an update addressed to it.

  An act changes the position of one thread only. What an invariant asks of the threads is therefore
  written as a predicate on one position (`carries`, `covers`, `pcOk`, `pcClean`), and a step keeps
  it for all threads as soon as the new position of the moving thread has it (`upd_forall`).
-/
import ControlModel.Model.RoleTreeConc
import ControlModel.Spec.C11Conc
import ControlModel.Proofs.RoleTree

namespace RoleTree.Conc
open RoleTree TState

theorem upd_same {α : Type} (f : Nat → α) (n : Nat) (v : α) : upd f n v n = v := if_pos rfl
theorem upd_other {α : Type} (f : Nat → α) {n m : Nat} (v : α) (h : m ≠ n) : upd f n v m = f m := if_neg h

theorem upd_forall {α : Type} {Q : α → Prop} {f : Nat → α} {n i : Nat} {v : α}
    (h : ∀ j, j < n → Q (f j)) (hv : Q v) : ∀ j, j < n → Q (upd f i v j) := by
  intro j hj
  unfold upd
  split
  · exact hv
  · exact h j hj

theorem locked_false {T : Topo} {c : Cfg} {n : Nat} (h : locked T c n = false) :
    ∀ j, j < T.nT → ∀ todo acc, c.pc j ≠ .fold n todo acc := by
  intro j hj todo acc hpc
  simp only [locked, List.any_eq_false, List.mem_range] at h
  have := h j hj
  rw [hpc] at this
  exact this (beq_self_eq_true n)

theorem locked_true {T : Topo} {c : Cfg} {n : Nat} (h : locked T c n = true) :
    ∃ j, j < T.nT ∧ ∃ todo acc, c.pc j = .fold n todo acc := by
  simp only [locked, List.any_eq_true, List.mem_range] at h
  obtain ⟨j, hj, hm⟩ := h
  refine ⟨j, hj, ?_⟩
  split at hm
  · next p todo acc hpc => exact ⟨todo, acc, hpc.trans (by rw [eq_of_beq hm])⟩
  · cases hm

theorem parent_agg {T : Topo} {n p : Nat} (h : T.parent n = some p) : T.agg p = true := by
  unfold Topo.parent at h
  split at h
  · split at h
    · split at h
      · cases h; assumption
      · cases h
    · cases h
  · cases h

theorem parent_lt_len {T : Topo} {n p : Nat} (h : T.parent n = some p) : n < T.nodes.length := by
  unfold Topo.parent at h
  split at h
  · next hn => exact (List.getElem?_eq_some_iff.mp hn).1
  · cases h

theorem mem_kids {T : Topo} {p k : Nat} : k ∈ T.kids p ↔ T.parent k = some p ∧ T.contrib k = true := by
  simp only [Topo.kids, List.mem_filter, List.mem_range, Bool.and_eq_true, beq_iff_eq]
  exact ⟨And.right, fun h => ⟨parent_lt_len h.1, h⟩⟩

theorem agg_lt_len {T : Topo} {n : Nat} (h : T.agg n = true) : n < T.nodes.length := by
  unfold Topo.agg at h
  split at h
  · next hn => exact (List.getElem?_eq_some_iff.mp hn).1
  · cases h

theorem crit_lt_len {T : Topo} {n : Nat} (h : T.crit n = true) : n < T.nodes.length := by
  unfold Topo.crit at h
  split at h
  · next hn => exact (List.getElem?_eq_some_iff.mp hn).1
  · cases h

theorem crit_not_agg {T : Topo} {n : Nat} (h : T.crit n = true) : T.agg n = false := by
  unfold Topo.crit at h
  unfold Topo.agg
  split at h
  · simp only [Bool.and_eq_true, Bool.not_eq_true'] at h; exact h.1
  · cases h

theorem contrib_of_agg {T : Topo} {n : Nat} (h : T.agg n = true) : T.contrib n = true := by
  simp only [Topo.contrib, h, Bool.true_or]

theorem contrib_of_crit {T : Topo} {n : Nat} (h : T.crit n = true) : T.contrib n = true := by
  simp only [Topo.contrib, h, Bool.or_true]

theorem contrib_cases {T : Topo} {n : Nat} (h : T.contrib n = true) : T.agg n = true ∨ T.crit n = true := by
  simpa only [Topo.contrib, Bool.or_eq_true] using h

theorem contrib_lt_len {T : Topo} {n : Nat} (h : T.contrib n = true) : n < T.nodes.length :=
  (contrib_cases h).elim agg_lt_len crit_lt_len

theorem leaf_not_kid {T : Topo} {p leaf : Nat} (hagg : T.agg leaf = false)
    (hstop : T.crit leaf = false ∨ T.parent leaf = none) : leaf ∉ T.kids p := by
  intro hk
  obtain ⟨hpar, hc⟩ := mem_kids.mp hk
  rcases hstop with hcr | hn
  · rcases contrib_cases hc with ha | hc'
    · rw [hagg] at ha; cases ha
    · rw [hcr] at hc'; cases hc'
  · rw [hn] at hpar; cases hpar

theorem after_of_parent {T : Topo} {p q : Nat} (h : T.parent p = some q) : after T p = .read p := by
  simp only [after, h]

/-- What a thread at position `pc` can do: the states and its position afterwards. -/
inductive Act (T : Topo) (c : Cfg) (i : Nat) : PC → (Nat → TState) → PC → Prop
  | startSkip : Act T c i .start c.st .done
  | leafGo (leaf : Nat) (s : TState) (p : Nat) (hthr : T.thr[i]? = some (leaf, s))
      (hagg : T.agg leaf = false) (hcrit : T.crit leaf = true) (hpar : T.parent leaf = some p) :
      Act T c i .start (upd c.st leaf s) (.enter leaf s)
  | leafStop (leaf : Nat) (s : TState) (hthr : T.thr[i]? = some (leaf, s)) (hagg : T.agg leaf = false)
      (hstop : T.crit leaf = false ∨ T.parent leaf = none) : Act T c i .start (upd c.st leaf s) .done
  | read (n : Nat) (hl : locked T c n = false) : Act T c i (.read n) c.st (.enter n (c.st n))
  | enterNone (n : Nat) (v : TState) (hpar : T.parent n = none) : Act T c i (.enter n v) c.st .done
  | enterSame (n : Nat) (v : TState) (p : Nat) (hpar : T.parent n = some p) (hl : locked T c p = false)
      (hsame : c.st p = v) : Act T c i (.enter n v) c.st (after T p)
  | enterMixed (n p : Nat) (hpar : T.parent n = some p) (hl : locked T c p = false) (hne : c.st p ≠ .ERROR) :
      Act T c i (.enter n .MIXED) (upd c.st p .MIXED) (after T p)
  | enterError (n p : Nat) (hpar : T.parent n = some p) (hl : locked T c p = false) :
      Act T c i (.enter n .ERROR) (upd c.st p .ERROR) (after T p)
  | enterFold (n : Nat) (v : TState) (p : Nat) (hpar : T.parent n = some p) (hl : locked T c p = false)
      (hv : v ≠ .ERROR) : Act T c i (.enter n v) c.st (.fold p (T.kids p) .INVARIANT)
  | foldRead (p k : Nat) (todo : List Nat) (acc : TState) (hl : locked T c k = false) :
      Act T c i (.fold p (k :: todo) acc) c.st (.fold p todo (acc.X (c.st k)))
  | foldStore (p : Nat) (acc : TState) : Act T c i (.fold p [] acc) (upd c.st p acc) (after T p)

inductive Move (T : Topo) (c : Cfg) (i : Nat) : Cfg → Prop
  | stay : Move T c i c
  | act {pc : PC} {st' : Nat → TState} {pc' : PC} (hi : i < T.nT) (hpc : c.pc i = pc)
      (a : Act T c i pc st' pc') : Move T c i ⟨st', upd c.pc i pc'⟩

theorem thr_lt_nT {T : Topo} {i : Nat} {ls : Nat × TState} (h : T.thr[i]? = some ls) : i < T.nT :=
  (List.getElem?_eq_some_iff.mp h).1

theorem step_move (T : Topo) (c : Cfg) (i : Nat) : Move T c i (step T c i) := by
  fun_cases step T c i with
  | case1 | case2 | case7 | case10 | case16 => exact .stay
  | case3 leaf s hthr hpc hagg => exact .act (thr_lt_nT hthr) hpc .startSkip
  | case4 leaf s hthr hpc hagg hcrit p hpar =>
    exact .act (thr_lt_nT hthr) hpc (.leafGo leaf s p hthr (eq_false_of_ne_true hagg) hcrit hpar)
  | case5 leaf s hthr hpc hagg hcrit hpar =>
    exact .act (thr_lt_nT hthr) hpc (.leafStop leaf s hthr (eq_false_of_ne_true hagg) (Or.inr hpar))
  | case6 leaf s hthr hpc hagg hcrit =>
    exact .act (thr_lt_nT hthr) hpc
      (.leafStop leaf s hthr (eq_false_of_ne_true hagg) (Or.inl (eq_false_of_ne_true hcrit)))
  | case8 leaf s hthr n hpc hl => exact .act (thr_lt_nT hthr) hpc (.read n (eq_false_of_ne_true hl))
  | case9 leaf s hthr n v hpc hpar => exact .act (thr_lt_nT hthr) hpc (.enterNone n v hpar)
  | case11 leaf s hthr n p hpar hl hpc =>
    exact .act (thr_lt_nT hthr) hpc (.enterSame n _ p hpar (eq_false_of_ne_true hl) rfl)
  | case12 leaf s hthr n v hpc p hpar hl hsame hm =>
    exact .act (thr_lt_nT hthr) (hm.1 ▸ hpc) (.enterMixed n p hpar (eq_false_of_ne_true hl) hm.2)
  | case13 leaf s hthr n p hpar hl hpc =>
    exact .act (thr_lt_nT hthr) hpc (.enterError n p hpar (eq_false_of_ne_true hl))
  | case14 leaf s hthr n v hpc p hpar hl hsame hm he =>
    exact .act (thr_lt_nT hthr) hpc (.enterFold n v p hpar (eq_false_of_ne_true hl) he)
  | case15 leaf s hthr p acc hpc => exact .act (thr_lt_nT hthr) hpc (.foldStore p acc)
  | case17 leaf s hthr p k todo acc hpc hl =>
    exact .act (thr_lt_nT hthr) hpc (.foldRead p k todo acc (eq_false_of_ne_true hl))

theorem exec_inv (T : Topo) (P : Cfg → Prop) (hstep : ∀ c i c', P c → Move T c i c' → P c') :
    ∀ (sched : List Nat) (c : Cfg), P c → P (exec T c sched) := by
  intro sched
  induction sched with
  | nil => intro c h; exact h
  | cons i is ih => intro c h; exact ih _ (hstep c i _ h (step_move T c i))

theorem exec_append (T : Topo) (c : Cfg) (a b : List Nat) :
    exec T c (a ++ b) = exec T (exec T c a) b := by
  induction a generalizing c with
  | nil => rfl
  | cons i is ih => exact ih _

theorem allStart_iff (T : Topo) (c : Cfg) : allStart T c = true ↔ ∀ j, j < T.nT → c.pc j = .start := by
  simp only [allStart, List.all_eq_true, List.mem_range, beq_iff_eq]

theorem quiescent_iff (T : Topo) (c : Cfg) : quiescent T c = true ↔ ∀ j, j < T.nT → c.pc j = .done := by
  simp only [quiescent, List.all_eq_true, List.mem_range, beq_iff_eq]

theorem allStart_forall {T : Topo} {c : Cfg} {Q : PC → Prop} (hs : allStart T c = true) (h : Q .start) :
    ∀ j, j < T.nT → Q (c.pc j) :=
  fun j hj => ((allStart_iff T c).mp hs j hj).symm ▸ h

/-- the thread is on its way to the parent of `k` and will deliver ERROR if `k` still is in ERROR -/
def carries (k : Nat) : PC → Prop
  | .read n => n = k
  | .enter n v => n = k ∧ v = .ERROR
  | _ => False

/-- a fold under `p`, if that is where the thread is, will end in ERROR on account of child `k` -/
def covers (p k : Nat) : PC → Prop
  | .fold q todo acc => q = p → k ∈ todo ∨ acc = .ERROR
  | _ => True

def NL (T : Topo) (c : Cfg) : Prop :=
  ∀ p k, k ∈ T.kids p → c.st k = .ERROR →
    (∃ j, j < T.nT ∧ carries k (c.pc j)) ∨ (c.st p = .ERROR ∧ ∀ j, j < T.nT → covers p k (c.pc j))

theorem covers_after (T : Topo) (p k q : Nat) : covers p k (after T q) := by
  unfold after; split <;> trivial

theorem covers_of_unlocked {T : Topo} {c : Cfg} {p : Nat} (k : Nat) (hl : locked T c p = false) :
    ∀ j, j < T.nT → covers p k (c.pc j) := by
  intro j hj
  cases hpc : c.pc j with
  | fold q todo acc => exact fun hq => absurd (hq ▸ hpc) (locked_false hl j hj todo acc)
  | _ => trivial

/-- What an act of thread `i` has to show for an edge `k ∈ kids p` with `k` in ERROR afterwards: the
    thread now carries `k`; or `k` was in ERROR before, and whichever way the edge was covered it
    still is — if this thread was the carrier, it has put `p` into ERROR while nobody folded there. -/
theorem NL_frame {T : Topo} {c : Cfg} {i : Nat} {pc : PC} {st' : Nat → TState} {pc' : PC} (hi : i < T.nT)
    (hpc : c.pc i = pc) (h : NL T c)
    (H : ∀ p k, k ∈ T.kids p → st' k = .ERROR →
      carries k pc' ∨
      (c.st k = .ERROR ∧
        (carries k pc → st' p = .ERROR ∧ locked T c p = false ∧ covers p k pc') ∧
        (c.st p = .ERROR → covers p k pc → st' p = .ERROR ∧ covers p k pc'))) :
    NL T ⟨st', upd c.pc i pc'⟩ := by
  intro p k hk hst
  rcases H p k hk hst with hnew | ⟨hold, hcar, hcov⟩
  · exact Or.inl ⟨i, hi, by show carries k (upd c.pc i pc' i); rw [upd_same]; exact hnew⟩
  rcases h p k hk hold with ⟨j, hj, hc⟩ | ⟨hp, hf⟩
  · by_cases hji : j = i
    · obtain ⟨h1, hl, h3⟩ := hcar (hpc ▸ hji ▸ hc)
      exact Or.inr ⟨h1, upd_forall (covers_of_unlocked k hl) h3⟩
    · exact Or.inl ⟨j, hj, by show carries k (upd c.pc i pc' j); rw [upd_other _ _ hji]; exact hc⟩
  · obtain ⟨h1, h3⟩ := hcov hp (hpc ▸ hf i hi)
    exact Or.inr ⟨h1, upd_forall hf h3⟩

theorem NL_step (T : Topo) (c : Cfg) (i : Nat) (c' : Cfg) (h : NL T c) (m : Move T c i c') : NL T c' := by
  -- a write to a leaf does not touch the aggregator `p`
  have leafWrite : ∀ {p k leaf : Nat} (s : TState), k ∈ T.kids p → T.agg leaf = false → c.st p = .ERROR →
      upd c.st leaf s p = .ERROR := fun {p k leaf} s hk hagg hp => by
    have hpl : p ≠ leaf := fun e => by
      have := parent_agg (mem_kids.mp hk).1
      rw [e, hagg] at this; cases this
    exact (upd_other c.st s hpl).trans hp
  -- the parent named by an edge is the parent the thread goes to
  have sameParent : ∀ {p k n q : Nat}, k ∈ T.kids p → T.parent n = some q → n = k → p = q :=
    fun {p k n q} hk hpar e => by
      have := (mem_kids.mp hk).1
      rw [← e, hpar] at this; exact (Option.some.inj this).symm
  cases m with
  | stay => exact h
  | act hi hpc a =>
  refine NL_frame hi hpc h fun p k hk hst => ?_
  cases a with
  | startSkip => exact Or.inr ⟨hst, False.elim, fun hp _ => ⟨hp, trivial⟩⟩
  | leafGo leaf s _ _ hagg =>
    by_cases hkl : k = leaf
    · rw [hkl, upd_same] at hst
      exact Or.inl ⟨hkl.symm, hst⟩
    · rw [upd_other c.st s hkl] at hst
      exact Or.inr ⟨hst, False.elim, fun hp _ => ⟨leafWrite s hk hagg hp, trivial⟩⟩
  | leafStop leaf s _ hagg hstop =>
    have hkl : k ≠ leaf := fun e => leaf_not_kid hagg hstop (e ▸ hk)
    rw [upd_other c.st s hkl] at hst
    exact Or.inr ⟨hst, False.elim, fun hp _ => ⟨leafWrite s hk hagg hp, trivial⟩⟩
  | read n =>
    by_cases hkn : n = k
    · exact Or.inl ⟨hkn, hkn ▸ hst⟩
    · exact Or.inr ⟨hst, fun e => absurd e hkn, fun hp _ => ⟨hp, trivial⟩⟩
  | enterNone n v hpar =>
    refine Or.inr ⟨hst, fun e => ?_, fun hp _ => ⟨hp, trivial⟩⟩
    have := (mem_kids.mp hk).1
    rw [← e.1, hpar] at this; cases this
  | enterSame n v q hpar hl hsame =>
    refine Or.inr ⟨hst, fun e => ?_, fun hp _ => ⟨hp, covers_after ..⟩⟩
    -- this thread was the one on its way: it found the parent in ERROR already
    have hpq := sameParent hk hpar e.1
    exact ⟨by rw [hpq, hsame, e.2], hpq ▸ hl, covers_after ..⟩
  | enterMixed n q _ _ hne =>
    have hkq : k ≠ q := fun e => by rw [e, upd_same] at hst; cases hst
    rw [upd_other c.st _ hkq] at hst
    refine Or.inr ⟨hst, fun e => (nomatch e.2), fun hp _ => ?_⟩
    have hpq : p ≠ q := fun e => hne (e ▸ hp)
    exact ⟨(upd_other c.st _ hpq).trans hp, covers_after ..⟩
  | enterError n q hpar hl =>
    have hstp : c.st p = .ERROR ∨ p = q → upd c.st q .ERROR p = .ERROR := fun hp => by
      by_cases hpq : p = q
      · rw [hpq, upd_same]
      · exact (upd_other c.st _ hpq).trans (hp.resolve_right hpq)
    by_cases hkq : k = q
    · -- the role just put into ERROR: this thread takes it further up
      exact Or.inl (after_of_parent (hkq ▸ (mem_kids.mp hk).1) ▸ hkq.symm)
    · rw [upd_other c.st _ hkq] at hst
      refine Or.inr ⟨hst, fun e => ?_, fun hp _ => ⟨hstp (Or.inl hp), covers_after ..⟩⟩
      have hpq := sameParent hk hpar e.1
      exact ⟨hstp (Or.inr hpq), hpq ▸ hl, covers_after ..⟩
  | enterFold n v q _ _ hv =>
    exact Or.inr ⟨hst, fun e => absurd e.2 hv, fun hp _ => ⟨hp, fun e => Or.inl (e ▸ hk)⟩⟩
  | foldRead q k' todo acc =>
    refine Or.inr ⟨hst, False.elim, fun hp hf => ⟨hp, fun e => ?_⟩⟩
    rcases hf e with hmem | hacc
    · rcases List.mem_cons.mp hmem with e' | hmem'
      · exact Or.inr (by rw [← e', hst]; exact X_error_right _)
      · exact Or.inl hmem'
    · exact Or.inr (by rw [hacc]; exact X_error_left _)
  | foldStore q acc =>
    by_cases hkq : k = q
    · exact Or.inl (after_of_parent (hkq ▸ (mem_kids.mp hk).1) ▸ hkq.symm)
    · rw [upd_other c.st _ hkq] at hst
      refine Or.inr ⟨hst, False.elim, fun hp hf => ⟨?_, covers_after ..⟩⟩
      by_cases hpq : p = q
      · -- the finished fold under `p` had `k` covered: it stores ERROR
        rcases hf hpq.symm with hmem | hacc
        · cases hmem
        · rw [hpq, upd_same, hacc]
      · exact (upd_other c.st _ hpq).trans hp

theorem errUp_iff (T : Topo) (st : Nat → TState) :
    errUp T st = true ↔ ∀ p k, k ∈ T.kids p → st k = .ERROR → st p = .ERROR := by
  simp only [errUp, List.all_eq_true, List.mem_range, Bool.or_eq_true, Bool.not_eq_true', beq_iff_eq,
    beq_eq_false_iff_ne, ne_eq]
  constructor
  · intro h p k hk hst
    have hp : p < T.nodes.length := agg_lt_len (parent_agg (mem_kids.mp hk).1)
    exact (h p hp k hk).resolve_left (fun h1 => h1 hst)
  · intro h p _ k hk
    by_cases hst : st k = .ERROR
    · exact Or.inr (h p k hk hst)
    · exact Or.inl hst

theorem NL_init (T : Topo) (c : Cfg) (hs : allStart T c = true) (he : errUp T c.st = true) : NL T c :=
  fun p k hk hst => Or.inr ⟨(errUp_iff T c.st).mp he p k hk hst, allStart_forall hs trivial⟩

theorem NL_quiescent (T : Topo) (c : Cfg) (h : NL T c) (hq : quiescent T c = true) :
    errUp T c.st = true := by
  rw [errUp_iff]
  intro p k hk hst
  rcases h p k hk hst with ⟨j, hj, hg⟩ | ⟨hp, _⟩
  · rw [(quiescent_iff T c).mp hq j hj] at hg
    cases hg
  · exact hp

theorem wf_root (T : Topo) (h : T.wf = true) : T.agg 0 = true := by
  simp only [Topo.wf, Bool.and_eq_true] at h
  exact h.1.1

theorem wf_parent (T : Topo) (h : T.wf = true) {n : Nat} (hn : n < T.nodes.length) (h0 : n ≠ 0) :
    ∃ p, T.parent n = some p ∧ p < n := by
  simp only [Topo.wf, Bool.and_eq_true, List.all_eq_true, List.mem_range] at h
  have := h.2 n hn
  simp only [Bool.or_eq_true, beq_iff_eq, h0, false_or] at this
  split at this
  · next p hp => exact ⟨p, hp, of_decide_eq_true this⟩
  · cases this

theorem up_to_root (T : Topo) (st : Nat → TState) (hwf : T.wf = true)
    (h : ∀ p k, k ∈ T.kids p → st k = .ERROR → st p = .ERROR) :
    ∀ n, T.contrib n = true → st n = .ERROR → st 0 = .ERROR := by
  intro n
  induction n using Nat.strongRecOn with
  | _ n ih =>
    intro hc hst
    by_cases h0 : n = 0
    · exact h0 ▸ hst
    · obtain ⟨p, hp, hlt⟩ := wf_parent T hwf (contrib_lt_len hc) h0
      exact ih p hlt (contrib_of_agg (parent_agg hp)) (h p n (mem_kids.mpr ⟨hp, hc⟩) hst)

/-- positions only ever name aggregators as the role being merged or folded -/
def pcOk (T : Topo) : PC → Prop
  | .read n => T.agg n = true
  | .fold p todo _ => T.agg p = true ∧ ∀ k, k ∈ todo → T.contrib k = true
  | _ => True

def PcOk (T : Topo) (c : Cfg) : Prop := ∀ j, j < T.nT → pcOk T (c.pc j)

theorem pcOk_after {T : Topo} {p : Nat} (hagg : T.agg p = true) : pcOk T (after T p) := by
  unfold after; split
  · exact hagg
  · trivial

theorem pcOk_act {T : Topo} {c : Cfg} {i : Nat} {pc : PC} {st' : Nat → TState} {pc' : PC}
    (a : Act T c i pc st' pc') (h : pcOk T pc) : pcOk T pc' := by
  cases a with
  | startSkip | leafGo | leafStop | read | enterNone => trivial
  | enterSame _ _ _ hpar | enterMixed _ _ hpar | enterError _ _ hpar => exact pcOk_after (parent_agg hpar)
  | enterFold _ _ _ hpar => exact ⟨parent_agg hpar, fun k hk => (mem_kids.mp hk).2⟩
  | foldRead => exact ⟨h.1, fun k hk => h.2 k (List.mem_cons_of_mem _ hk)⟩
  | foldStore => exact pcOk_after h.1

theorem PcOk_step (T : Topo) (c : Cfg) (i : Nat) (c' : Cfg) (h : PcOk T c) (m : Move T c i c') : PcOk T c' := by
  cases m with
  | stay => exact h
  | act hi hpc a => exact upd_forall h (pcOk_act a (hpc ▸ h i hi))

theorem PcOk_init (T : Topo) (c : Cfg) (hs : allStart T c = true) : PcOk T c :=
  allStart_forall hs trivial

def pcClean : PC → Prop
  | .enter _ v => v ≠ .ERROR
  | .fold _ _ acc => acc ≠ .ERROR
  | _ => True

/-- no ERROR anywhere it could travel from -/
def Clean (T : Topo) (c : Cfg) : Prop :=
  (∀ n, T.contrib n = true → c.st n ≠ .ERROR) ∧ ∀ j, j < T.nT → pcClean (c.pc j)

def CritErr (T : Topo) (c : Cfg) : Prop := ∃ l, T.crit l = true ∧ c.st l = .ERROR

theorem pcClean_after (T : Topo) (p : Nat) : pcClean (after T p) := by
  unfold after; split <;> trivial

theorem Clean_step (T : Topo) (c : Cfg) (i : Nat) (c' : Cfg) (hok : PcOk T c) (h : Clean T c)
    (m : Move T c i c') : Clean T c' ∨ CritErr T c' := by
  obtain ⟨hst, hpcs⟩ := h
  have updSt : ∀ (q : Nat) (v : TState), (T.contrib q = true → v ≠ .ERROR) →
      ∀ n, T.contrib n = true → upd c.st q v n ≠ .ERROR := by
    intro q v hv n hn
    by_cases e : n = q
    · rw [e, upd_same]; exact hv (e ▸ hn)
    · rw [upd_other c.st v e]; exact hst n hn
  cases m with
  | stay => exact Or.inl ⟨hst, hpcs⟩
  | act hi hpc a =>
  have hcl : pcClean _ := hpc ▸ hpcs i hi
  have hpk : pcOk T _ := hpc ▸ hok i hi
  cases a with
  | startSkip | enterNone => exact Or.inl ⟨hst, upd_forall hpcs trivial⟩
  | leafGo leaf s _ _ _ hcrit =>
    by_cases hs : s = .ERROR
    · exact Or.inr ⟨leaf, hcrit, hs ▸ upd_same ..⟩
    · exact Or.inl ⟨updSt leaf s fun _ => hs, upd_forall hpcs hs⟩
  | leafStop leaf s _ hagg =>
    by_cases hs : T.crit leaf = true ∧ s = .ERROR
    · exact Or.inr ⟨leaf, hs.1, hs.2 ▸ upd_same ..⟩
    · refine Or.inl ⟨updSt leaf s fun hc e => hs ⟨?_, e⟩, upd_forall hpcs trivial⟩
      exact (contrib_cases hc).resolve_left (hagg ▸ Bool.false_ne_true)
  | read n =>
    -- the value read is that of an aggregator, and those are clean
    exact Or.inl ⟨hst, upd_forall hpcs (hst n (contrib_of_agg hpk))⟩
  | enterSame _ _ q => exact Or.inl ⟨hst, upd_forall hpcs (pcClean_after T q)⟩
  | enterMixed _ q =>
    exact Or.inl ⟨updSt q .MIXED fun _ => TState.noConfusion, upd_forall hpcs (pcClean_after T q)⟩
  | enterError => exact absurd rfl hcl
  | enterFold => exact Or.inl ⟨hst, upd_forall hpcs TState.noConfusion⟩
  | foldRead q k' todo acc =>
    exact Or.inl ⟨hst, upd_forall hpcs (X_ne_error hcl (hst k' (hpk.2 k' (List.mem_cons_self ..))))⟩
  | foldStore q acc =>
    exact Or.inl ⟨updSt q acc fun _ => hcl, upd_forall hpcs (pcClean_after T q)⟩

theorem anyErr_false_iff (T : Topo) (st : Nat → TState) :
    anyErr T st = false ↔ ∀ n, T.contrib n = true → st n ≠ .ERROR := by
  simp only [anyErr, List.any_eq_false, List.mem_range, Bool.and_eq_true, beq_iff_eq, not_and]
  exact ⟨fun h n hn => h n (contrib_lt_len hn) hn, fun h n _ hn => h n hn⟩

theorem critLeafErr_iff (T : Topo) (st : Nat → TState) :
    critLeafErr T st = true ↔ ∃ l, T.crit l = true ∧ st l = .ERROR := by
  simp only [critLeafErr, List.any_eq_true, List.mem_range, Bool.and_eq_true, beq_iff_eq]
  exact ⟨fun ⟨l, _, h⟩ => ⟨l, h⟩, fun ⟨l, h⟩ => ⟨l, crit_lt_len h.1, h⟩⟩

theorem Clean_init (T : Topo) (c : Cfg) (hs : allStart T c = true) (hclean : anyErr T c.st = false) :
    Clean T c :=
  ⟨(anyErr_false_iff T c.st).mp hclean, allStart_forall hs trivial⟩

theorem error_needs_critErr (T : Topo) {n : Nat} (hn : T.contrib n = true) :
    ∀ (sched : List Nat) (c : Cfg), PcOk T c → Clean T c → (exec T c sched).st n = .ERROR →
      ∃ k, k ≤ sched.length ∧ CritErr T (exec T c (sched.take k)) := by
  intro sched
  induction sched with
  | nil => exact fun c _ hc h => absurd h (hc.1 n hn)
  | cons i is ih =>
    intro c hok hc h
    have hm := step_move T c i
    rcases Clean_step T c i _ hok hc hm with hc' | he
    · obtain ⟨k, hk, hcrit⟩ := ih (step T c i) (PcOk_step T c i _ hok hm) hc' h
      exact ⟨k + 1, Nat.succ_le_succ hk, hcrit⟩
    · exact ⟨1, Nat.succ_le_succ (Nat.zero_le _), he⟩

def LeafSrc (T : Topo) (st0 st : Nat → TState) : Prop :=
  ∀ n, T.agg n = false → st n = st0 n ∨ ∃ j : Nat, T.thr[j]? = some (n, st n)

theorem LeafSrc.aggWrite {T : Topo} {st0 st : Nat → TState} {q : Nat} (h : LeafSrc T st0 st)
    (hq : T.agg q = true) (v : TState) : LeafSrc T st0 (upd st q v) := by
  intro n hn
  have hnq : n ≠ q := fun e => by rw [e, hq] at hn; cases hn
  rw [upd_other st v hnq]; exact h n hn

theorem LeafSrc.leafWrite {T : Topo} {st0 st : Nat → TState} {i leaf : Nat} {s : TState} (h : LeafSrc T st0 st)
    (hthr : T.thr[i]? = some (leaf, s)) : LeafSrc T st0 (upd st leaf s) := by
  intro n hn
  by_cases e : n = leaf
  · rw [e, upd_same]; exact Or.inr ⟨i, hthr⟩
  · rw [upd_other st s e]; exact h n hn

theorem LeafSrc.leavesOk {T : Topo} {st0 st : Nat → TState} (h : LeafSrc T st0 st) : leavesOk T st0 st = true := by
  simp only [Conc.leavesOk, List.all_eq_true, List.mem_range, Bool.or_eq_true, beq_iff_eq, List.any_eq_true,
    Bool.and_eq_true]
  intro k _
  cases ha : T.agg k with
  | true => exact Or.inl (Or.inl rfl)
  | false =>
    rcases h k ha with h0 | ⟨j, hj⟩
    · exact Or.inl (Or.inr h0)
    · exact Or.inr ⟨_, List.mem_of_getElem? hj, rfl, rfl⟩

theorem LeafSrc_step (T : Topo) (st0 : Nat → TState) (c : Cfg) (i : Nat) (c' : Cfg) (hok : PcOk T c)
    (h : LeafSrc T st0 c.st) (m : Move T c i c') : LeafSrc T st0 c'.st := by
  cases m with
  | stay => exact h
  | act hi hpc a =>
  have hpk : pcOk T _ := hpc ▸ hok i hi
  cases a with
  | startSkip | read | enterNone | enterSame | enterFold | foldRead => exact h
  | leafGo _ _ _ hthr | leafStop _ _ hthr => exact h.leafWrite hthr
  | enterMixed _ _ hpar | enterError _ _ hpar => exact h.aggWrite (parent_agg hpar) _
  | foldStore => exact h.aggWrite hpk.1 _

theorem LeafSrc_exec (T : Topo) (c : Cfg) (sched : List Nat) (hs : allStart T c = true) :
    LeafSrc T c.st (exec T c sched).st :=
  (exec_inv T (fun c' => LeafSrc T c.st c'.st ∧ PcOk T c')
    (fun c1 i c2 h m => ⟨LeafSrc_step T c.st c1 i c2 h.2 h.1 m, PcOk_step T c1 i c2 h.2 m⟩)
    sched c ⟨fun _ _ => Or.inl rfl, PcOk_init T c hs⟩).1

def Mutex (T : Topo) (c : Cfg) : Prop :=
  ∀ j1 j2, j1 < T.nT → j2 < T.nT → ∀ p t1 a1 t2 a2,
    c.pc j1 = .fold p t1 a1 → c.pc j2 = .fold p t2 a2 → j1 = j2

theorem Mutex_upd {T : Topo} {c : Cfg} {i : Nat} {st' : Nat → TState} {pc' : PC} (h : Mutex T c)
    (hnew : ∀ p t a, pc' = .fold p t a → ∀ j, j < T.nT → j ≠ i → ∀ t' a', c.pc j ≠ .fold p t' a') :
    Mutex T ⟨st', upd c.pc i pc'⟩ := by
  intro j1 j2 h1 h2 p t1 a1 t2 a2 e1 e2
  dsimp only at e1 e2
  by_cases hj1 : j1 = i <;> by_cases hj2 : j2 = i
  · rw [hj1, hj2]
  · rw [hj1, upd_same] at e1
    rw [upd_other _ _ hj2] at e2
    exact absurd e2 (hnew p t1 a1 e1 j2 h2 hj2 t2 a2)
  · rw [hj2, upd_same] at e2
    rw [upd_other _ _ hj1] at e1
    exact absurd e1 (hnew p t2 a2 e2 j1 h1 hj1 t1 a1)
  · rw [upd_other _ _ hj1] at e1
    rw [upd_other _ _ hj2] at e2
    exact h j1 j2 h1 h2 p t1 a1 t2 a2 e1 e2

theorem Mutex_step (T : Topo) (c : Cfg) (i : Nat) (c' : Cfg) (h : Mutex T c) (m : Move T c i c') : Mutex T c' := by
  have afterNoFold : ∀ {q} p t a, after T q = .fold p t a →
      ∀ j, j < T.nT → j ≠ i → ∀ t' a', c.pc j ≠ .fold p t' a' := by
    intro q p t a
    unfold after; split <;> exact fun e => nomatch e
  cases m with
  | stay => exact h
  | act hi hpc a =>
  cases a with
  | startSkip | leafGo | leafStop | read | enterNone => exact Mutex_upd h fun _ _ _ e => nomatch e
  | enterSame | enterMixed | enterError | foldStore => exact Mutex_upd h afterNoFold
  | enterFold _ _ _ _ hl =>
    -- the thread takes the lock: nobody else held it
    refine Mutex_upd h ?_
    intro p t a e j hj _ t' a'
    cases e
    exact locked_false hl j hj t' a'
  | foldRead q k' todo acc =>
    -- the thread goes on with the fold it was in
    refine Mutex_upd h ?_
    intro p t a e j hj hji t' a' ej
    cases e
    exact hji (h j i hj hi q t' a' (k' :: todo) acc ej hpc)

theorem Mutex_init (T : Topo) (c : Cfg) (hs : allStart T c = true) : Mutex T c := by
  intro j1 _ h1 _ p t1 a1 _ _ e1 _
  rw [(allStart_iff T c).mp hs j1 h1] at e1
  cases e1

end RoleTree.Conc
