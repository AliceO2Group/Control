/-
  Proofs/RunAttempts — lemmas for the environment-level half of C07:
    * one call of the protocol on a well-formed durable store (Inv of Proofs/RunNumber from a
      fresh `init st`): the store stays well-formed, its level never goes down, a number
      obtained lies above the level before and at most at the level after;
    * hence the numbers of ANY sequence of attempts strictly increase (induction over the history);
    * the environment machine of Model/Env.lean advances its own `counter` exactly at the
      requests `RunAttempts.attOf` calls `.ok` (over the `counter` frames of Proofs/Env).
-/
import ControlModel.Model.RunAttempts
import ControlModel.Proofs.RunNumber
import ControlModel.Proofs.Env

namespace RunAttempts
open RunNumber

theorem callSteps_foreignMonotone (p : Proto) (c : Call) (s : Sys) :
    ForeignMonotone p (callSteps c) s = true := by
  cases c <;> rfl

theorem attempt_fresh (cfg : EnvCfg) (hf : cfg.fresh = true) (p : Proto) (hcas : p.useCas = true)
    (hchk : p.checkOk = true) (hg : p.guard = true) (st : Store) (hwf : st.WF) (prev : Nat) (a : Att) :
    (attempt cfg p st prev a).2.WF ∧ st.level ≤ (attempt cfg p st prev a).2.level ∧
    ∀ n, (attempt cfg p st prev a).1 = some n → st.level < n ∧ n ≤ (attempt cfg p st prev a).2.level := by
  have inv := run_inv hcas hchk (callSteps a.call) (init st) (inv_init p st hwf)
    (callSteps_foreignMonotone p a.call _) (.inl hg)
  have hat : attempt cfg p st prev a =
      (returned (run p (callSteps a.call) (init st)) 0, (run p (callSteps a.call) (init st)).store) := by
    simp only [attempt, hf, Bool.not_true, Bool.false_and, Bool.false_eq_true, if_false]
  rw [hat]
  exact ⟨inv.wf, inv.base, inv.above_returned 0⟩

theorem obtained_cons_none (l : List (Option Nat)) : obtained (none :: l) = obtained l := rfl

theorem obtained_cons_some (n : Nat) (l : List (Option Nat)) : obtained (some n :: l) = n :: obtained l := rfl

theorem attempts_increasing (cfg : EnvCfg) (hf : cfg.fresh = true) (p : Proto) (hcas : p.useCas = true)
    (hchk : p.checkOk = true) (hg : p.guard = true) :
    ∀ (as : List Att) (st : Store) (prev : Nat), st.WF →
      (obtained (attempts cfg p st prev as)).Pairwise (· < ·) ∧
      ∀ n ∈ obtained (attempts cfg p st prev as), st.level < n
  | [], _, _, _ => ⟨.nil, nofun⟩
  | a :: as, st, prev, hwf => by
    have h := attempt_fresh cfg hf p hcas hchk hg st hwf prev a
    have ih := attempts_increasing cfg hf p hcas hchk hg as (attempt cfg p st prev a).2
      ((attempt cfg p st prev a).1.getD prev) h.1
    have above : ∀ n ∈ obtained (attempts cfg p (attempt cfg p st prev a).2 ((attempt cfg p st prev a).1.getD prev) as),
        st.level < n := fun n hn => Nat.lt_of_le_of_lt h.2.1 (ih.2 n hn)
    simp only [attempts]
    cases hr : (attempt cfg p st prev a).1 with
    | none => rw [hr] at ih above; exact ⟨ih.1, above⟩
    | some m =>
      rw [hr] at ih above
      have hm := h.2.2 m hr
      refine ⟨List.pairwise_cons.2 ⟨fun n hn => Nat.lt_of_le_of_lt hm.2 (ih.2 n hn), ih.1⟩, fun n hn => ?_⟩
      rcases List.mem_cons.1 hn with rfl | hn
      · exact hm.1
      · exact above n hn

theorem increasingB_of_pairwise : ∀ (l : List Nat), l.Pairwise (· < ·) → increasingB l = true
  | [], _ => rfl
  | x :: xs, h => by
    rw [List.pairwise_cons] at h
    simp only [increasingB, Bool.and_eq_true, List.all_eq_true, decide_eq_true_eq]
    exact ⟨h.1, increasingB_of_pairwise xs h.2⟩

theorem flatten_toList (l : List (Option Nat)) : (l.map Option.toList).flatten = obtained l := by
  induction l with
  | nil => rfl
  | cons x xs ih => cases x <;> simp only [List.map_cons, List.flatten_cons, ih] <;> rfl

theorem specEnv_of_pairwise (l : List (Option Nat)) (h : (obtained l).Pairwise (· < ·)) :
    SpecEnv (l.map Option.toList) = true := by
  simp only [SpecEnv, Bool.and_eq_true, List.all_eq_true, decide_eq_true_eq]
  refine ⟨?_, ?_⟩
  · intro x hx
    rcases List.mem_map.1 hx with ⟨o, _, rfl⟩
    cases o with
    | none => exact Nat.zero_le _
    | some _ => exact Nat.le_refl _
  · rw [flatten_toList]; exact increasingB_of_pairwise _ h

open EnvM

theorem callOf_eq (env : Env) (hooks : List Hook) (e : Ev) (r : Bool) :
    callOf env hooks e r =
      if e = .START_ACTIVITY ∧ (handleHooks env hooks (.before e) negW).2.2 = 0 ∧ (dst? e env.st).isSome = true
      then (if r then .fails else .ok) else .none := by
  by_cases he : e = .START_ACTIVITY
  · subst he
    have : (dst? .START_ACTIVITY env.st).isSome = (env.st == .CONFIGURED) := by cases env.st <;> rfl
    simp only [callOf, reaches, this, beq_self_eq_true, Bool.true_and, Bool.and_eq_true, beq_iff_eq, true_and, and_comm]
  · rw [if_neg fun h => he h.1]
    simp only [callOf, reaches, beq_false_of_ne he, Bool.false_and, Bool.false_eq_true, if_false]

theorem callOf_other (env : Env) (hooks : List Hook) (e : Ev) (r : Bool) (h : e ≠ .START_ACTIVITY) :
    callOf env hooks e r = .none := by
  rw [callOf_eq, if_neg fun h' => h h'.1]

theorem callOf_illegal (env : Env) (hooks : List Hook) (e : Ev) (r : Bool) (hd : dst? e env.st = none) :
    callOf env hooks e r = .none := by
  rw [callOf_eq, if_neg fun h => by rw [hd] at h; cases h.2.2]

theorem beforeEvent_call (env : Env) (hooks : List Hook) (e : Ev) (r : Bool) (d : St) (hd : dst? e env.st = some d) :
    (beforeEvent env hooks e r).1.counter = env.counter + (if callOf env hooks e r = .ok then 1 else 0) ∧
    (callOf env hooks e r = .fails → (beforeEvent env hooks e r).2.2 = some .cancelledRn) := by
  rw [callOf_eq, beforeEvent_counter, hd]
  simp only [Option.isSome_some, and_true]
  split
  · rename_i h
    obtain ⟨rfl, hn⟩ := h
    cases r
    · exact ⟨rfl, nofun⟩
    · exact ⟨rfl, fun _ => beforeEvent_rnFail env hooks hn⟩
  · exact ⟨rfl, nofun⟩

theorem fsmEvent_call (env : Env) (hooks : List Hook) (e : Ev) (b r : Bool) :
    (fsmEvent env hooks e b r).1.counter = env.counter + (if callOf env hooks e r = .ok then 1 else 0) ∧
    (callOf env hooks e r = .fails → (fsmEvent env hooks e b r).2.2 = .cancelledRn) := by
  unfold fsmEvent
  split
  · rename_i hd
    rw [callOf_illegal env hooks e r hd]; exact ⟨rfl, nofun⟩
  · rename_i d hd
    obtain ⟨hb, hf⟩ := beforeEvent_call env hooks e r d hd
    refine ⟨?_, fun h => by simp only [hf h]⟩
    simp only
    split
    · dsimp only; exact hb
    · split
      · dsimp only; rw [leaveState_counter]; exact hb
      · dsimp only; rw [afterEvent_counter, enterState_counter, leaveState_counter]; exact hb

theorem controlApi_counter (env : Env) (hooks : List Hook) (e : Ev) (b r : Bool) :
    (controlApi env hooks e b r).1.counter = env.counter + (if callOf env hooks e r = .ok then 1 else 0) := by
  have hg := (fsmEvent_call (fsmEvent env hooks e b r).1 hooks .GO_ERROR true false).1
  rw [callOf_other _ hooks .GO_ERROR false nofun] at hg
  simp only [reduceCtorEq, if_false, Nat.add_zero] at hg
  simp only [controlApi, tryTransition, apply_ite Prod.fst, apply_ite Env.counter, hg, ite_self]
  exact (fsmEvent_call env hooks e b r).1

theorem step_counter (hooks : List Hook) (nTasks : Nat) (env : Env) (q : Req) :
    (EnvM.step hooks nTasks env q).1.counter = env.counter + (if (attOf env hooks q).call = .ok then 1 else 0) := by
  fun_cases EnvM.step hooks nTasks env q with
  | case1 e b r => exact (fsmEvent_call env hooks e b r).1
  | case2 | case4 => simp [attOf, *]  -- not found: no attempt
  | case3 e b r hg => rw [attOf, if_neg hg]; exact controlApi_counter env hooks e b r
  | case5 => exact teardown_counter ..

def okCount (as : List Att) : Nat := (as.filter (fun a => a.call == .ok)).length

/-- The counter advances by the number of calls of the history that did not fail: the machine's k-th number goes with
    the k-th such call; the number that call obtains is the protocol's (`numbers`), above the store's level, not `k`. -/
theorem finalEnv_counter (hooks : List Hook) (nTasks : Nat) (reqs : List Req) (env : Env) :
    (finalEnv hooks nTasks env reqs).counter = env.counter + okCount (atts hooks nTasks env reqs) := by
  induction reqs generalizing env with
  | nil => rfl
  | cons q qs ih =>
    have h := ih (EnvM.step hooks nTasks env q).1
    simp only [finalEnv, List.foldl_cons] at h ⊢
    rw [h, step_counter]
    simp only [atts, okCount, List.filter_cons]
    cases hc : (attOf env hooks q).call <;> simp [Nat.add_assoc, Nat.add_comm]

end RunAttempts
