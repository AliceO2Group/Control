/-
  Proofs/RunNumber — the invariant behind C07 (DESIGN §9a) and its preservation.

    * ModifyIndex strictly increases at every write (`Store.write`/`delete` hand out raft+1,
      every index a caller holds is ≤ raft);
    * every returned r ≤ current value (`Store.level`), and r > the initial value L;
    * a caller holding (v_r, idx_r) has idx_r ≤ raft and (idx_r = ModifyIndex → v_r = value);
    * the log is strictly increasing in number and in completion index.

  `Moves` says once what each branch of `act` changes; a fact about an arbitrary `step`, in this
  and the neighbouring files, is a walk over its constructors.
-/
import ControlModel.Model.RunNumber
import ControlModel.Spec.C07

namespace RunNumber

theorem parse_fmt (n : Nat) (h : n ≤ maxU32) : parseU32 (fmtU32 n) = some n := by
  unfold parseU32 fmtU32
  have hne : (Nat.toDigits 10 n).isEmpty = false := by
    cases hd : Nat.toDigits 10 n with
    | nil => exact absurd hd Nat.toDigits_ne_nil
    | cons _ _ => rfl
  have hall : (Nat.toDigits 10 n).all Char.isDigit = true := by
    rw [List.all_eq_true]
    intro c hc
    exact Nat.isDigit_of_mem_toDigits (by decide) (by decide) hc
  simp [hne, hall, Nat.ofDigitChars_ten_toDigits, h]

theorem incr32_lt (v : Nat) (h : v < maxU32) : incr32 v = v + 1 :=
  if_neg (Nat.not_le_of_lt h)

theorem level_write_fmt (st : Store) (n : Nat) (h : n ≤ maxU32) : (st.write (fmtU32 n)).level = n := by
  simp [Store.level, Store.write, parse_fmt n h]

theorem level_delete (st : Store) : st.delete.level = 0 := rfl

theorem parse_le (cs : List Char) (v : Nat) (h : parseU32 cs = some v) : v ≤ maxU32 := by
  revert h
  fun_cases parseU32 cs with
  | case2 _ _ _ hn => exact fun h => Option.some.inj h ▸ hn
  | case1 | case3 | case4 => nofun

theorem setCaller_same (f : Nat → CState) (c : Nat) (x : CState) : setCaller f c x c = x :=
  if_pos rfl

theorem setCaller_other (f : Nat → CState) (c d : Nat) (x : CState) (h : d ≠ c) : setCaller f c x d = f d :=
  if_neg h

theorem adopted_eq_some {x : CState} {n : Nat} (h : adopted x = some n) : ∃ t t' q, x = .done n .ok t t' q := by
  unfold adopted at h
  split at h
  · cases h; exact ⟨_, _, _, rfl⟩
  · cases h

/-- The call has not returned and its caller is alive. -/
def CState.live : CState → Bool
  | .idle | .holding .. => true
  | _ => false

theorem live_adopted {x : CState} (h : x.live = true) : adopted x = none := by
  cases x with
  | idle | holding => rfl
  | done | dead => cases h

/-- `Moves p s st s'`: `s'` is `act p st s` — one constructor per way the state changes,
    saying which fields change. -/
inductive Moves (p : Proto) (s : Sys) : Step → Sys → Prop
  /-- `act`'s branch for a caller in no state the step applies to (not carried here) -/
  | skip {st c} (hst : st.isOf c = true) : Moves p s st s
  | readAbsent {c} (hc : s.callers c = .idle) (he : s.store.entry = none) :
    Moves p s (.read c) { s with callers := setCaller s.callers c (.holding 0 0 s.clock) }
  | readPresent {c e v} (hc : s.callers c = .idle) (he : s.store.entry = some e) (hp : parseU32 e.raw = some v)
      (hg : p.guard = true → v ≠ maxU32) :
    Moves p s (.read c) { s with callers := setCaller s.callers c (.holding v e.idx s.clock) }
  /-- the call ends without a number, or its caller dies -/
  | fin {st c x} (hc : (s.callers c).live = true) (hst : st.isOf c = true) (hx : adopted x = none)
      (hh : ∀ v i t, x ≠ .holding v i t) :
    Moves p s st { s with callers := setCaller s.callers c x }
  /-- the write is applied and the holder returns the number it wrote -/
  | won {c v i t} (hc : s.callers c = .holding v i t) (hok : p.useCas = true → s.store.casOk i = true) :
    Moves p s (.cas c)
      { s with store := s.store.write (fmtU32 (incr32 v)),
               callers := setCaller s.callers c (.done (incr32 v) .ok t s.clock (some i)),
               log := s.log ++ [{ caller := c, num := incr32 v, started := t, ended := s.clock }] }
  /-- the write is refused and the answer ignored: a number without a write -/
  | unchecked {c v i t} (hc : s.callers c = .holding v i t) (hchk : p.checkOk = false) :
    Moves p s (.cas c)
      { s with callers := setCaller s.callers c (.done (incr32 v) .ok t s.clock (some i)),
               log := s.log ++ [{ caller := c, num := incr32 v, started := t, ended := s.clock }] }
  | put {raw} : Moves p s (.foreign raw) { s with store := s.store.write raw }
  | del : Moves p s .del { s with store := s.store.delete }

/-- The cases are the branches of `act` in the order it is written: `read` 1–5, `cas` 6–9, `fail` 10–12,
    `foreign`, `del`, `crash` 15–17; the last of each group is the caller in no state the step applies to. -/
theorem act_spec (p : Proto) (st : Step) (s : Sys) : Moves p s st (act p st s) := by
  have self : ∀ c : Nat, (c == c) = true := beq_self_eq_true
  fun_cases act p st s with
  | case1 c hc he => exact .readAbsent hc he
  | case4 c hc e he v hp hg => exact .readPresent hc he hp fun hgt hv => hg (by rw [hgt, hv]; rfl)
  | case2 c hc | case3 c hc | case10 c hc | case15 c hc => exact .fin (by rw [hc]; rfl) (self c) rfl nofun
  | case7 c v i t hc | case11 c v i t hc | case16 c v i t hc => exact .fin (by rw [hc]; rfl) (self c) rfl nofun
  | case6 c v i t hc _ hok => exact .won hc fun hcas => by simpa [hcas] using hok
  | case8 c v i t hc _ _ hchk => exact .unchecked hc (by simpa using hchk)
  | case5 c | case9 c | case12 c | case17 c => exact .skip (self c)
  | case13 => exact .put
  | case14 => exact .del

theorem step_cas_refused {p : Proto} {s : Sys} {c v i t : Nat} (hcas : p.useCas = true) (hchk : p.checkOk = true)
    (hc : s.callers c = .holding v i t) (hno : s.store.casOk i = false) :
    step p (.cas c) s =
      { s with callers := setCaller s.callers c (.done (incr32 v) .cas t s.clock (some i)), clock := s.clock + 1 } := by
  simp only [step, act, hc, hcas, hchk, hno, Bool.not_true, Bool.or_self, Bool.false_eq_true, if_false, if_true]

theorem step_fail_holding (p : Proto) {s : Sys} {c v i t : Nat} (hc : s.callers c = .holding v i t) :
    step p (.fail c) s =
      { s with callers := setCaller s.callers c (.done (incr32 v) .http t s.clock (some i)), clock := s.clock + 1 } := by
  simp only [step, act, hc]

theorem Moves.callers_eq {p s st s'} (h : Moves p s st s') {d : Nat} (hd : (s.callers d).live = false) :
    s'.callers d = s.callers d := by
  cases h with
  | skip | put | del => rfl
  | readAbsent hc | readPresent hc | fin hc | won hc | unchecked hc =>
    exact setCaller_other _ _ _ _ fun e => by subst e; rw [hc] at hd; cases hd

/-- `L`: the store's level when the run began. Besides the header's four facts, the callers in `done … ok` are exactly
    the log's entries: what callers returned is read off the sorted log. -/
structure Inv (p : Proto) (L : Nat) (s : Sys) : Prop where
  wf : s.store.WF
  base : L ≤ s.store.level
  hold : ∀ c v i t, s.callers c = .holding v i t →
    i ≤ s.store.raft ∧ (i = 0 → v = 0) ∧
    (∀ e, s.store.entry = some e → e.idx = i → parseU32 e.raw = some v) ∧
    t < s.clock ∧ v ≤ maxU32 ∧ (p.guard = true → v < maxU32)
  sorted : s.log.Pairwise (fun a b => a.num < b.num ∧ a.ended < b.ended)
  bound : ∀ r ∈ s.log, r.num ≤ s.store.level ∧ L < r.num ∧ r.started ≤ r.ended ∧ r.ended < s.clock
  logged : ∀ c v t e q, s.callers c = .done v .ok t e q → ({ caller := c, num := v, started := t, ended := e } : Ret) ∈ s.log
  owner : ∀ r ∈ s.log, ∃ q, s.callers r.caller = .done r.num .ok r.started r.ended q

theorem inv_init (p : Proto) (st : Store) (h : st.WF) : Inv p st.level (init st) where
  wf := h
  base := Nat.le_refl _
  hold := nofun
  sorted := List.Pairwise.nil
  bound := nofun
  logged := nofun
  owner := nofun

theorem Inv.not_in_log {p L s} (h : Inv p L s) {c : Nat} (hc : (s.callers c).live = true) :
    ∀ r ∈ s.log, r.caller ≠ c := by
  intro r hr heq
  obtain ⟨q, hq⟩ := h.owner r hr
  rw [heq] at hq
  rw [hq] at hc
  cases hc

theorem Inv.tick {p L s} (h : Inv p L s) : Inv p L { s with clock := s.clock + 1 } where
  wf := h.wf
  base := h.base
  hold := fun d v i t hd =>
    let ⟨a, b, c, d', e⟩ := h.hold d v i t hd
    ⟨a, b, c, Nat.lt_succ_of_lt d', e⟩
  sorted := h.sorted
  bound := fun r hr =>
    let ⟨a, b, c, d⟩ := h.bound r hr
    ⟨a, b, c, Nat.lt_succ_of_lt d⟩
  logged := h.logged
  owner := h.owner

/-- The branches of `act` that hand out no number go through this: a live caller is put into a state that adopts none. -/
theorem Inv.park {p L s} (h : Inv p L s) {c : Nat} {x : CState} (hc : (s.callers c).live = true)
    (hx : adopted x = none)
    (hold : ∀ v i t, x = .holding v i t →
      i ≤ s.store.raft ∧ (i = 0 → v = 0) ∧
      (∀ e, s.store.entry = some e → e.idx = i → parseU32 e.raw = some v) ∧
      t < s.clock ∧ v ≤ maxU32 ∧ (p.guard = true → v < maxU32)) :
    Inv p L { s with callers := setCaller s.callers c x } where
  wf := h.wf
  base := h.base
  hold := by
    intro d v i t hd
    by_cases hdc : d = c
    · subst hdc; exact hold v i t ((setCaller_same ..).symm.trans hd)
    · exact h.hold d v i t ((setCaller_other _ _ _ _ hdc).symm.trans hd)
  sorted := h.sorted
  bound := h.bound
  logged := by
    intro d v t e q hd
    by_cases hdc : d = c
    · subst hdc
      rw [(setCaller_same ..).symm.trans hd] at hx
      cases hx
    · exact h.logged d v t e q ((setCaller_other _ _ _ _ hdc).symm.trans hd)
  owner := by
    intro r hr
    obtain ⟨q, hq⟩ := h.owner r hr
    exact ⟨q, (setCaller_other _ _ _ _ (h.not_in_log hc r hr)).trans hq⟩

theorem Inv.foreign {p L s} (h : Inv p L s) (st' : Store)
    (hraft : st'.raft = s.store.raft + 1)
    (hentry : ∀ e, st'.entry = some e → e.idx = s.store.raft + 1)
    (hlevel : s.store.level ≤ st'.level) :
    Inv p L { s with store := st', clock := s.clock + 1 } where
  wf := by
    intro e he
    rw [hentry e he, hraft]
    exact ⟨Nat.le_add_left .., Nat.le_refl _⟩
  base := Nat.le_trans h.base hlevel
  hold := by
    intro d v i t hd
    obtain ⟨a, b, _, d', e'⟩ := h.hold d v i t hd
    refine ⟨hraft ▸ Nat.le_succ_of_le a, b, ?_, Nat.lt_succ_of_lt d', e'⟩
    intro e he hidx
    exact absurd ((hentry e he).symm.trans hidx) (Nat.ne_of_gt (Nat.lt_succ_of_le a))
  sorted := h.sorted
  bound := by
    intro r hr
    obtain ⟨a, b, c', d'⟩ := h.bound r hr
    exact ⟨Nat.le_trans a hlevel, b, c', Nat.lt_succ_of_lt d'⟩
  logged := h.logged
  owner := h.owner

/-- The value a holder would increment IS the current value whenever Consul would accept its CAS. -/
theorem Inv.casOk_level {p L s} (h : Inv p L s) {c v i t} (hc : s.callers c = .holding v i t)
    (hok : s.store.casOk i = true) : s.store.level = v := by
  obtain ⟨_, hz, hp, _⟩ := h.hold c v i t hc
  unfold Store.casOk at hok
  unfold Store.level
  cases he : s.store.entry with
  | none =>
    simp [he] at hok
    simp [hz hok]
  | some e =>
    simp [he] at hok
    have := hp e he hok.2.symm
    simp [this]

theorem Inv.casWin_level {p L s} (h : Inv p L s) {c v i t} (hc : s.callers c = .holding v i t)
    (hok : s.store.casOk i = true) (hnw : v ≠ maxU32) :
    s.store.level = v ∧ (s.store.write (fmtU32 (incr32 v))).level = v + 1 ∧ incr32 v = v + 1 := by
  have hv : v < maxU32 := Nat.lt_of_le_of_ne (h.hold c v i t hc).2.2.2.2.1 hnw
  have hinc := incr32_lt v hv
  exact ⟨h.casOk_level hc hok, by rw [hinc]; exact level_write_fmt _ _ hv, hinc⟩

theorem Inv.casWin {p L s} (h : Inv p L s) {c v i t} (hc : s.callers c = .holding v i t)
    (hok : s.store.casOk i = true) (hnw : v ≠ maxU32) :
    Inv p L { s with store := s.store.write (fmtU32 (incr32 v)),
                     callers := setCaller s.callers c (.done (incr32 v) .ok t s.clock (some i)),
                     log := s.log ++ [{ caller := c, num := incr32 v, started := t, ended := s.clock }],
                     clock := s.clock + 1 } := by
  obtain ⟨hlev, hnl, hinc⟩ := h.casWin_level hc hok hnw
  have htc := (h.hold c v i t hc).2.2.2.1
  have below : ∀ {n}, n ≤ s.store.level → n < v + 1 := fun hn => Nat.lt_succ_of_le (hlev ▸ hn)
  rw [hinc] at hnl ⊢
  exact {
    wf := by
      intro e he
      cases he
      exact ⟨Nat.le_add_left .., Nat.le_refl _⟩
    base := by rw [hnl]; exact Nat.le_of_lt (below h.base)
    hold := by
      intro d v' i' t' hd
      by_cases hdc : d = c
      · subst hdc; cases (setCaller_same ..).symm.trans hd
      · obtain ⟨a, b, _, d', e'⟩ := h.hold d v' i' t' ((setCaller_other _ _ _ _ hdc).symm.trans hd)
        refine ⟨Nat.le_succ_of_le a, b, ?_, Nat.lt_succ_of_lt d', e'⟩
        intro e he hidx
        cases he
        exact absurd hidx (Nat.ne_of_gt (Nat.lt_succ_of_le a))
    sorted := by
      refine List.pairwise_append.2 ⟨h.sorted, List.pairwise_singleton _ _, ?_⟩
      intro a ha b hb
      cases List.mem_singleton.1 hb
      exact ⟨below (h.bound a ha).1, (h.bound a ha).2.2.2⟩
    bound := by
      intro r hr
      rw [hnl]
      rcases List.mem_append.1 hr with hr | hr
      · obtain ⟨h1, h2, h3, h4⟩ := h.bound r hr
        exact ⟨Nat.le_of_lt (below h1), h2, h3, Nat.lt_succ_of_lt h4⟩
      · cases List.mem_singleton.1 hr
        exact ⟨Nat.le_refl _, below h.base, Nat.le_of_lt htc, Nat.lt_succ_self _⟩
    logged := by
      intro d v' t' e' q' hd
      by_cases hdc : d = c
      · subst hdc
        cases (setCaller_same ..).symm.trans hd
        exact List.mem_append_right _ (List.mem_singleton_self _)
      · exact List.mem_append_left _ (h.logged d v' t' e' q' ((setCaller_other _ _ _ _ hdc).symm.trans hd))
    owner := by
      intro r hr
      rcases List.mem_append.1 hr with hr | hr
      · obtain ⟨q, hq⟩ := h.owner r hr
        exact ⟨q, (setCaller_other _ _ _ _ (h.not_in_log (by rw [hc]; rfl) r hr)).trans hq⟩
      · cases List.mem_singleton.1 hr
        exact ⟨some i, setCaller_same ..⟩ }

theorem Inv.not_max {p L s} (h : Inv p L s) (hg : p.guard = true) {c v i t} (hc : s.callers c = .holding v i t) :
    v ≠ maxU32 :=
  Nat.ne_of_lt ((h.hold c v i t hc).2.2.2.2.2 hg)

/-- With the guard, no holder ever holds 2^32−1, so no step wraps. -/
theorem guard_noWrap_step {p : Proto} {L : Nat} {s : Sys} (hg : p.guard = true) (h : Inv p L s) (st : Step) :
    stepWraps p st s = false := by
  unfold stepWraps
  split
  · split
    · rename_i hc
      simp [h.not_max hg hc]
    · rfl
  · rfl

theorem step_inv {p : Proto} {L : Nat} {s : Sys} (hcas : p.useCas = true) (hchk : p.checkOk = true)
    (h : Inv p L s) (st : Step) (hf : stepForeignOk st s = true) (hw : stepWraps p st s = false) :
    Inv p L (step p st s) := by
  have ha := act_spec p st s
  unfold step
  generalize act p st s = s' at ha
  cases ha with
  | skip => exact h.tick
  | readAbsent hc he =>
    refine h.tick.park (by rw [hc]; rfl) rfl fun v i t hx => ?_
    cases hx
    exact ⟨Nat.zero_le _, fun _ => rfl, fun e he' _ => (nomatch he.symm.trans he'), Nat.lt_succ_self _,
      Nat.zero_le _, fun _ => by decide⟩
  | @readPresent c e v hc he hp hg =>
    refine h.tick.park (by rw [hc]; rfl) rfl fun v' i t hx => ?_
    cases hx
    have hle := parse_le _ _ hp
    exact ⟨(h.wf e he).2, fun h0 => absurd h0 (Nat.ne_of_gt (h.wf e he).1),
      fun e' he' _ => by cases he.symm.trans he'; exact hp,
      Nat.lt_succ_self _, hle, fun hgt => Nat.lt_of_le_of_ne hle (hg hgt)⟩
  | fin hc _ hx hh => exact h.tick.park hc hx fun v i t e => absurd e (hh v i t)
  | @won c v i t hc hok =>
    refine h.casWin hc (hok hcas) fun hv => ?_
    simp [stepWraps, hc, hcas, hok hcas, hv] at hw
  | unchecked _ hno => rw [hchk] at hno; cases hno
  | put =>
    refine h.foreign _ rfl (fun e he => by cases he; rfl) ?_
    simpa [stepForeignOk] using hf
  | del =>
    refine h.foreign _ rfl nofun ?_
    have : s.store.level = 0 := by simpa [stepForeignOk] using hf
    omega

theorem run_inv {p : Proto} {L : Nat} (hcas : p.useCas = true) (hchk : p.checkOk = true)
    (sched : List Step) (s : Sys) (h : Inv p L s)
    (hf : ForeignMonotone p sched s = true) (hw : p.guard = true ∨ NoWrap p sched s = true) :
    Inv p L (run p sched s) := by
  induction sched generalizing s with
  | nil => exact h
  | cons st rest ih =>
    simp only [ForeignMonotone, NoWrap, Bool.and_eq_true, Bool.not_eq_true'] at hf hw
    exact ih _ (step_inv hcas hchk h st hf.1 (hw.elim (guard_noWrap_step · h st) (·.1))) hf.2 (hw.imp_right (·.2))

theorem distinct_of_pairwise_lt : ∀ (l : List Nat), l.Pairwise (· < ·) → distinctNums l = true
  | [], _ => rfl
  | x :: xs, h => by
    rw [List.pairwise_cons] at h
    simp only [distinctNums, Bool.and_eq_true, Bool.not_eq_true']
    refine ⟨?_, distinct_of_pairwise_lt xs h.2⟩
    cases hc : xs.contains x with
    | false => rfl
    | true =>
      have : x ∈ xs := by simpa using hc
      exact absurd (h.1 x this) (Nat.lt_irrefl _)

theorem Inv.increasing {p L s} (h : Inv p L s) : (s.log.map (·.num)).Pairwise (· < ·) :=
  List.pairwise_map.2 (h.sorted.imp fun hab => hab.1)

theorem Inv.unique {p L s} (h : Inv p L s) : uniqueB s.log = true :=
  distinct_of_pairwise_lt _ h.increasing

theorem pairwise_mem_cases {α} {R : α → α → Prop} {l : List α} (h : l.Pairwise R) {a b : α}
    (ha : a ∈ l) (hb : b ∈ l) : a = b ∨ R a b ∨ R b a :=
  List.Pairwise.forall_of_forall_of_flip (R := fun a b => a = b ∨ R a b ∨ R b a) (fun _ _ => .inl rfl)
    (h.imp fun r => .inr (.inl r)) (h.imp fun r => .inr (.inr r)) ha hb

theorem Inv.monotone_prop {p L s} (h : Inv p L s) (a b : Ret) (ha : a ∈ s.log) (hb : b ∈ s.log)
    (hab : a.ended < b.started) : a.num < b.num := by
  rcases pairwise_mem_cases h.sorted ha hb with heq | hlt | hgt
  · subst heq
    have := (h.bound a ha).2.2.1
    omega
  · exact hlt.1
  · have := (h.bound b hb).2.2.1
    omega

theorem Inv.monotone {p L s} (h : Inv p L s) : monotoneB s.log = true := by
  simp only [monotoneB, List.all_eq_true, Bool.or_eq_true, Bool.not_eq_true', decide_eq_false_iff_not,
    decide_eq_true_eq]
  intro a ha b hb
  by_cases hab : a.ended < b.started
  · exact Or.inr (h.monotone_prop a b ha hb hab)
  · exact Or.inl hab

theorem Inv.above {p L s} (h : Inv p L s) : aboveB L s.log = true := by
  simp only [aboveB, List.all_eq_true, decide_eq_true_eq]
  intro a ha
  exact (h.bound a ha).2.1

theorem Inv.spec {p L s} (h : Inv p L s) : Spec L s.log = true := by
  simp [Spec, h.unique, h.monotone, h.above]

theorem Inv.monotone_done {p L s} (h : Inv p L s) {a b na ta ea nb tb eb : Nat} {qa qb : Option Nat}
    (ha : s.callers a = .done na .ok ta ea qa) (hb : s.callers b = .done nb .ok tb eb qb)
    (hab : ea < tb) : na < nb :=
  h.monotone_prop _ _ (h.logged a _ _ _ _ ha) (h.logged b _ _ _ _ hb) hab

theorem Inv.unique_returned {p L s} (h : Inv p L s) (a b na nb : Nat) (hab : a ≠ b)
    (ha : returned s a = some na) (hb : returned s b = some nb) : na ≠ nb := by
  obtain ⟨ta, ea, qa, ha⟩ := adopted_eq_some ha
  obtain ⟨tb, eb, qb, hb⟩ := adopted_eq_some hb
  rcases pairwise_mem_cases h.sorted (h.logged a _ _ _ _ ha) (h.logged b _ _ _ _ hb) with heq | hlt | hgt
  · exact absurd (congrArg Ret.caller heq) hab
  · exact Nat.ne_of_lt hlt.1
  · exact Nat.ne_of_gt hgt.1

theorem Inv.above_returned {p L s} (h : Inv p L s) (c n : Nat) (hc : returned s c = some n) :
    L < n ∧ n ≤ s.store.level := by
  obtain ⟨t, e, q, hc⟩ := adopted_eq_some hc
  have := h.bound _ (h.logged c _ _ _ _ hc)
  exact ⟨this.2.1, this.1⟩

theorem dead_step (p : Proto) (s : Sys) (c : Nat) (t : Option Nat) (st : Step)
    (hd : s.callers c = .dead t) (hst : st.isOf c = true) :
    step p st s = { s with clock := s.clock + 1 } := by
  cases st with
  | foreign _ | del => cases hst
  | read d | cas d | fail d | crash d =>
    cases eq_of_beq hst
    simp only [step, act, hd]

theorem dead_stays (p : Proto) (s : Sys) (c : Nat) (t : Option Nat) (st : Step)
    (hd : s.callers c = .dead t) : (step p st s).callers c = .dead t :=
  ((act_spec p st s).callers_eq (by rw [hd]; rfl)).trans hd

end RunNumber
