/-
  Proofs/RunRemote — C07: the gRPC hop of a remote apricot (Model/RunRemote.lean).

  With the hop of the code (`codeHop`: the error crosses, no number with it) a caller behind the hop
  adopts exactly what the protocol call it stands for adopts, and its observation is the direct
  caller's; a hop that swallows the error hands a remote caller the value of ANY returned call,
  whatever its error.
-/
import ControlModel.Model.RunRemote
import ControlModel.Proofs.RunWrites

namespace RunNumber

/-- An error crosses the code's hop as that error, with value 0 (`return 0, err`). -/
theorem viaHop_code_err (v : Nat) (e : Err) (t t' : Nat) (q : Option Nat) (he : e ≠ .ok) :
    viaHop codeHop (.done v e t t' q) = .done 0 e t t' q :=
  if_neg he

theorem adopted_viaHop_code (x : CState) : adopted (viaHop codeHop x) = adopted x := by
  cases x with
  | done v e t t' q => cases e <;> rfl
  | _ => rfl

theorem viaHop_code_ok {x : CState} {n t t' : Nat} {q : Option Nat}
    (h : viaHop codeHop x = .done n .ok t t' q) : x = .done n .ok t t' q := by
  cases x with
  | done v e a b c =>
    by_cases he : e = .ok
    · subst he; exact h
    · rw [viaHop_code_err _ _ _ _ _ he] at h
      cases h; exact absurd rfl he
  | _ => exact h

theorem returnedVia_code (remote : Routing) (s : Sys) (c : Nat) :
    returnedVia codeHop remote s c = returned s c := by
  unfold returnedVia seenBy returned
  split
  · exact adopted_viaHop_code _
  · rfl

theorem seenBy_code_ok {remote : Routing} {s : Sys} {c n t t' : Nat} {q : Option Nat}
    (h : seenBy codeHop remote s c = .done n .ok t t' q) : s.callers c = .done n .ok t t' q := by
  unfold seenBy at h
  split at h
  · exact viaHop_code_ok h
  · exact h

/-- One call as observed from outside when it may sit behind a hop: the NUMBER is what came back
    through the hop; the requests (`refused`, `wrote`) are what Consul processed for it — recorded
    by the simulator, on the far side of the hop. This is how `Driver.C07.parseCall` reads an
    observation of a routed case back. -/
def callObsVia (h : Hop) (remote : Bool) (c : Nat) (x : CState) : CallObs :=
  if remote then { callObsOf c x with ok := adopted (viaHop h x) } else callObsOf c x

def obsVia (h : Hop) (remote : Routing) (n : Nat) (s : Sys) : List CallObs :=
  (List.range n).map fun c => callObsVia h (remote c) c (s.callers c)

theorem callObsVia_code (remote : Bool) (c : Nat) (x : CState) :
    callObsVia codeHop remote c x = callObsOf c x := by
  cases remote with
  | false => rfl
  | true =>
    simp only [callObsVia, if_true, adopted_viaHop_code]
    rw [← callObsOf_ok c x]

theorem obsVia_code (remote : Routing) (n : Nat) (s : Sys) : obsVia codeHop remote n s = obsOf n s := by
  simp only [obsVia, obsOf, callObsVia_code]

theorem returnedVia_swallowing {remote : Routing} {s : Sys} {c v t t' : Nat} {e : Err} {q : Option Nat}
    (hr : remote c = true) (hc : s.callers c = .done v e t t' q) :
    returnedVia swallowingHop remote s c = some v := by
  unfold returnedVia seenBy
  rw [hr, hc]
  cases e <;> rfl

end RunNumber
