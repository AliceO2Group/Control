/-
  Proofs/RunStartup — C07 with service start-ups as steps (Model/RunStartup.lean).

  With the code's start-up the layer only ever moves the protocol state by a protocol step or lets
  time pass (`sstep_code`), so the invariant of Proofs/RunNumber.lean carries over step by step;
  and since the only write of our own code is then a holder's winning CAS, which under the
  invariant raises the counter by exactly one and hands out the new value (`Inv.step_effect`),
  without foreign writers the numbers handed out are L+1, L+2, … in order.
-/
import ControlModel.Model.RunStartup
import ControlModel.Proofs.RunNumber

namespace RunNumber

theorem sstep_start_code (p : Proto) (home : Homes) (j : Nat) (s : SSys) :
    (sstep codeStart p home (.start j) s).base = tick s.base ∧
    (sstep codeStart p home (.start j) s).own = s.own := by
  simp only [sstep, codeStart]
  cases s.inst j <;> exact ⟨rfl, rfl⟩

theorem sstep_base_cases (cfg : StartCfg) (p : Proto) (home : Homes) (st : Step) (s : SSys) :
    ((sstep cfg p home (.base st) s).base = step p st s.base ∧
      (sstep cfg p home (.base st) s).own = ownAfter s.own st s.base.store (step p st s.base).store) ∨
    ((sstep cfg p home (.base st) s).base = tick s.base ∧ (sstep cfg p home (.base st) s).own = s.own) := by
  simp only [sstep]
  split
  · exact Or.inl ⟨rfl, rfl⟩
  · exact Or.inr ⟨rfl, rfl⟩

theorem sstep_base_inst (cfg : StartCfg) (p : Proto) (home : Homes) (st : Step) (s : SSys) :
    (sstep cfg p home (.base st) s).inst = s.inst := by
  simp only [sstep]
  split <;> rfl

theorem sstep_code (p : Proto) (home : Homes) (x : SStep) (s : SSys) :
    (∃ st, x = .base st ∧ (sstep codeStart p home x s).base = step p st s.base ∧
      (sstep codeStart p home x s).own = ownAfter s.own st s.base.store (step p st s.base).store) ∨
    ((sstep codeStart p home x s).base = tick s.base ∧ (sstep codeStart p home x s).own = s.own) := by
  cases x with
  | start j => exact .inr (sstep_start_code p home j s)
  | base st => exact (sstep_base_cases codeStart p home st s).imp (fun h => ⟨st, rfl, h⟩) id

theorem Inv.step_effect {p : Proto} {L : Nat} {s : Sys} (h : Inv p L s) (hcas : p.useCas = true)
    (hchk : p.checkOk = true) (hg : p.guard = true) (st : Step) (hnf : st.isForeign = false) :
    ((step p st s).store = s.store ∧ (step p st s).log = s.log) ∨
    ∃ r, r.num = s.store.level + 1 ∧ (step p st s).store.level = s.store.level + 1 ∧
      (step p st s).log = s.log ++ [r] := by
  have ha := act_spec p st s
  unfold step
  generalize act p st s = s' at ha
  cases ha with
  | skip | readAbsent | readPresent | fin => exact .inl ⟨rfl, rfl⟩
  | won hc hok =>
    obtain ⟨h1, h2, h3⟩ := h.casWin_level hc (hok hcas) (h.not_max hg hc)
    exact .inr ⟨_, h3.trans (h1 ▸ rfl), h2.trans (h1 ▸ rfl), rfl⟩
  | unchecked _ hno => rw [hchk] at hno; cases hno
  | put | del => cases hnf

theorem stepForeignOk_of_not_foreign {st : Step} (s : Sys) (h : st.isForeign = false) : stepForeignOk st s = true := by
  cases st with
  | foreign | del => cases h
  | _ => rfl

theorem inv_sinit (p : Proto) (st : Store) (h : st.WF) : Inv p st.level (sinit st).base := inv_init p st h

theorem sstep_inv {p : Proto} {L : Nat} (hcas : p.useCas = true) (hchk : p.checkOk = true) (hg : p.guard = true)
    (home : Homes) (x : SStep) (s : SSys) (h : Inv p L s.base)
    (hf : ∀ st, x = .base st → stepForeignOk st s.base = true) :
    Inv p L (sstep codeStart p home x s).base := by
  rcases sstep_code p home x s with ⟨st, hx, hb, _⟩ | ⟨hb, _⟩
  · rw [hb]; exact step_inv hcas hchk h st (hf st hx) (guard_noWrap_step hg h st)
  · rw [hb]; exact h.tick

def OwnOk (own : List (Nat × Nat)) : Prop := ∀ ba ∈ own, ba.2 = ba.1 + 1

theorem sstep_own {p : Proto} {L : Nat} (hcas : p.useCas = true) (hchk : p.checkOk = true) (hg : p.guard = true)
    (home : Homes) (x : SStep) (s : SSys) (h : Inv p L s.base) (ho : OwnOk s.own) :
    OwnOk (sstep codeStart p home x s).own := by
  rcases sstep_code p home x s with ⟨st, _, _, hown⟩ | ⟨_, hown⟩
  · rw [hown]
    unfold ownAfter
    split
    · exact ho
    · rename_i hcond
      simp only [Bool.or_eq_true, beq_iff_eq, not_or, Bool.not_eq_true] at hcond
      rcases h.step_effect hcas hchk hg st hcond.1 with ⟨hs, _⟩ | ⟨r, _, hlev, _⟩
      · exact absurd (by rw [hs]) hcond.2
      · intro ba hba
        rcases List.mem_append.1 hba with hba | hba
        · exact ho ba hba
        · cases List.mem_singleton.1 hba
          exact hlev
  · rw [hown]; exact ho

theorem srun_inv {p : Proto} {L : Nat} (hcas : p.useCas = true) (hchk : p.checkOk = true) (hg : p.guard = true)
    (home : Homes) (sched : List SStep) (s : SSys) (h : Inv p L s.base) (ho : OwnOk s.own)
    (hf : SForeignMonotone codeStart p home sched s = true) :
    Inv p L (srun codeStart p home sched s).base ∧ OwnOk (srun codeStart p home sched s).own := by
  induction sched generalizing s with
  | nil => exact ⟨h, ho⟩
  | cons x rest ih =>
    have ho' := sstep_own hcas hchk hg home x s h ho
    cases x with
    | base st =>
      simp only [SForeignMonotone, Bool.and_eq_true] at hf
      exact ih _ (sstep_inv hcas hchk hg home _ s h fun _ e => by cases e; exact hf.1) ho' hf.2
    | start j => exact ih _ (sstep_inv hcas hchk hg home _ s h nofun) ho' hf

theorem ownNeverLowers_of_ownOk (own : List (Nat × Nat)) (h : OwnOk own) : ownNeverLowersB own = true := by
  simp only [ownNeverLowersB, List.all_eq_true, decide_eq_true_eq]
  intro ba hba
  exact h ba hba ▸ Nat.le_succ _

/-- The counter stands at `L + (numbers handed out)` and the numbers are `L+1 … L+m` in order. -/
def Cnt (L : Nat) (s : Sys) : Prop :=
  s.store.level = L + s.log.length ∧ s.log.map (·.num) = List.range' (L + 1) s.log.length

theorem cnt_sinit (st : Store) : Cnt st.level (sinit st).base := ⟨rfl, rfl⟩

theorem sstep_cnt {p : Proto} {L L' : Nat} (hcas : p.useCas = true) (hchk : p.checkOk = true) (hg : p.guard = true)
    (home : Homes) (x : SStep) (s : SSys) (h : Inv p L' s.base) (hc : Cnt L s.base)
    (hnf : ∀ st, x = .base st → st.isForeign = false) :
    Cnt L (sstep codeStart p home x s).base := by
  rcases sstep_code p home x s with ⟨st, hx, hb, _⟩ | ⟨hb, _⟩
  · rw [hb]
    rcases h.step_effect hcas hchk hg st (hnf st hx) with ⟨hs, hl⟩ | ⟨r, hr, hlev, hl⟩
    · unfold Cnt; rw [hs, hl]; exact hc
    · unfold Cnt
      rw [hlev, hl, List.map_append, hc.2, List.length_append, List.length_singleton, List.range'_concat, hc.1]
      exact ⟨Nat.add_assoc .., by simp only [List.map_cons, List.map_nil, hr, hc.1, Nat.one_mul, Nat.add_right_comm L 1]⟩
  · rw [hb]; exact hc

theorem srun_cnt {p : Proto} {L L' : Nat} (hcas : p.useCas = true) (hchk : p.checkOk = true) (hg : p.guard = true)
    (home : Homes) (sched : List SStep) (s : SSys) (h : Inv p L' s.base) (hc : Cnt L s.base)
    (hnf : noForeign sched = true) :
    Inv p L' (srun codeStart p home sched s).base ∧ Cnt L (srun codeStart p home sched s).base := by
  induction sched generalizing s with
  | nil => exact ⟨h, hc⟩
  | cons x rest ih =>
    cases x with
    | base st =>
      simp only [noForeign, Bool.and_eq_true, Bool.not_eq_true'] at hnf
      exact ih _ (sstep_inv hcas hchk hg home _ s h fun _ e => by cases e; exact stepForeignOk_of_not_foreign _ hnf.1)
        (sstep_cnt hcas hchk hg home _ s h hc fun _ e => by cases e; exact hnf.1) hnf.2
    | start j => exact ih _ (sstep_inv hcas hchk hg home _ s h nofun) (sstep_cnt hcas hchk hg home _ s h hc nofun) hnf

end RunNumber
