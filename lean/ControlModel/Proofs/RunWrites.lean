/-
  Proofs/RunWrites — C07: every number handed out is paid for by a write request of the very call
  that returns it (any protocol setting), and with the CAS answer checked the store's index advances
  exactly once per number handed out — any schedule, no hypothesis on foreign writers.
-/
import ControlModel.Proofs.RunNumber

namespace RunNumber

/-- Every `done … ok` caller has had its own write processed and owns a log entry. -/
def Own (s : Sys) : Prop :=
  ∀ c v t t' q, s.callers c = .done v .ok t t' q →
    q.isSome = true ∧ ({ caller := c, num := v, started := t, ended := t' } : Ret) ∈ s.log

theorem own_init (st : Store) : Own (init st) := nofun

private theorem setCaller_eq (f : Nat → CState) (c d : Nat) (x : CState) :
    setCaller f c x d = if d = c then x else f d := rfl

private theorem own_set {s : Sys} (h : Own s) (c : Nat) (x : CState) (log' : List Ret)
    (hx : ∀ v t t' q, x = .done v .ok t t' q →
      q.isSome = true ∧ ({ caller := c, num := v, started := t, ended := t' } : Ret) ∈ log')
    (hl : ∀ r, r ∈ s.log → r ∈ log') (st' : Store) (k : Nat) :
    Own { store := st', callers := setCaller s.callers c x, log := log', clock := k } := by
  intro d v t t' q hd
  simp only [setCaller_eq] at hd
  split at hd
  · rename_i hdc; subst hdc; exact hx v t t' q hd
  · exact ⟨(h d v t t' q hd).1, hl _ (h d v t t' q hd).2⟩

theorem own_step (p : Proto) (st : Step) (s : Sys) (h : Own s) : Own (step p st s) := by
  have ha := act_spec p st s
  unfold step
  generalize act p st s = s' at ha
  have park : ∀ c x, adopted x = none →
      Own { s with callers := setCaller s.callers c x, clock := s.clock + 1 } :=
    fun c x hx => own_set h c x s.log (fun v t t' q e => by rw [e] at hx; cases hx) (fun _ hr => hr) _ _
  have award : ∀ c v i t st', Own
      { store := st', callers := setCaller s.callers c (.done (incr32 v) .ok t s.clock (some i)),
        log := s.log ++ [{ caller := c, num := incr32 v, started := t, ended := s.clock }], clock := s.clock + 1 } :=
    fun c v i t st' => own_set h c _ _
      (fun _ _ _ _ e => by cases e; exact ⟨rfl, List.mem_append_right _ (List.mem_singleton_self _)⟩)
      (fun _ hr => List.mem_append_left _ hr) _ _
  cases ha with
  | skip | put | del => exact h
  | readAbsent | readPresent => exact park _ _ rfl
  | fin _ _ hx => exact park _ _ hx
  | won | unchecked => exact award _ _ _ _ _

theorem run_own (p : Proto) : ∀ (sched : List Step) (s : Sys), Own s → Own (run p sched s)
  | [], _, h => h
  | st :: rest, s, h => run_own p rest _ (own_step p st s h)

def foreignOps : List Step → Nat
  | [] => 0
  | .foreign _ :: rest => foreignOps rest + 1
  | .del :: rest => foreignOps rest + 1
  | _ :: rest => foreignOps rest

theorem foreignOps_cons (st : Step) (rest : List Step) :
    foreignOps (st :: rest) = foreignOps [st] + foreignOps rest := by
  cases st <;> simp only [foreignOps, Nat.zero_add, Nat.add_comm]

theorem foreignOps_isOf {st : Step} {c : Nat} (h : st.isOf c = true) : foreignOps [st] = 0 := by
  cases st with
  | foreign | del => cases h
  | _ => rfl

theorem step_raft (p : Proto) (hchk : p.checkOk = true) (st : Step) (s : Sys) :
    (step p st s).store.raft + s.log.length =
      s.store.raft + (step p st s).log.length + foreignOps [st] := by
  have ha := act_spec p st s
  unfold step
  generalize act p st s = s' at ha
  cases ha with
  | skip hst | fin _ hst => rw [foreignOps_isOf hst]; rfl
  | readAbsent | readPresent => rfl
  | won => simp only [Store.write, List.length_append, List.length_singleton, foreignOps]; omega
  | unchecked _ hno => rw [hchk] at hno; cases hno
  | put | del => exact Nat.add_right_comm ..

theorem run_raft (p : Proto) (hchk : p.checkOk = true) : ∀ (sched : List Step) (s : Sys),
    (run p sched s).store.raft + s.log.length =
      s.store.raft + (run p sched s).log.length + foreignOps sched
  | [], s => rfl
  | st :: rest, s => by
    have h1 := step_raft p hchk st s
    have h2 := run_raft p hchk rest (step p st s)
    rw [foreignOps_cons]
    simp only [run]
    omega

/-- The model's state of caller `c`, read the way the driver reads an observation back
    (`Driver.C07.parseCall` on `Driver.C07.callSx`): the write request is answered `true` exactly
    when the call returns without error, `false` exactly when it returns the CAS error — which is
    what Consul answered only for a protocol that checks the answer (`checkOk`). -/
def callObsOf (c : Nat) : CState → CallObs
  | .done v e t t' q =>
    { caller := c, ok := if e = .ok then some v else none, started := t, ended := t',
      refused := q.isSome && e == .cas, wrote := q.isSome && e == .ok }
  | _ => { caller := c, ok := none, started := 0, ended := 0, refused := false, wrote := false }

def obsOf (n : Nat) (s : Sys) : List CallObs := (List.range n).map fun c => callObsOf c (s.callers c)

theorem callObsOf_ok (c : Nat) (x : CState) : (callObsOf c x).ok = adopted x := by
  cases x with
  | done v e t t' q => cases e <;> rfl
  | _ => rfl

theorem callObsOf_refused (c : Nat) (x : CState) (h : (callObsOf c x).refused = true) : adopted x = none := by
  cases x with
  | done v e t t' q =>
    cases e with
    | ok => rw [callObsOf, Bool.and_comm] at h; cases h
    | _ => rfl
  | _ => rfl

theorem callObsOf_wrote (c v t t' : Nat) (q : Option Nat) :
    (callObsOf c (.done v .ok t t' q)).wrote = q.isSome := Bool.and_true _

theorem ownWrite_obs (n : Nat) (s : Sys) (h : Own s) : ownWriteB (obsOf n s) = true := by
  simp only [ownWriteB, obsOf, List.all_map, List.all_eq_true, Function.comp_apply, Bool.or_eq_true]
  intro c _
  rw [callObsOf_ok]
  cases hc : adopted (s.callers c) with
  | none => exact Or.inl rfl
  | some v =>
    obtain ⟨t, t', q, hq⟩ := adopted_eq_some hc
    rw [hq, callObsOf_wrote]
    exact Or.inr (h c v t t' q hq).1

/-- No hypothesis at all: it is how a `done` state is read. -/
theorem refused_obs (n : Nat) (s : Sys) : refusedIsErr (obsOf n s) = true := by
  simp only [refusedIsErr, obsOf, List.all_map, List.all_eq_true, Function.comp_apply, Bool.or_eq_true,
    Bool.not_eq_true', Option.isNone_iff_eq_none]
  intro c _
  rw [callObsOf_ok]
  cases hr : (callObsOf c (s.callers c)).refused with
  | false => exact Or.inl rfl
  | true => exact Or.inr (callObsOf_refused c _ hr)

end RunNumber
