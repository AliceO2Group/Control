/-
  Proofs/SparseStatus — the layer of Model/SparseStatus.lean is conservative for the code's guards, and what follows
  from that (core Lean only).
-/
import ControlModel.Proofs.Resubscribe
import ControlModel.Proofs.TaskIds
open Reconcile Spec.C18

namespace Reconcile

theorem sstep_code (c : Cfg) (r : RSt) (x : SStep) : sstep TaskIds.codeGuards c r x = rstep c r x.erase := by
  cases x with
  | r y => rfl
  | handleSparse na ne =>
    simp only [sstep, SStep.erase, TaskIds.unlocks_code]
    split <;> simp

theorem sstep_full (g : TaskIds.Guards) (c : Cfg) (r : RSt) :
    sstep g c r (.handleSparse false false) = rstep c r (.base .handle) := by
  simp only [sstep, Bool.not_false, show ∀ k, TaskIds.unlocks g k ⟨true, true⟩ = false from TaskIds.unlocks_full g]
  split <;> simp

theorem srun_code (c : Cfg) (h : List SStep) (r : RSt) :
    srun TaskIds.codeGuards c h r = rrun c (h.map SStep.erase) r := by
  induction h generalizing r with
  | nil => rfl
  | cons x xs ih => simp only [srun, List.map_cons, rrun, sstep_code, ih]

theorem heldView_all_locked (s : St) (h : InvR s) : (heldView s).all (·.2) = true := by
  simp only [heldView, List.all_map, List.all_eq_true, Function.comp]
  intro p hp
  obtain ⟨r, hr, h1, _, h3⟩ := h.complete p hp
  simp only [lockedIn, List.any_eq_true, Bool.and_eq_true, beq_iff_eq]
  exact ⟨r, hr, h1, h3⟩

theorem heldLocked_sviews (c : Cfg) (hrw : c.snapshotRewrite = false) (h : List SStep) (r : RSt)
    (hr : Reach c (fun _ => true) r.base) : heldLocked (sviews TaskIds.codeGuards c h r) = true := by
  induction h generalizing r with
  | nil => rfl
  | cons x xs ih =>
    have hr' : Reach c (fun _ => true) (sstep TaskIds.codeGuards c r x).base := by
      rw [sstep_code]; exact hr.rstep _ fun _ _ => rfl
    simp only [sviews, heldLocked, List.all_append, Bool.and_eq_true]
    refine ⟨?_, ih _ hr'⟩
    split
    · simp only [List.all_cons, List.all_nil, Bool.and_true]
      exact heldView_all_locked _ (hr'.invR hrw)
    · rfl

end Reconcile
