/-
  Proofs/TaskIds — `isLocked` against status updates: which update takes the lock off a locked task under which nil
  guards (`locked_onStatus`), and that under the code's guards none does (core Lean only).
-/
import ControlModel.Model.TaskIds

namespace TaskIds

theorem copyId_guarded (stored carried : Bool) (h : stored = true) : copyId true stored carried = true := by
  cases carried <;> simp [copyId, h]

theorem copyId_carried (guard stored : Bool) : copyId guard stored true = true := by simp [copyId]

theorem copyId_unguarded_absent (stored : Bool) : copyId false stored false = false := by simp [copyId]

theorem locked_onStatus (g : Guards) (k : Kind) (u : Carried) (f : Fields) (h : f.locked = true) :
    (onStatus g k u f).locked = !unlocks g k u := by
  obtain ⟨ga, ge⟩ := g
  obtain ⟨ua, ue⟩ := u
  obtain ⟨a, b, c, d, e, p⟩ := f
  simp only [Fields.locked, Bool.and_eq_true] at h
  obtain ⟨⟨⟨⟨⟨rfl, rfl⟩, rfl⟩, rfl⟩, rfl⟩, rfl⟩ := h
  -- only TASK_RUNNING writes, and only the two ids
  cases k
  · cases ga <;> cases ge <;> cases ua <;> cases ue <;> rfl
  · rfl
  · rfl

theorem unlocks_code (k : Kind) (u : Carried) : unlocks codeGuards k u = false := by
  cases k <;> simp [unlocks, codeGuards]

theorem unlocks_full (g : Guards) (k : Kind) : unlocks g k Carried.full = false := by
  cases k <;> simp [unlocks, Carried.full]

theorem locked_onStatus_code (k : Kind) (u : Carried) (f : Fields) (h : f.locked = true) :
    (onStatus codeGuards k u f).locked = true := by
  rw [locked_onStatus codeGuards k u f h, unlocks_code]; rfl

/-- `Carried.full` is what the AliECS executor sends: ordinary operation cannot tell the guard configurations apart. -/
theorem locked_onStatus_full (g : Guards) (k : Kind) (f : Fields) (h : f.locked = true) :
    (onStatus g k Carried.full f).locked = true := by
  rw [locked_onStatus g k Carried.full f h, unlocks_full]; rfl

theorem onStatus_not_running (g : Guards) (k : Kind) (u : Carried) (f : Fields) (h : k ≠ .running) :
    onStatus g k u f = f := by
  cases k
  · exact absurd rfl h
  · rfl
  · rfl

theorem onStatus_code_of_ids (k : Kind) (u : Carried) (f : Fields) (ha : f.agentId = true) (he : f.executorId = true) :
    onStatus codeGuards k u f = f := by
  obtain ⟨a, b, c, d, e, p⟩ := f
  simp only at ha he
  subst ha he
  obtain ⟨ua, ue⟩ := u
  cases k <;> cases ua <;> cases ue <;> rfl

/-- The two witnesses: a TASK_RUNNING without agent_id, one without executor_id. -/
theorem unlocks_none_iff (g : Guards) : (∀ k u, unlocks g k u = false) ↔ g = codeGuards := by
  constructor
  · intro h
    obtain ⟨ga, ge⟩ := g
    have h1 := h .running { agent := false, executor := true }
    have h2 := h .running { agent := true, executor := false }
    cases ga
    · exact Bool.noConfusion h1
    · cases ge
      · exact Bool.noConfusion h2
      · rfl
  · rintro rfl k u
    exact unlocks_code k u

theorem guards_needed (g : Guards) :
    (∀ (k : Kind) (u : Carried) (f : Fields), f.locked = true → (onStatus g k u f).locked = true) ↔ g = codeGuards := by
  rw [← unlocks_none_iff]
  constructor
  · intro h k u
    -- whether an update unlocks does not depend on the locked task: ask one that has every field
    have := h k u ⟨true, true, true, true, true, true⟩ rfl
    rwa [locked_onStatus g k u _ rfl, Bool.not_eq_true'] at this
  · intro h k u f hf
    rw [locked_onStatus g k u f hf, h]; rfl

theorem unguarded_unlocks :
    (onStatus noGuards .running { agent := true, executor := false } ⟨true, true, true, true, true, true⟩).locked = false := by
  decide

end TaskIds
