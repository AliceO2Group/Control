/-
  Proofs/Transition — one transition, from the tasks' answers to what ControlEnvironment reports.

  Each layer of Model/Transition is brought into a closed form that holds for EVERY configuration, the repairs
  appearing as conditions: the task-level bodies (`bodyFor_ok_iff`: every critical target acknowledged and, inside a
  corner, the corner's repair is on), the DEPLOY wait (`deployBody_ok_iff`), the handler (`controlRpc_reports_iff`
  without hooks; after a failed body, ERROR whatever the hooks). Underneath: the environment machine without hooks,
  whose passes are calm (`calm_nil` of Proofs/Env, `fsmEvent_nohooks`). Last, the roster: `GetTask` goes by task id,
  which no FAILURE event rewrites, so the classification of a command's responses does not depend on the losses
  handled meanwhile (`bodyForR_eq`).
-/
import ControlModel.Proofs.Env
import ControlModel.Proofs.RoleTree
import ControlModel.Spec.C02
import ControlModel.Proofs.Lists

namespace EnvM

theorem setEoeor_pending (env : Env) (tr : String) (s : RunStatus) :
    (setEoeorIfEmpty env tr s).1.pending = env.pending ∧ (setEoeorIfEmpty env tr s).1.st = env.st :=
  ⟨setEoeor_frame Env.pending (fun _ _ _ => rfl) env tr s, setEoeor_frame Env.st (fun _ _ _ => rfl) env tr s⟩

theorem fsmEvent_nohooks (env : Env) (e : Ev) (d : St) (b : Bool) (hp : env.pending = [])
    (hd : dst? e env.st = some d) :
    (fsmEvent env [] e b false).1.pending = [] ∧
    (fsmEvent env [] e b false).2.2.isOk = b ∧
    (fsmEvent env [] e b false).1.st = (if b then d else env.st) := by
  obtain ⟨hres, hpend⟩ := calm_nil.fsmEvent env e b false hp
  have hres' : (fsmEvent env [] e b false).2.2 = if b = true then .ok else .cancelledBody := by
    rw [hres, calmResult, if_neg (by rw [hd]; nofun), Bool.and_false, if_neg nofun]
  refine ⟨hpend, by rw [hres']; cases b <;> rfl, ?_⟩
  obtain ⟨hst, hk⟩ | ⟨d', hd', hst, hm⟩ := fsmEvent_st env [] e b false
  · rw [hres'] at hk; cases b
    · exact hst
    · cases hk
  · rw [hres'] at hm; cases b
    · cases hm
    · rw [hst]; exact Option.some.inj (hd'.symm.trans hd)

theorem commands_dst (e : Ev) (s : St) (he : Trans.commands e = true) : dst? e s ≠ some .ERROR := by
  cases e with
  | CONFIGURE | START_ACTIVITY | STOP_ACTIVITY | RESET => cases s <;> nofun
  | _ => cases he

end EnvM

namespace Trans
open EnvM
open RoleTree (TStatus)

theorem watcher_st (env : Env) (hooks : List Hook) : (watcher env hooks).st = .ERROR :=
  goError_else_st env hooks true false (by split; assumption; rfl)

theorem controlRpc_failed_error (cfg : Cfg) (env : Env) (hooks : List Hook) (e : Ev) (b r w : Bool)
    (hf : (tryTransition env hooks e b r).2.2.isOk = false) :
    (controlRpc cfg env hooks e b r w).1.st = .ERROR := by
  unfold controlRpc
  simp only [hf, Bool.false_eq_true, ↓reduceIte]
  exact goError_else_st _ hooks true false rfl

theorem controlRpc_failed_status (cfg : Cfg) (env : Env) (hooks : List Hook) (e : Ev) (b r w : Bool)
    (hf : (tryTransition env hooks e b r).2.2.isOk = false)
    (hs : (controlRpc cfg env hooks e b r w).2 = true) : cfg.keepTransitionError = false := by
  unfold controlRpc at hs
  simp only [hf, Bool.false_eq_true, ↓reduceIte] at hs
  cases hk : cfg.keepTransitionError
  · rfl
  · rw [hk, if_pos rfl] at hs; cases hs

/-- The watcher got the mutex first: the handler's own GO_ERROR is then refused — the environment is in ERROR, where
    GO_ERROR is not possible — so whichever result the status is made from is an error. -/
theorem controlRpc_failed_watcherFirst (cfg : Cfg) (env : Env) (hooks : List Hook) (e : Ev) (b r : Bool)
    (hf : (tryTransition env hooks e b r).2.2.isOk = false) : (controlRpc cfg env hooks e b r true).2 = false := by
  unfold controlRpc
  simp only [hf, Bool.false_eq_true, ↓reduceIte]
  rw [tryTransition, fsmEvent_illegal _ hooks .GO_ERROR true false (by rw [watcher_st]; rfl)]
  cases cfg.keepTransitionError <;> rfl

theorem controlRpc_ok (cfg : Cfg) (env : Env) (hooks : List Hook) (e : Ev) (b r w : Bool)
    (hf : (tryTransition env hooks e b r).2.2.isOk = true) :
    controlRpc cfg env hooks e b r w = ((tryTransition env hooks e b r).1, true) := by
  unfold controlRpc; simp only [hf, ↓reduceIte]

theorem controlRpc_reports_iff (cfg : Cfg) (env : Env) (e : Ev) (d : St) (b w : Bool) (hp : env.pending = [])
    (hd : dst? e env.st = some d) (hne : d ≠ .ERROR) :
    ((controlRpc cfg env [] e b false w).2 = true ∧ (controlRpc cfg env [] e b false w).1.st = d) ↔ b = true := by
  cases b
  · have := controlRpc_failed_error cfg env [] e false false w (fsmEvent_body_fails env [] e false)
    rw [this]
    exact ⟨fun h => absurd h.2.symm hne, nofun⟩
  · have hf := fsmEvent_nohooks env e d true hp hd
    rw [controlRpc_ok cfg env [] e true false w hf.2.1]
    exact ⟨fun _ => rfl, fun _ => ⟨rfl, hf.2.2⟩⟩

theorem entryErr_runCommand (o : Outcome) : entryErr (runCommand o) = !decide (o = .ok) := by
  cases o <;> rfl

theorem commit_any (ts : List Target) :
    (commit ts).any (fun e => e.1 && e.2) = !(allCriticalAcked ts) := by
  simp only [commit, allCriticalAcked, List.any_map, List.not_all_eq_any_not]
  congr 1; funext t
  simp only [Function.comp_apply, entryErr_runCommand, Bool.not_or, Bool.not_not]

theorem harmless_acked (ts : List Target) (h : ∀ t ∈ ts, t.2 ≠ .ok → t.1 = false) : allCriticalAcked ts = true := by
  refine List.all_eq_true.2 fun t ht => ?_
  by_cases ho : t.2 = .ok
  · rw [ho]; exact Bool.or_true _
  · rw [h t ht ho]; rfl

theorem classify_commit (cfg : Cfg) (ts : List Target) :
    classify cfg (consolidate (commit ts)) =
      (!noTargets ts && allCriticalAcked ts && (cfg.singleUsesCritical || !singleNoncritFail ts)) := by
  match ts with
  | [] => rfl
  | [(c, o)] =>
    simp only [commit, List.map_cons, List.map_nil, consolidate, classify, entryErr_runCommand, noTargets, allCriticalAcked,
      singleNoncritFail, List.all_cons, List.all_nil, List.isEmpty_cons, ne_eq, decide_not]
    generalize decide (o = .ok) = a
    cases cfg.singleUsesCritical <;> cases c <;> cases a <;> rfl
  | t :: t' :: ts =>
    have := commit_any (t :: t' :: ts)
    simp only [commit, List.map_cons] at this
    simp only [commit, List.map_cons, consolidate, classify, this, noTargets, singleNoncritFail, List.isEmpty_cons,
      Bool.not_false, Bool.true_and, Bool.not_not, Bool.or_true, Bool.and_true]

theorem bodyFor_commands (cfg : Cfg) (e : Ev) (he : commands e = true) (ts : List Target) :
    bodyFor cfg e ts =
      if noTargets ts then (if cfg.emptyIsSuccess then .ok else if e = .CONFIGURE then .hang else .error)
      else if classify cfg (consolidate (commit ts)) then .ok else .error := by
  obtain ⟨f1, f2, f3, f5, f6⟩ := cfg
  cases e with
  | CONFIGURE => cases ts <;> rfl
  | START_ACTIVITY | STOP_ACTIVITY | RESET => cases ts <;> cases f2 <;> rfl
  | _ => cases he

theorem bodyFor_ok_iff (cfg : Cfg) (e : Ev) (he : commands e = true) (ts : List Target) :
    bodyFor cfg e ts = .ok ↔
      allCriticalAcked ts = true ∧ (noTargets ts = true → cfg.emptyIsSuccess = true) ∧
        (singleNoncritFail ts = true → cfg.singleUsesCritical = true) := by
  rw [bodyFor_commands cfg e he, classify_commit]
  cases ts with
  | nil =>
    simp only [noTargets, List.isEmpty_nil, ↓reduceIte, allCriticalAcked, List.all_nil, singleNoncritFail, true_and,
      forall_const, Bool.false_eq_true, false_imp_iff, and_true]
    cases cfg.emptyIsSuccess
    · simp only [Bool.false_eq_true, ↓reduceIte, iff_false]; split <;> nofun
    · simp only [↓reduceIte]
  | cons t ts =>
    simp only [noTargets, List.isEmpty_cons, Bool.false_eq_true, ↓reduceIte, Bool.not_false, Bool.true_and,
      false_imp_iff, true_and]
    cases allCriticalAcked (t :: ts) <;> cases singleNoncritFail (t :: ts) <;> cases cfg.singleUsesCritical <;> simp

theorem bodyFor_failed_acked (cfg : Cfg) (e : Ev) (he : commands e = true) (ts : List Target)
    (hb : bodyFor cfg e ts ≠ .ok) (ha : allCriticalAcked ts = true) :
    (noTargets ts = true ∧ cfg.emptyIsSuccess = false) ∨
      (singleNoncritFail ts = true ∧ cfg.singleUsesCritical = false) := by
  rw [Ne, bodyFor_ok_iff cfg e he] at hb
  refine Decidable.byContradiction fun hno => hb ⟨ha, fun h0 => ?_, fun h1 => ?_⟩
  · cases h : cfg.emptyIsSuccess
    · exact absurd (Or.inl ⟨h0, h⟩) hno
    · rfl
  · cases h : cfg.singleUsesCritical
    · exact absurd (Or.inr ⟨h1, h⟩) hno
    · rfl

theorem bodyFor_hang (cfg : Cfg) (e : Ev) (he : commands e = true) (ts : List Target) (h : bodyFor cfg e ts = .hang) :
    e = .CONFIGURE ∧ ts = [] ∧ cfg.emptyIsSuccess = false := by
  rw [bodyFor_commands cfg e he] at h
  by_cases h0 : noTargets ts = true
  · rw [if_pos h0] at h
    by_cases hf : cfg.emptyIsSuccess = true
    · rw [if_pos hf] at h; cases h
    · rw [if_neg hf] at h
      by_cases hce : e = .CONFIGURE
      · exact ⟨hce, List.isEmpty_iff.1 h0, Bool.eq_false_iff.2 hf⟩
      · rw [if_neg hce] at h; cases h
  · rw [if_neg h0] at h; split at h <;> cases h

theorem aggFrom_active (acc : TStatus) (l : List TStatus) :
    aggFrom acc l = .ACTIVE ↔ acc = .ACTIVE ∧ ∀ s ∈ l, s = .ACTIVE := by
  fun_induction aggFrom acc l with
  | case1 | case2 => simp
  | case3 _ _ _ _ ih => rw [ih, RoleTree.U_active]; simp [and_assoc]

theorem aggregateStatus_active (l : List TStatus) :
    aggregateStatus l = .ACTIVE ↔ l ≠ [] ∧ ∀ s ∈ l, s = .ACTIVE := by
  cases l with
  | nil => simp [aggregateStatus]
  | cons s r => simp [aggregateStatus, aggFrom_active]

theorem leafStatus_active (c : Bool) (l : Launch) : leafStatus c l = .ACTIVE ↔ l = .ok := by
  cases l <;> cases c <;> decide

theorem deployAwaits_false (ls : List (Bool × Launch)) (calls : Nat) :
    deployAwaits ls calls = false ↔ (ls = [] ∧ calls = 0) := by
  cases ls <;> simp [deployAwaits]

theorem rootStatus_active (ls : List (Bool × Launch)) (calls : Nat) :
    rootStatus ls calls = .ACTIVE ↔ deployAwaits ls calls = true ∧ ∀ l ∈ ls, l.2 = .ok := by
  unfold rootStatus
  rw [aggregateStatus_active]
  refine and_congr ?_ ?_
  · cases ls with
    | cons _ _ => simp [deployAwaits]
    | nil => cases calls <;> simp [deployAwaits, List.replicate_succ]
  · simp only [List.mem_append, List.mem_map, List.mem_replicate]
    constructor
    · intro h l hl
      exact (leafStatus_active _ _).1 (h _ (Or.inl ⟨l, hl, rfl⟩))
    · rintro h s (⟨l, hl, rfl⟩ | ⟨_, rfl⟩)
      · exact (leafStatus_active _ _).2 (h l hl)
      · rfl

theorem deployBody_ok (cfg : Cfg) (ls : List (Bool × Launch)) (calls : Nat) (lost : Bool) :
    deployBody cfg ls calls lost = .ok ↔
      (∀ l ∈ ls, l.2 = .ok) ∧
        (if deployAwaits ls calls then cfg.deployHears lost = true else cfg.deployEmptyIsSuccess = true) := by
  unfold deployBody
  cases ha : deployAwaits ls calls
  · obtain ⟨rfl, rfl⟩ := (deployAwaits_false ls calls).1 ha
    have : rootStatus [] 0 ≠ .ACTIVE := by decide
    cases cfg.deployEmptyIsSuccess <;> simp [this]
  · simp only [Bool.not_true, Bool.and_false, Bool.false_eq_true, ↓reduceIte, rootStatus_active, ha, true_and]
    split
    · exact iff_of_true rfl ‹_›
    · exact iff_of_false nofun ‹_›

theorem deployBody_code_ok (ls : List (Bool × Launch)) (calls : Nat) (lost : Bool) :
    deployBody Cfg.code ls calls lost = .ok ↔ ∀ l ∈ ls, l.2 = .ok := by
  rw [deployBody_ok]
  refine and_iff_left ?_
  cases deployAwaits ls calls
  · exact rfl
  · exact Bool.or_true _

theorem launch_ok_iff (l : Bool × Launch) :
    l.2 = .ok ↔ (!l.1 || l.2.started) = true ∧ (!l.1 && !l.2.started) = false ∧ decide (l.2 = .okEarly) = false := by
  obtain ⟨c, x⟩ := l
  cases c <;> cases x <;> decide

theorem all_launched_iff (ls : List (Bool × Launch)) :
    (∀ l ∈ ls, l.2 = .ok) ↔
      allCriticalLaunched ls = true ∧ noncritLaunchFail ls = false ∧ earlyRunning ls = false := by
  simp only [allCriticalLaunched, noncritLaunchFail, earlyRunning, List.all_eq_true, List.any_eq_false, launch_ok_iff,
    Bool.not_eq_true]
  exact ⟨fun h => ⟨fun l hl => (h l hl).1, fun l hl => (h l hl).2.1, fun l hl => (h l hl).2.2⟩,
    fun h l hl => ⟨h.1 l hl, h.2.1 l hl, h.2.2 l hl⟩⟩

theorem deployBody_ok_iff (cfg : Cfg) (ls : List (Bool × Launch)) (calls : Nat) (lost : Bool) :
    deployBody cfg ls calls lost = .ok ↔
      allCriticalLaunched ls = true ∧ noncritLaunchFail ls = false ∧ earlyRunning ls = false ∧
        (if deployAwaits ls calls then cfg.deployHears lost = true else cfg.deployEmptyIsSuccess = true) := by
  rw [deployBody_ok, all_launched_iff, and_assoc, and_assoc]

theorem emptyWorkflow_eq (wf : Workflow) : emptyWorkflow wf = !deployAwaits wf.tasks wf.calls := by
  obtain ⟨calls, tasks, _⟩ := wf
  cases tasks <;> cases calls <;> rfl

theorem deployBody_not_hang (cfg : Cfg) (ls : List (Bool × Launch)) (calls : Nat) (lost : Bool) :
    deployBody cfg ls calls lost ≠ .hang := by
  fun_cases deployBody cfg ls calls lost <;> nofun

theorem getTask_map (f : RTask → RTask) (hf : ∀ t, (f t).taskId = t.taskId) (r : List RTask) (id : Nat) :
    getTask (r.map f) id = (getTask r id).map f := by
  rw [getTask, List.find?_map, show (fun t => t.taskId == id) ∘ f = fun t => t.taskId == id from
    funext fun t => congrArg (· == id) (hf t)]
  rfl

theorem applyLoss_map (l : LossEv) : ∃ f : RTask → RTask,
    (∀ t, (f t).taskId = t.taskId ∧ (f t).critical = t.critical) ∧ ∀ r, applyLoss l r = r.map f := by
  cases l with
  | executor x => exact ⟨_, fun t => by split <;> exact ⟨rfl, rfl⟩, fun _ => rfl⟩
  | agent a => exact ⟨_, fun t => by split <;> exact ⟨rfl, rfl⟩, fun _ => rfl⟩

theorem getTask_applyLoss (l : LossEv) (r : List RTask) (id : Nat) :
    (getTask (applyLoss l r) id).map (·.critical) = (getTask r id).map (·.critical) := by
  obtain ⟨f, hf, hmap⟩ := applyLoss_map l
  rw [hmap, getTask_map f (fun t => (hf t).1)]
  cases getTask r id with
  | none => rfl
  | some t => exact congrArg some (hf t).2

theorem getTask_applyLosses (L : List LossEv) (r : List RTask) (id : Nat) :
    (getTask (applyLosses L r) id).map (·.critical) = (getTask r id).map (·.critical) := by
  induction L generalizing r with
  | nil => rfl
  | cons l L ih =>
    simp only [applyLosses, List.foldl_cons] at ih ⊢
    rw [ih (applyLoss l r), getTask_applyLoss]

theorem critOfFailed_eq (r : List RTask) (k : CmdTarget) :
    critOfFailed r k = ((getTask r k.taskId).map (·.critical)).getD false := by
  unfold critOfFailed; cases getTask r k.taskId <;> rfl

theorem isCriticalTarget_eq (r : List RTask) (k : CmdTarget) :
    isCriticalTarget r k = ((getTask r k.taskId).map (·.critical)).getD true := by
  unfold isCriticalTarget; cases getTask r k.taskId <;> rfl

theorem critOfFailed_applyLosses (L : List LossEv) (r : List RTask) (k : CmdTarget) :
    critOfFailed (applyLosses L r) k = critOfFailed r k := by
  rw [critOfFailed_eq, critOfFailed_eq, getTask_applyLosses]

theorem isCriticalTarget_applyLosses (L : List LossEv) (r : List RTask) (k : CmdTarget) :
    isCriticalTarget (applyLosses L r) k = isCriticalTarget r k := by
  rw [isCriticalTarget_eq, isCriticalTarget_eq, getTask_applyLosses]

theorem classifyR_applyLosses (cfg : Cfg) (L : List LossEv) (r : List RTask) (es : List (CmdTarget × Bool)) :
    classifyR cfg (applyLosses L r) es = classifyR cfg r es := by
  match es with
  | [] => rfl
  | [e] => simp only [classifyR, isCriticalTarget_applyLosses]
  | e :: e' :: es => simp only [classifyR, critOfFailed_applyLosses]

theorem getTask_of_mem (r : List RTask) (t : RTask)
    (huniq : ∀ t ∈ r, ∀ t' ∈ r, t.taskId = t'.taskId → t = t') (ht : t ∈ r) : getTask r t.taskId = some t :=
  List.find?_of_unique ht (beq_self_eq_true _) fun y hy h => huniq y hy t ht (beq_iff_eq.mp h)

theorem commitR_any (r : List RTask) (cs : List (RTask × Outcome))
    (huniq : ∀ t ∈ r, ∀ t' ∈ r, t.taskId = t'.taskId → t = t') (hcs : ∀ c ∈ cs, c.1 ∈ r) :
    (commitR cs).any (fun x => critOfFailed r x.1 && x.2) = (commit (plainTargets cs)).any (fun e => e.1 && e.2) := by
  induction cs with
  | nil => rfl
  | cons c cs ih =>
    have h1 := getTask_of_mem r c.1 huniq (hcs c (List.mem_cons_self ..))
    have ih' := ih (fun c' hc' => hcs c' (List.mem_cons_of_mem _ hc'))
    simp only [commitR, commit, plainTargets, List.map_cons, List.any_cons] at ih' ⊢
    rw [ih']
    simp [critOfFailed, RTask.target, h1]

theorem classifyR_plain (cfg : Cfg) (r : List RTask) (cs : List (RTask × Outcome)) (h : RosterOk r cs) :
    classifyR cfg r (commitR cs) = classify cfg (consolidate (commit (plainTargets cs))) := by
  obtain ⟨huniq, hcs⟩ := h
  match cs, hcs with
  | [], _ => rfl
  | [c], hcs =>
    have h1 := getTask_of_mem r c.1 huniq (hcs c (List.mem_cons_self ..))
    simp [classifyR, commitR, commit, plainTargets, consolidate, classify, isCriticalTarget, RTask.target, h1]
  | c :: c' :: cs, hcs =>
    have := commitR_any r (c :: c' :: cs) huniq hcs
    simp only [commitR, commit, plainTargets, List.map_cons] at this ⊢
    simp only [classifyR, consolidate, classify]
    rw [this]

theorem plainTargets_isEmpty (cs : List (RTask × Outcome)) : (plainTargets cs).isEmpty = cs.isEmpty := by
  cases cs <;> rfl

theorem bodyForR_eq (cfg : Cfg) (e : Ev) (r : List RTask) (cs : List (RTask × Outcome)) (L : List LossEv)
    (h : RosterOk r cs) : bodyForR cfg e r cs L = bodyFor cfg e (plainTargets cs) := by
  have hc := classifyR_plain cfg r cs h
  cases e <;>
    simp only [bodyForR, bodyFor, configureBody, commandBody, configureTasksR, configureTasks, transitionTasksR,
      transitionTasks, classifyR_applyLosses, hc, plainTargets_isEmpty]

end Trans
