/-
  Proofs/TransitionRun — the model's own runs against the verdict of Spec/C02, for every configuration.

  A verdict on what the model does never is the anonymous "-": it names one of the two open DEPLOY corners, and then
  the workflow lies in it, or — on a configuration with some repair switched off — one of the repaired corners
  (`run_verdict`). For the code as it is only the open corners are left (`judge_code`); for the code as it was this is
  the exhaustiveness of the recorded findings. A scenario with offers rounds runs as the plain scenario on the workflow
  as offered in the last round that took place (`runO_code`), so its verdict is that scenario's (`judgeO_code`).
-/
import ControlModel.Proofs.DeployAttempts

namespace Trans
open EnvM

/-- The corners whose defect was repaired in /repo. -/
inductive Repaired : String → Prop
  | emptyWorkflow : Repaired "deploy_empty_workflow"
  | notification : Repaired "deploy_notification_lost"
  | configureHangs : Repaired "configure_nothing_hangs"
  | zeroTargets : Repaired "zero_targets_error"
  | singleTarget : Repaired "single_target_ignores_critical"
  | rpcOk : Repaired "rpc_ok_on_failed_transition"

/-- `h` names an open DEPLOY corner and the workflow lies in it. -/
def OpenCorner (wf : Workflow) (h : String) : Prop :=
  (h = "deploy_misses_active" ∧ earlyRunning wf.tasks = true) ∨
    (h = "deploy_noncritical_blocks" ∧ noncritLaunchFail wf.tasks = true)

/-- What a verdict on the model's own run can be under `cfg`: nothing, an open corner the workflow lies in, or — some
    repair being off — a repaired corner. -/
def Verdict (cfg : Cfg) (wf : Workflow) (r : Option String) : Prop :=
  ∀ h, r = some h → OpenCorner wf h ∨ (cfg ≠ Cfg.code ∧ Repaired h)

theorem ne_code (cfg : Cfg) (f : Cfg → Bool) (hc : f Cfg.code = true) (h : f cfg = false) : cfg ≠ Cfg.code :=
  fun he => by rw [he, hc] at h; cases h

theorem verdict_none (cfg : Cfg) (wf : Workflow) : Verdict cfg wf none := nofun

theorem verdict_repaired (cfg : Cfg) (wf : Workflow) (h : String) (hc : cfg ≠ Cfg.code) (hr : Repaired h) :
    Verdict cfg wf (some h) :=
  fun _ hh => Option.some.inj hh ▸ Or.inr ⟨hc, hr⟩

theorem openCorner_of (wf : Workflow) (h : String) (ho : OpenCorner wf h) : openCorner h = true := by
  rcases ho with ⟨rfl, _⟩ | ⟨rfl, _⟩
  · rw [openCorner, beq_self_eq_true]; rfl
  · rw [openCorner, beq_self_eq_true, Bool.or_true]

theorem openCorner_named {wf : Workflow} {h : String} (ho : OpenCorner wf h) : h ≠ "-" := by
  rcases ho with ⟨rfl, _⟩ | ⟨rfl, _⟩ <;> decide

theorem verdict_named {cfg : Cfg} {wf : Workflow} {r : Option String} (hv : Verdict cfg wf r) : r ≠ some "-" := by
  intro hr
  rcases hv "-" hr with ho | ⟨_, h⟩
  · exact openCorner_named ho rfl
  · generalize hx : "-" = x at h
    cases h <;> revert hx <;> decide

theorem verdict_code {wf : Workflow} {r : Option String} (hv : Verdict Cfg.code wf r) (h : String) (hr : r = some h) :
    OpenCorner wf h :=
  (hv h hr).elim id (fun hc => absurd rfl hc.1)

section request
variable (cfg : Cfg) (wf : Workflow) (env : Env) (tasks : List Task) (e : Ev) (d : St) (outs : List Outcome) (w : Bool)
  (ls : List (Option Loss))

theorem controlStep_hang (hd : dst? e env.st = some d) (hb : bodyFor cfg e (targets (pair tasks (effOuts ls outs))) = .hang) :
    controlStep cfg env tasks e outs w ls =
      ({ ev := some e, rpc := .hang, state := none, after := some env.st, cmd := [] }, env, tasks) := by
  unfold controlStep
  simp only [hd, Option.isSome_some, ↓reduceIte, hb]

theorem controlStep_ok (hp : env.pending = []) (hd : dst? e env.st = some d)
    (hb : bodyFor cfg e (targets (pair tasks (effOuts ls outs))) = .ok) :
    controlStep cfg env tasks e outs w ls =
      ({ ev := some e, rpc := .ok, state := some (if critLost ls tasks && w then .ERROR else d),
         after := some (if critLost ls tasks then .ERROR else d), cmd := cmdIdx tasks, lost := lostIdx ls tasks },
       (tryTransition env [] e true false).1, loseTasks ls (afterCommand tasks (effOuts ls outs))) := by
  have hf := fsmEvent_nohooks env e d true hp hd
  have hr := controlRpc_ok cfg env [] e true false w hf.2.1
  have hst : (tryTransition env [] e true false).1.st = d := hf.2.2
  unfold controlStep
  simp [hd, hb, hr, hst]

/-- What a request whose body failed looks like from outside; `k`: the gRPC status is OK all the same. -/
def failedObs (e : Ev) (k : Bool) (cmd lost : List Nat) : Obs :=
  { ev := some e, rpc := if k then .ok else .err, state := if k then some .ERROR else none, after := some .ERROR,
    cmd := cmd, lost := lost }

theorem controlStep_error (hd : dst? e env.st = some d)
    (hb : bodyFor cfg e (targets (pair tasks (effOuts ls outs))) = .error) :
    ∃ k : Bool, (k = true → cfg.keepTransitionError = false) ∧
      (controlStep cfg env tasks e outs w ls).1 = failedObs e k (cmdIdx tasks) (lostIdx ls tasks) := by
  have hf := fsmEvent_body_fails env [] e false
  have hst := controlRpc_failed_error cfg env [] e false false w hf
  refine ⟨(controlRpc cfg env [] e false false w).2, controlRpc_failed_status cfg env [] e false false w hf, ?_⟩
  unfold controlStep failedObs
  simp [hd, hb, hst]

theorem judgeCtl_ok (e : Ev) (d : St) (ts : List Target) (cmd lost : List Nat) (cl w : Bool)
    (ha : allCriticalAcked ts = true) :
    judgeCtl e d ts { ev := some e, rpc := .ok, state := some (if cl && w then .ERROR else d),
                      after := some (if cl then .ERROR else d), cmd := cmd, lost := lost } cl = none := by
  cases cl <;> cases w <;> simp [judgeCtl, ha, Trans.reqOk]

theorem judgeCtl_hang (d s : St) (cl : Bool) :
    judgeCtl .CONFIGURE d [] { ev := some .CONFIGURE, rpc := .hang, state := none, after := some s, cmd := [] } cl =
      some "configure_nothing_hangs" := by
  cases cl <;> rfl

/-- The corner `judgeCtl` names when the destination is not reported although every critical target acknowledged. -/
def taskCorner (e : Ev) (ts : List Target) : String :=
  if noTargets ts then (if e = .CONFIGURE then "configure_nothing_hangs" else "zero_targets_error")
  else if singleNoncritFail ts then "single_target_ignores_critical" else "-"

theorem taskCorner_repaired (e : Ev) (ts : List Target) (h : noTargets ts = true ∨ singleNoncritFail ts = true) :
    Repaired (taskCorner e ts) := by
  fun_cases taskCorner e ts with
  | case1 => exact .configureHangs
  | case2 => exact .zeroTargets
  | case3 => exact .singleTarget
  | case4 h0 h1 => exact absurd h (by simp [h0, h1])

/-- `k && cl`: an OK status with ERROR in the reply is what a lost critical task looks like. -/
theorem judgeCtl_failed (e : Ev) (d : St) (hd : d ≠ .ERROR) (ts : List Target) (cmd lost : List Nat) (k cl : Bool) :
    judgeCtl e d ts (failedObs e k cmd lost) cl =
      if allCriticalAcked ts then (if k && cl then none else some (taskCorner e ts))
      else (if k then some "rpc_ok_on_failed_transition" else none) := by
  have hne : St.ERROR ≠ d := fun h => hd h.symm
  cases ha : allCriticalAcked ts <;> cases k <;> cases cl <;>
    simp [judgeCtl, ha, Trans.reqOk, reached, failedObs, hne, taskCorner, apply_ite some]

theorem controlStep_verdict (hp : env.pending = []) (hc : commands e = true)
    (hd : dst? e env.st = some d) :
    Verdict cfg wf (judgeCtl e d (targets (pair tasks (effOuts ls outs))) (controlStep cfg env tasks e outs w ls).1
      (critLost ls tasks)) ∧
    (reached d (controlStep cfg env tasks e outs w ls).1 = true →
      (controlStep cfg env tasks e outs w ls).2.1.pending = [] ∧ (controlStep cfg env tasks e outs w ls).2.1.st = d ∧
      (controlStep cfg env tasks e outs w ls).2.2 = loseTasks ls (afterCommand tasks (effOuts ls outs))) := by
  have hdne : d ≠ .ERROR := fun h => commands_dst e env.st hc (h ▸ hd)
  cases hb : bodyFor cfg e (targets (pair tasks (effOuts ls outs))) with
  | hang =>
    obtain ⟨rfl, hts, hf⟩ := bodyFor_hang cfg e hc _ hb
    rw [controlStep_hang cfg env tasks _ d outs w ls hd hb, hts, judgeCtl_hang]
    exact ⟨verdict_repaired cfg wf _ (ne_code cfg (·.emptyIsSuccess) rfl hf) .configureHangs, nofun⟩
  | ok =>
    have hf := fsmEvent_nohooks env e d true hp hd
    rw [controlStep_ok cfg env tasks e d outs w ls hp hd hb,
      judgeCtl_ok e d _ _ _ _ w ((bodyFor_ok_iff cfg e hc _).1 hb).1]
    exact ⟨verdict_none cfg wf, fun _ => ⟨hf.1, hf.2.2, rfl⟩⟩
  | error =>
    obtain ⟨k, hk3, hk⟩ := controlStep_error cfg env tasks e d outs w ls hd hb
    rw [hk, judgeCtl_failed e d hdne]
    refine ⟨?_, fun hr => ?_⟩
    · cases ha : allCriticalAcked (targets (pair tasks (effOuts ls outs)))
      · cases k
        · exact verdict_none cfg wf
        · exact verdict_repaired cfg wf _ (ne_code cfg (·.keepTransitionError) rfl (hk3 rfl)) .rpcOk
      · rw [if_pos rfl]
        split
        · exact verdict_none cfg wf
        · rcases bodyFor_failed_acked cfg e hc _ (by rw [hb]; nofun) ha with ⟨h0, hf⟩ | ⟨h1, hf⟩
          · exact verdict_repaired cfg wf _ (ne_code cfg (·.emptyIsSuccess) rfl hf) (taskCorner_repaired e _ (Or.inl h0))
          · exact verdict_repaired cfg wf _ (ne_code cfg (·.singleUsesCritical) rfl hf) (taskCorner_repaired e _ (Or.inr h1))
    · cases k <;> simp [reached, failedObs] at hr
      exact absurd hr.symm hdne

end request

theorem judgeSteps_no_obs (st : St) (tasks : List Task) (steps : List SStep) : judgeSteps st tasks steps [] = none := by
  cases steps <;> simp [judgeSteps]

theorem judgeSteps_die (st : St) (tasks : List Task) (outs : List Outcome) (rest : List SStep) (os : List Obs) :
    judgeSteps st tasks (.die outs :: rest) os = judgeSteps st (afterCommand tasks outs) rest os := by
  cases os with
  | nil => rw [judgeSteps_no_obs, judgeSteps_no_obs]
  | cons o os => simp [judgeSteps]

theorem runSteps_ctl (cfg : Cfg) (env : Env) (tasks : List Task) (e : Ev) (outs : List Outcome) (w : Bool)
    (ls : List (Option Loss)) (rest : List SStep) :
    ∃ tl, runSteps cfg env tasks (.ctl e outs w ls :: rest) = (controlStep cfg env tasks e outs w ls).1 :: tl ∧
      (tl = [] ∨ tl = runSteps cfg (controlStep cfg env tasks e outs w ls).2.1 (controlStep cfg env tasks e outs w ls).2.2 rest) := by
  simp only [runSteps]
  split
  · exact ⟨_, rfl, Or.inr rfl⟩
  · exact ⟨_, rfl, Or.inl rfl⟩

theorem mem_runSteps (cfg : Cfg) (steps : List SStep) : ∀ (env : Env) (tasks : List Task),
    ∀ o ∈ runSteps cfg env tasks steps, ∃ env' tasks' e outs w ls, o = (controlStep cfg env' tasks' e outs w ls).1 := by
  induction steps with
  | nil => intro _ _ _ ho; cases ho
  | cons s rest ih =>
    intro env tasks o ho
    cases s with
    | die outs => exact ih _ _ o ho
    | ctl e outs w ls =>
      obtain ⟨tl, hrun, htl⟩ := runSteps_ctl cfg env tasks e outs w ls rest
      rw [hrun] at ho
      rcases List.mem_cons.1 ho with rfl | h
      · exact ⟨_, _, _, _, _, _, rfl⟩
      · rcases htl with rfl | rfl
        · cases h
        · exact ih _ _ o h

theorem steps_verdict (cfg : Cfg) (wf : Workflow) (steps : List SStep) : ∀ (env : Env) (tasks : List Task),
    env.pending = [] → Verdict cfg wf (judgeSteps env.st tasks steps (runSteps cfg env tasks steps)) := by
  induction steps with
  | nil => intro env tasks _; exact verdict_none cfg wf
  | cons s rest ih =>
    intro env tasks hp
    cases s with
    | die outs => rw [judgeSteps_die]; exact ih env _ hp
    | ctl e outs w ls =>
      obtain ⟨tl, hrun, htl⟩ := runSteps_ctl cfg env tasks e outs w ls rest
      rw [hrun]
      cases hc : commands e with
      | false => simp only [judgeSteps, hc, Bool.not_false, ↓reduceIte]; exact verdict_none cfg wf
      | true =>
      cases hd : dst? e env.st with
      | none => simp only [judgeSteps, hc, hd, Bool.not_true, Bool.false_eq_true, ↓reduceIte]; exact verdict_none cfg wf
      | some d =>
        obtain ⟨hv, hnext⟩ := controlStep_verdict cfg wf env tasks e d outs w ls hp hc hd
        simp only [judgeSteps, hc, hd, Bool.not_true, Bool.false_eq_true, ↓reduceIte]
        cases hj : judgeCtl e d (targets (pair tasks (effOuts ls outs))) (controlStep cfg env tasks e outs w ls).1
            (critLost ls tasks) with
        | some h => rw [hj] at hv; exact hv
        | none =>
          simp only []
          split
          · rename_i hr
            rcases htl with rfl | rfl
            · rw [judgeSteps_no_obs]; exact verdict_none cfg wf
            · obtain ⟨hp', hst', htasks'⟩ := hnext (Bool.and_eq_true_iff.1 hr).1
              rw [← hst', ← htasks']
              exact ih _ _ hp'
          · exact verdict_none cfg wf

/-- The corner `judgeNew` names when the destination is not reported although every critical task started and
    acknowledged. -/
def newCorner (wf : Workflow) (ts : List Target) : String :=
  if emptyWorkflow wf then "deploy_empty_workflow"
  else if earlyRunning wf.tasks then "deploy_misses_active"
  else if noncritLaunchFail wf.tasks then "deploy_noncritical_blocks"
  else if wf.notifyLost then "deploy_notification_lost"
  else if noTargets ts then "configure_nothing_hangs"
  else if singleNoncritFail ts then "single_target_ignores_critical"
  else "-"

theorem judgeNew_ok (wf : Workflow) (ts : List Target) (o : Obs) (hl : allCriticalLaunched wf.tasks = true)
    (ha : allCriticalAcked ts = true) (h1 : o.rpc = .ok) (h2 : o.state = some .CONFIGURED)
    (h3 : o.after = some .CONFIGURED) : judgeNew wf ts o = none := by
  simp [judgeNew, hl, ha, Trans.reqOk, h1, h2, h3]

theorem judgeNew_unacked (wf : Workflow) (ts : List Target) (o : Obs)
    (ha : (allCriticalLaunched wf.tasks && allCriticalAcked ts) = false) (h1 : o.rpc = .err) (h2 : o.state = none)
    (h3 : o.after = none) : judgeNew wf ts o = none := by
  simp [judgeNew, ha, Trans.reqOk, h1, h2, h3]

theorem judgeNew_acked_failed (wf : Workflow) (ts : List Target) (o : Obs)
    (ha : (allCriticalLaunched wf.tasks && allCriticalAcked ts) = true) (h1 : o.rpc ≠ .ok) :
    judgeNew wf ts o = some (newCorner wf ts) := by
  simp [judgeNew, ha, Trans.reqOk, reached, h1, newCorner, apply_ite some]

/-- Where a NewEnvironment that fails although every critical task started and acknowledged comes from: an open corner
    the workflow lies in, or — with some repair off — the DEPLOY wait (no role, the notification) or the CONFIGURE
    command (nobody to command, a lone non-critical task). -/
def NewCause (cfg : Cfg) (wf : Workflow) (ts : List Target) : Prop :=
  earlyRunning wf.tasks = true ∨ noncritLaunchFail wf.tasks = true ∨
    (cfg ≠ Cfg.code ∧ (emptyWorkflow wf = true ∨ wf.notifyLost = true ∨ noTargets ts = true ∨
      singleNoncritFail ts = true))

theorem newCorner_verdict (cfg : Cfg) (wf : Workflow) (ts : List Target) (h : NewCause cfg wf ts) :
    Verdict cfg wf (some (newCorner wf ts)) := by
  intro x hx
  obtain rfl := Option.some.inj hx
  fun_cases newCorner wf ts with
  | case1 h0 =>
    -- a workflow without a task lies in neither open corner
    have ht : wf.tasks = [] := by
      simp only [emptyWorkflow, Bool.and_eq_true, List.isEmpty_iff] at h0; exact h0.1
    rcases h with h | h | h
    · rw [ht] at h; cases h
    · rw [ht] at h; cases h
    · exact Or.inr ⟨h.1, .emptyWorkflow⟩
  | case2 _ h1 => exact Or.inl (Or.inl ⟨rfl, h1⟩)
  | case3 _ _ h2 => exact Or.inl (Or.inr ⟨rfl, h2⟩)
  | case4 _ h1 h2 => exact Or.inr ⟨((h.resolve_left h1).resolve_left h2).1, .notification⟩
  | case5 _ h1 h2 => exact Or.inr ⟨((h.resolve_left h1).resolve_left h2).1, .configureHangs⟩
  | case6 _ h1 h2 => exact Or.inr ⟨((h.resolve_left h1).resolve_left h2).1, .singleTarget⟩
  | case7 h0 h1 h2 h3 h4 h5 =>
    exact absurd ((((h.resolve_left h1).resolve_left h2).2.resolve_left h0).resolve_left h3) (by simp [h4, h5])

theorem deploy_failed_launched (cfg : Cfg) (wf : Workflow) (ts : List Target)
    (hd : deployBody cfg wf.tasks wf.calls wf.notifyLost ≠ .ok) (hl : allCriticalLaunched wf.tasks = true) :
    NewCause cfg wf ts := by
  unfold NewCause
  rw [Ne, deployBody_ok_iff] at hd
  cases h1 : earlyRunning wf.tasks
  · cases h2 : noncritLaunchFail wf.tasks
    · have hif := fun h => hd ⟨hl, h2, h1, h⟩
      refine Or.inr (Or.inr ?_)
      cases ha : deployAwaits wf.tasks wf.calls
      · rw [ha, if_neg nofun] at hif
        exact ⟨fun hc => hif (by rw [hc]; rfl), Or.inl (by rw [emptyWorkflow_eq, ha]; rfl)⟩
      · rw [ha, if_pos rfl] at hif
        refine ⟨fun hc => hif (by rw [hc]; exact Bool.or_true _), Or.inr (Or.inl ?_)⟩
        cases hn : wf.notifyLost
        · exact absurd (by rw [hn]; rfl) hif
        · rfl
    · exact Or.inr (Or.inl rfl)
  · exact Or.inl rfl

theorem configure_failed_acked (cfg : Cfg) (wf : Workflow) (ts : List Target)
    (hb : bodyFor cfg .CONFIGURE ts ≠ .ok) (ha : allCriticalAcked ts = true) : NewCause cfg wf ts := by
  rcases bodyFor_failed_acked cfg .CONFIGURE rfl ts hb ha with ⟨h, hf⟩ | ⟨h, hf⟩
  · exact Or.inr (Or.inr ⟨ne_code cfg (·.emptyIsSuccess) rfl hf, Or.inr (Or.inr (Or.inl h))⟩)
  · exact Or.inr (Or.inr ⟨ne_code cfg (·.singleUsesCritical) rfl hf, Or.inr (Or.inr (Or.inr h))⟩)

theorem judgeNew_failed (cfg : Cfg) (wf : Workflow) (ts : List Target) (o : Obs) (h1 : o.rpc ≠ .ok)
    (hun : (allCriticalLaunched wf.tasks && allCriticalAcked ts) = false → o.rpc = .err ∧ o.state = none ∧ o.after = none)
    (hcause : allCriticalLaunched wf.tasks = true → allCriticalAcked ts = true → NewCause cfg wf ts) :
    Verdict cfg wf (judgeNew wf ts o) := by
  cases ha : allCriticalLaunched wf.tasks && allCriticalAcked ts
  · rw [judgeNew_unacked wf ts o ha (hun ha).1 (hun ha).2.1 (hun ha).2.2]; exact verdict_none cfg wf
  · rw [judgeNew_acked_failed wf ts o ha h1]
    exact newCorner_verdict cfg wf ts (hcause (Bool.and_eq_true_iff.1 ha).1 (Bool.and_eq_true_iff.1 ha).2)

/-- The tasks of a workflow as the CONFIGURE inside NewEnvironment finds them: those that came up are ACTIVE. -/
def tasks0 (wf : Workflow) : List Task := wf.tasks.map (fun t => { critical := t.1, active := t.2 = .ok })

theorem new_env_ok :
    (tryTransition (tryTransition ({} : Env) [] .DEPLOY true false).1 [] .CONFIGURE true false).1.pending = [] ∧
    (tryTransition (tryTransition ({} : Env) [] .DEPLOY true false).1 [] .CONFIGURE true false).1.st = .CONFIGURED := by
  have h1 := fsmEvent_nohooks ({} : Env) .DEPLOY .DEPLOYED true rfl rfl
  have h2 := fsmEvent_nohooks (tryTransition ({} : Env) [] .DEPLOY true false).1 .CONFIGURE .CONFIGURED true h1.1
    (by rw [show (tryTransition ({} : Env) [] .DEPLOY true false).1.st = .DEPLOYED from h1.2.2]; rfl)
  exact ⟨h2.1, h2.2.2⟩

theorem create_verdict (cfg : Cfg) (wf : Workflow) (outs : List Outcome) :
    Verdict cfg wf (judgeNew wf (targets (pair (tasks0 wf) outs)) (createEnvironment cfg wf outs).1) ∧
    (∀ env tasks, (createEnvironment cfg wf outs).2 = some (env, tasks) →
      env.pending = [] ∧ env.st = .CONFIGURED ∧ tasks = afterCommand (tasks0 wf) outs) := by
  unfold createEnvironment
  cases hdep : deployBody cfg wf.tasks wf.calls wf.notifyLost with
  | hang => exact absurd hdep (deployBody_not_hang _ _ _ _)
  | error =>
    dsimp only
    exact ⟨judgeNew_failed cfg wf _ _ (by nofun) (fun _ => ⟨rfl, rfl, rfl⟩)
      (fun hl _ => deploy_failed_launched cfg wf _ (by rw [hdep]; nofun) hl), by intro _ _ h; cases h⟩
  | ok =>
    have hl := ((deployBody_ok_iff cfg _ _ _).1 hdep).1
    dsimp only
    rw [show wf.tasks.map (fun t => ({ critical := t.1, active := t.2 = .ok } : Task)) = tasks0 wf from rfl]
    have hcause := fun hb => configure_failed_acked cfg wf (targets (pair (tasks0 wf) outs)) hb
    cases hb : configureBody cfg (targets (pair (tasks0 wf) outs)) with
    | hang =>
      dsimp only
      obtain ⟨_, hts, _⟩ := bodyFor_hang cfg .CONFIGURE rfl _ hb
      exact ⟨judgeNew_failed cfg wf _ _ (by nofun) (fun h => by rw [hl, hts] at h; cases h)
        (fun _ => hcause (by rw [show bodyFor cfg .CONFIGURE _ = _ from hb]; nofun)), by intro _ _ h; cases h⟩
    | error =>
      dsimp only
      exact ⟨judgeNew_failed cfg wf _ _ (by nofun) (fun _ => ⟨rfl, rfl, rfl⟩)
        (fun _ => hcause (by rw [show bodyFor cfg .CONFIGURE _ = _ from hb]; nofun)), by intro _ _ h; cases h⟩
    | ok =>
      dsimp only
      have ha := ((bodyFor_ok_iff cfg .CONFIGURE rfl _).1 hb).1
      refine ⟨?_, fun env tasks h => ?_⟩
      · rw [judgeNew_ok wf _ _ hl ha rfl (congrArg some new_env_ok.2) (congrArg some new_env_ok.2)]
        exact verdict_none cfg wf
      · obtain ⟨rfl, rfl⟩ := Prod.mk.inj (Option.some.inj h)
        exact ⟨new_env_ok.1, new_env_ok.2, rfl⟩

theorem judgeAll_cons (P : Option String → Prop) (hP : P none) (sc : Scenario) (o : Obs) (os : List Obs)
    (hn : P (judgeNew sc.wf (targets (pair (tasks0 sc.wf) sc.configure)) o))
    (hos : P (judgeSteps .CONFIGURED (afterCommand (tasks0 sc.wf) sc.configure) sc.steps os)) :
    P (judgeAll sc (o :: os)) := by
  simp only [judgeAll]
  simp only [tasks0] at hn hos
  revert hn
  generalize judgeNew sc.wf _ _ = r
  intro hn
  cases r with
  | some h => exact hn
  | none =>
    simp only
    split
    · exact hos
    · exact hP

theorem run_verdict (cfg : Cfg) (sc : Scenario) : Verdict cfg sc.wf (judgeAll sc (run cfg sc)) := by
  obtain ⟨hn, hsome⟩ := create_verdict cfg sc.wf sc.configure
  have hnil : Verdict cfg sc.wf (judgeAll sc [(createEnvironment cfg sc.wf sc.configure).1]) :=
    judgeAll_cons _ (verdict_none cfg _) sc _ [] hn (by rw [judgeSteps_no_obs]; exact verdict_none cfg _)
  unfold run
  dsimp only
  cases hc : (createEnvironment cfg sc.wf sc.configure).2 with
  | none => exact hnil
  | some p =>
    obtain ⟨hp, hst, ht⟩ := hsome p.1 p.2 hc
    dsimp only
    split
    · exact hnil
    · refine judgeAll_cons _ (verdict_none cfg _) sc _ _ hn ?_
      rw [← hst, ← ht]
      exact steps_verdict cfg sc.wf sc.steps p.1 p.2 hp

theorem mem_run (cfg : Cfg) (sc : Scenario) (o : Obs) (ho : o ∈ run cfg sc) :
    o = (createEnvironment cfg sc.wf sc.configure).1 ∨
      ∃ env tasks e outs w ls, o = (controlStep cfg env tasks e outs w ls).1 := by
  revert ho
  fun_cases run cfg sc with
  | case1 | case3 => exact Or.inl ∘ List.mem_singleton.1
  | case2 => exact fun ho => (List.mem_cons.1 ho).imp id (mem_runSteps cfg _ _ _ o)

theorem activeUnseen_of_mem_run (cfg : Cfg) (sc : Scenario) (o : Obs) (ho : o ∈ run cfg sc) (ha : o.activeUnseen = true) :
    deployBody cfg sc.wf.tasks sc.wf.calls sc.wf.notifyLost ≠ .ok ∧ rootStatus sc.wf.tasks sc.wf.calls = .ACTIVE := by
  rcases mem_run cfg sc o ho with rfl | ⟨env, tasks, e, outs, w, ls, rfl⟩
  · revert ha
    fun_cases createEnvironment cfg sc.wf sc.configure with
    | case1 | case2 | case3 => exact nofun
    | case4 h => exact fun ha => ⟨h, of_decide_eq_true ha⟩  -- DEPLOY failed
  · revert ha
    fun_cases controlStep cfg env tasks e outs w ls <;> exact nofun

/-- A task that does not come up: NewEnvironment fails in DEPLOY, and by the core's own account neither was every task
    running nor every role ACTIVE. -/
theorem run_of_unstarted (cfg : Cfg) (sc : Scenario) (l : Bool × Launch) (hl : l ∈ sc.wf.tasks) (hs : l.2.started = false) :
    run cfg sc = [{ ev := none, rpc := .err, state := none, after := none, cmd := [] }] := by
  have hnok : ¬ ∀ l ∈ sc.wf.tasks, l.2 = .ok := fun h => by rw [h l hl] at hs; cases hs
  have hroot : decide (rootStatus sc.wf.tasks sc.wf.calls = .ACTIVE) = false :=
    decide_eq_false fun h => hnok ((rootStatus_active ..).1 h).2
  have hall : sc.wf.tasks.all (fun t => t.2 = .ok || t.2 = .okEarly) = false :=
    List.all_eq_false.2 ⟨l, hl, by revert hs; cases l.2 <;> decide⟩
  unfold run createEnvironment
  cases hd : deployBody cfg sc.wf.tasks sc.wf.calls sc.wf.notifyLost with
  | ok => exact absurd ((deployBody_ok ..).1 hd).1 hnok
  | error => simp only [hall, hroot, Bool.and_false, Bool.false_and]
  | hang => simp only [hall, hroot, Bool.and_false, Bool.false_and]

theorem judge_code (sc : Scenario) (h : String) (hj : judge sc (run Cfg.code sc) = some h) : OpenCorner sc.wf h := by
  unfold judge at hj
  cases hja : judgeAll sc (run Cfg.code sc) with
  | none => rw [hja] at hj; cases hj
  | some h' =>
    have ho := verdict_code (run_verdict Cfg.code sc) h' hja
    rw [hja, Option.map_some, if_pos (openCorner_of sc.wf h' ho)] at hj
    exact Option.some.inj hj ▸ ho

theorem judge_att (sc : Scenario) (o : Obs) (os : List Obs) (x : Option (List (List Nat))) (y : Bool) :
    judge sc ({ o with att := x, verdictLost := y } :: os) = judge sc (o :: os) := rfl

theorem judgeO_withAtt (sc : OScenario) (att : List (List Nat)) (v : Bool) (os : List Obs)
    (hatt : attemptsOk sc.wf.descs sc.wf.rounds att.length = true) :
    judgeO sc (match os with
      | [] => []
      | o :: os => { o with att := some att, verdictLost := v } :: os) =
    judge { wf := sc.wf.asOffered att.length, configure := sc.configure, steps := sc.steps } os := by
  cases os with
  | nil => rfl
  | cons o os => simp only [judgeO, hatt, ↓reduceIte]; exact judge_att _ o os _ _

theorem runO_heard (acfg : AcqCfg) (cfg : Cfg) (sc : OScenario) (hh : sc.wf.hung acfg = false) :
    runO acfg cfg sc =
      match run cfg { wf := sc.wf.eff (acquire acfg sc.wf.descs sc.wf.rounds), configure := sc.configure, steps := sc.steps } with
      | [] => []
      | o :: os => { o with att := some (acquire acfg sc.wf.descs sc.wf.rounds).attempts, verdictLost := false } :: os := by
  have ha : sc.wf.acquired acfg = acquire acfg sc.wf.descs sc.wf.rounds := by
    unfold OWorkflow.acquired OWorkflow.hung at *
    cases hv : sc.wf.dropped acfg with
    | none => rfl
    | some k =>
      simp only [hv, decide_eq_false_iff_not] at hh
      simp [acquireLost, hh]
  unfold runO
  simp only [ha, hh]
  cases run cfg { wf := sc.wf.eff (acquire acfg sc.wf.descs sc.wf.rounds), configure := sc.configure, steps := sc.steps } <;> rfl

/-- With every verdict heard, the run of a scenario with offers rounds is the run on the workflow as offered in the last
    round that took place, the attempts added to what NewEnvironment shows. -/
theorem runO_code (cfg : Cfg) (sc : OScenario) :
    runO AcqCfg.code cfg sc =
      match run cfg { wf := sc.wf.asOffered (acquire AcqCfg.code sc.wf.descs sc.wf.rounds).attempts.length,
                      configure := sc.configure, steps := sc.steps } with
      | [] => []
      | o :: os => { o with att := some (acquire AcqCfg.code sc.wf.descs sc.wf.rounds).attempts, verdictLost := false } :: os := by
  rw [runO_heard _ _ sc (heard_of_room _ (by decide) _).2.1]
  rcases eff_acquire_code sc.wf with heff | ⟨hk, hne, hc⟩
  · rw [heff]
  · -- no role holds a task: nothing comes up, and in the workflow as offered the task whose offer was missing does not
    obtain ⟨l, hl, hs⟩ := eff_unstarted sc.wf _ hk hne
    obtain ⟨l', hl', hs'⟩ := asOffered_unstarted sc.wf _ hc
    rw [run_of_unstarted cfg _ l hl hs, run_of_unstarted cfg _ l' hl' hs']

theorem runO_legacy_eq (cfg : Cfg) (sc : OScenario) (hh : sc.wf.hung AcqCfg.legacy = false) :
    runO AcqCfg.legacy cfg sc = runO AcqCfg.code cfg sc := by
  rw [runO_heard _ _ sc hh, runO_heard _ _ sc (heard_of_room _ (by decide) _).2.1]
  simp only [acquire_legacy]

theorem judgeO_code (sc : OScenario) :
    judgeO sc (runO AcqCfg.code Cfg.code sc) =
      judge { wf := sc.wf.asOffered (acquire AcqCfg.code sc.wf.descs sc.wf.rounds).attempts.length,
              configure := sc.configure, steps := sc.steps }
        (run Cfg.code { wf := sc.wf.asOffered (acquire AcqCfg.code sc.wf.descs sc.wf.rounds).attempts.length,
                        configure := sc.configure, steps := sc.steps }) := by
  rw [runO_code, judgeO_withAtt sc _ _ _ (acquire_code_attemptsOk sc.wf.descs sc.wf.rounds)]

theorem judgeOAll_runO (acfg : AcqCfg) (cfg : Cfg) (sc : OScenario) (h : String)
    (hj : judgeOAll sc (runO acfg cfg sc) = some h) :
    h = "deploy_verdict_lost" ∨
      (lostLast sc.wf (sc.wf.acquired acfg).attempts.length = false ∧ judgeO sc (runO acfg cfg sc) = some h) := by
  simp only [runO] at hj ⊢
  generalize run cfg { wf := sc.wf.eff (sc.wf.acquired acfg), configure := sc.configure, steps := sc.steps } = r at hj ⊢
  cases r with
  | nil => cases hj
  | cons o os =>
    dsimp only at hj ⊢
    unfold judgeOAll at hj
    cases hO : judgeO sc ({ o with att := some (sc.wf.acquired acfg).attempts, verdictLost := sc.wf.hung acfg } :: os) with
    | none => rw [hO] at hj; cases hj
    | some h' =>
      rw [hO] at hj
      dsimp only at hj
      cases hl : lostLast sc.wf (sc.wf.acquired acfg).attempts.length
      · rw [hl] at hj; exact Or.inr ⟨rfl, hj⟩
      · rw [hl, if_pos rfl] at hj; exact Or.inl (Option.some.inj hj).symm

end Trans
