/-
  Proofs/TrigExpr — lemmas about the reader of trigger / await expressions (Model/TrigExpr.lean):
  the cut is at the LAST sign whatever stands before it; the weight of a well-formed text is its decimal
  value; leading zeros do not change it.
-/
import ControlModel.Model.TrigExpr

namespace EnvM

theorem sign_cases (s : Char) (hs : isSign s = true) : s = '+' ∨ s = '-' := by
  unfold isSign at hs
  simpa using hs

theorem isDigit_not_sign (c : Char) (h : isDigit c = true) : isSign c = false := by
  cases hs : isSign c with
  | false => rfl
  | true => rcases sign_cases c hs with rfl | rfl <;> cases h

theorem splitLastSign_none (cs : List Char) (h : ∀ c ∈ cs, isSign c = false) : splitLastSign cs = none := by
  induction cs with
  | nil => rfl
  | cons c cs ih =>
    have h1 := ih (fun x hx => h x (List.mem_cons_of_mem _ hx))
    have h2 := h c List.mem_cons_self
    simp [splitLastSign, h1, h2]

theorem splitLastSign_append (name : List Char) (s : Char) (ds : List Char) (hs : isSign s = true)
    (hd : ∀ c ∈ ds, isSign c = false) : splitLastSign (name ++ s :: ds) = some (name, s :: ds) := by
  induction name with
  | nil => simp [splitLastSign, splitLastSign_none ds hd, hs]
  | cons c name ih => simp [splitLastSign, ih]

theorem decFrom_zeros (k : Nat) (ds : List Char) : decFrom 0 (List.replicate k '0' ++ ds) = decFrom 0 ds := by
  induction k with
  | zero => rfl
  | succ k ih =>
    have : digitVal? '0' = some 0 := by decide
    simp [List.replicate_succ, decFrom, this, ih]

theorem decVal?_zeros (k : Nat) (ds : List Char) (hne : ds ≠ []) : decVal? (List.replicate k '0' ++ ds) = decVal? ds := by
  cases ds with
  | nil => exact absurd rfl hne
  | cons d ds =>
    have h1 : decVal? (d :: ds) = decFrom 0 (d :: ds) := rfl
    have h2 : decVal? (List.replicate k '0' ++ d :: ds) = decFrom 0 (List.replicate k '0' ++ d :: ds) := by
      cases k with
      | zero => rfl
      | succ k => rfl
    rw [h1, h2, decFrom_zeros]

theorem weightOfText_zeros (s : Char) (hs : isSign s = true) (k : Nat) (ds : List Char) (hne : ds ≠ []) :
    weightOfText (s :: (List.replicate k '0' ++ ds)) = weightOfText (s :: ds) := by
  rcases sign_cases s hs with rfl | rfl <;> simp [weightOfText, atoi?, decVal?_zeros k ds hne]

theorem decFrom_digits (acc : Nat) (ds : List Char) (hd : ∀ c ∈ ds, isDigit c = true) : (decFrom acc ds).isSome = true := by
  induction ds generalizing acc with
  | nil => rfl
  | cons d ds ih =>
    have h := hd d List.mem_cons_self
    unfold isDigit at h
    cases hv : digitVal? d with
    | none => rw [hv] at h; cases h
    | some v => simp only [decFrom, hv]; exact ih _ (fun c hc => hd c (List.mem_cons_of_mem _ hc))

theorem weightOfText_declared (t : List Char) (hw : wellFormedWeight t = true) (hr : weightInRange t = true) :
    weightOfText t = declaredWeight t := by
  match t, hw, hr with
  | c :: d :: ds, hw, hr =>
    simp only [wellFormedWeight, Bool.and_eq_true] at hw
    have hsome : (decVal? (d :: ds)).isSome = true :=
      decFrom_digits 0 (d :: ds) (by simpa [List.all_eq_true] using hw.2)
    obtain ⟨n, hn⟩ := Option.isSome_iff_exists.mp hsome
    simp only [weightInRange, hn, Option.getD_some, decide_eq_true_eq] at hr
    rcases sign_cases c hw.1 with rfl | rfl
    · simp [weightOfText, atoi?, declaredWeight, hn, hr]
    · have hr' : n ≤ 9223372036854775808 := by omega
      simp [weightOfText, atoi?, declaredWeight, hn, hr']

theorem wellFormed_signs (c : Char) (ds : List Char) (hw : wellFormedWeight (c :: ds) = true) :
    isSign c = true ∧ ∀ x ∈ ds, isSign x = false := by
  match ds, hw with
  | d :: ds, hw =>
    simp only [wellFormedWeight, Bool.and_eq_true, List.all_eq_true] at hw
    exact ⟨hw.1, fun x hx => isDigit_not_sign x (hw.2 x hx)⟩

theorem parseTriggerExpr_wellFormed (name t : List Char) (hw : wellFormedWeight t = true) (hr : weightInRange t = true) :
    parseTriggerExpr (name ++ t) = (name, declaredWeight t) := by
  match t, hw, hr with
  | c :: ds, hw, hr =>
    obtain ⟨hs, hns⟩ := wellFormed_signs c ds hw
    simp only [parseTriggerExpr, splitLastSign_append name c ds hs hns]
    rw [weightOfText_declared (c :: ds) hw hr]

theorem parseTriggerExpr_zeros (name : List Char) (s : Char) (k : Nat) (ds : List Char)
    (hs : isSign s = true) (hne : ds ≠ []) (hd : ∀ c ∈ ds, isDigit c = true) :
    parseTriggerExpr (name ++ s :: (List.replicate k '0' ++ ds)) = parseTriggerExpr (name ++ s :: ds) := by
  have hns : ∀ c ∈ ds, isSign c = false := fun c hc => isDigit_not_sign c (hd c hc)
  have hns' : ∀ c ∈ List.replicate k '0' ++ ds, isSign c = false := by
    intro c hc
    rcases List.mem_append.mp hc with hc | hc
    · rw [(List.mem_replicate.mp hc).2]; decide
    · exact hns c hc
  simp only [parseTriggerExpr, splitLastSign_append name s _ hs hns', splitLastSign_append name s ds hs hns,
    weightOfText_zeros s hs k ds hne]

theorem parseTriggerExpr_bare (name : List Char) (h : ∀ c ∈ name, isSign c = false) : parseTriggerExpr name = (name, 0) := by
  simp [parseTriggerExpr, splitLastSign_none name h]

end EnvM
