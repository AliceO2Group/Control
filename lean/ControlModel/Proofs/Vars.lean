/-
  Proofs/Vars — the variable-resolution model read through `lookup` (C14). Every map the model builds
  (`set`, `overlay`, `mergo` with override, `flatten`, the stacks on top of them) is, key by key, an `orElse`
  of lookups; so a flattened hierarchy is `get` on the hierarchy, and every stack is `get` on a ranked list
  of sources — the form in which Spec/C14 states the rule. Core Lean only.
-/
import ControlModel.Model.Vars
import ControlModel.Spec.C14
import ControlModel.Proofs.Assoc

namespace Vars

/-- The shape every precedence statement takes. -/
def orElse (a b : Option String) : Option String :=
  match a with
  | some v => some v
  | none => b

@[simp] theorem orElse_some (v : String) (b : Option String) : orElse (some v) b = some v := rfl
@[simp] theorem orElse_none (b : Option String) : orElse none b = b := rfl
/-- `orElse` is core's `Option.or`; its laws are cited from there (`Option.none_or`, `Option.or_none`, `Option.or_assoc`). -/
theorem orElse_eq_or (a b : Option String) : orElse a b = a.or b := by cases a <;> rfl

/-- `lookup` and `set` are `Assoc.get` and `Assoc.set` of Basic at `String` keys (the model tests `k' = k` where Basic
    tests `k' == k`): what Proofs/Assoc says of a Go map holds of a `KV`. -/
theorem lookup_eq_get (m : KV) (k : String) : lookup m k = Assoc.get m k := by
  induction m with
  | nil => rfl
  | cons e rest ih => simp only [lookup, Assoc.get, beq_iff_eq, ih]

theorem set_eq_set (m : KV) (k v : String) : set m k v = Assoc.set m k v := by
  induction m with
  | nil => rfl
  | cons e rest ih => simp only [set, Assoc.set, beq_iff_eq, ih]

theorem lookup_set (m : KV) (k v k' : String) :
    lookup (set m k v) k' = if k = k' then some v else lookup m k' := by
  rw [lookup_eq_get, set_eq_set, Assoc.get_set, lookup_eq_get]

theorem lookup_overlay (base special : KV) (k : String) :
    lookup (overlay base special) k = orElse (lookup special k) (lookup base k) := by
  induction special with
  | nil => rfl
  | cons e rest ih =>
    obtain ⟨a, b⟩ := e
    show lookup (set (overlay base rest) a b) k = orElse (lookup ((a, b) :: rest) k) (lookup base k)
    rw [lookup_set, ih, lookup]
    split <;> rfl

theorem lookup_mergoKey (ow : Bool) (d : KV) (k v k' : String) :
    lookup (mergoKey ow d k v) k' =
      if k = k' then
        (match lookup d k with
         | none => some v
         | some old => if ow || old == "" then some v else some old)
      else lookup d k' := by
  fun_cases mergoKey ow d k v with
  | case1 hd => rw [hd]; exact lookup_set ..
  | case2 old hd hc => simp only [hd, hc, if_true]; exact lookup_set ..
  | case3 old hd hc =>
    -- the destination is kept: at `k` it holds `old`
    simp only [hd, hc, Bool.false_eq_true, if_false]
    split
    · next h => rw [← h, hd]
    · rfl

theorem mergoKey_override (d : KV) (k v : String) : mergoKey true d k v = set d k v := by
  unfold mergoKey
  cases lookup d k <;> rfl

/-- With `WithOverride` the merge is the same loop as `overlay`: the source's binding wins whatever its value
    (also the empty string), otherwise the destination's stays. -/
theorem mergo_override (d s : KV) : mergo true d s = overlay d s := by
  unfold mergo overlay
  simp only [mergoKey_override]

theorem lookup_mergo_override (d s : KV) (k : String) :
    lookup (mergo true d s) k = orElse (lookup s k) (lookup d k) := by
  rw [mergo_override, lookup_overlay]

theorem lookup_flatten_cons (m : KV) (rest : Chain) (k : String) :
    lookup (flatten (m :: rest)) k = orElse (lookup m k) (lookup (flatten rest) k) := by
  simp [flatten, geraOverride, lookup_mergo_override]

@[simp] theorem get_nil (k : String) : get [] k = none := rfl

theorem get_cons (m : KV) (rest : Chain) (k : String) :
    get (m :: rest) k = orElse (lookup m k) (get rest k) := by
  simp only [get]
  cases lookup m k <;> rfl

/-- `get` is core's `List.findSome?` over the layers: what holds of the first definition in a list of sources
    (`List.findSome?_append`, `_eq_none_iff`, `_eq_some_iff`, `_map`, …) holds of `get`. -/
theorem get_eq_findSome? (c : Chain) (k : String) : get c k = c.findSome? (lookup · k) := by
  induction c with
  | nil => rfl
  | cons m rest ih => rw [get_cons, List.findSome?_cons, ih]; cases lookup m k <;> rfl

theorem get_append (a b : Chain) (k : String) : get (a ++ b) k = orElse (get a k) (get b k) := by
  simp only [get_eq_findSome?, orElse_eq_or, List.findSome?_append]

theorem lookup_flatten (c : Chain) (k : String) : lookup (flatten c) k = get c k := by
  induction c with
  | nil => rfl
  | cons m rest ih => rw [lookup_flatten_cons, get_cons, ih]

theorem get_map_flatten (l : List Chain) (k : String) : get (l.map flatten) k = get l.flatten k := by
  induction l with
  | nil => rfl
  | cons c rest ih => simp only [List.map_cons, List.flatten_cons, get_cons, get_append, lookup_flatten, ih]

theorem lookup_flattenStack (cs : List Chain) (k : String) :
    lookup (flattenStack cs) k = get cs.reverse.flatten k := by
  simp only [flattenStack, lookup_flatten, get_append, get_cons, get_nil, lookup, orElse_eq_or, Option.or_none,
    ← List.map_reverse, get_map_flatten]

theorem lookup_flattenVis (own : Bool) (c : Chain) (k : String) :
    lookup (flattenVis own c) k = get (if own then c else c.tail) k := by
  cases own <;> simp [flattenVis, flattenParent, lookup_flatten]

theorem lookup_wrappedAndFlattened (own : KV) (m : Chain) (k : String) :
    lookup (wrappedAndFlattened own m) k = orElse (lookup own k) (get m k) := by
  simp [wrappedAndFlattened, geraOverride, lookup_mergo_override, lookup_flatten]

theorem lookup_consolidated (p : Path) (k : String) :
    lookup (consolidated p) k = get (ranked p) k := by
  simp only [consolidated, ranked, lookup_flatten, get_cons, get_append, get_nil, orElse_eq_or, Option.or_none,
    Option.or_assoc]

theorem lookup_flattenStack_kinds (p : Path) (k : String) :
    lookup (flattenStack [dChain p, vChain p, uChain p]) k = get (ranked p) k := by
  simp [lookup_flattenStack, ranked]

theorem lookup_staged (locals : KV) (p : Path) (stage : Nat) (k : String) :
    lookup (staged locals p stage) k = get (rankedAt locals p stage) k := by
  unfold staged rankedAt
  generalize stageVis stage = vis
  obtain ⟨d, v, u⟩ := vis
  simp only [lookup_flatten, get_cons, get_append, get_nil, lookup_flattenVis, orElse_eq_or, Option.or_none,
    List.cons_append, List.nil_append, Option.or_assoc]

theorem lookup_cmdStack (wf special td tv : KV) (k : String) (hk : lookup special k = none) :
    lookup (cmdStack wf special td tv) k = orElse (lookup wf k) (orElse (lookup tv k) (lookup td k)) := by
  simp only [cmdStack, lookup_wrappedAndFlattened, lookup_overlay, hk, get_cons, get_nil, orElse_eq_or, Option.none_or,
    Option.or_none]

theorem lookup_legacyCmdStack (wf special td tv : KV) (k : String) (hk : lookup special k = none) :
    lookup (legacyCmdStack wf special td tv) k = orElse (lookup wf k) (orElse (lookup td k) (lookup tv k)) := by
  simp only [legacyCmdStack, lookup_wrappedAndFlattened, lookup_overlay, hk, get_cons, get_nil, orElse_eq_or, Option.none_or,
    Option.or_none, Option.or_assoc]

theorem lookup_propStack (wf special td tv : KV) (k : String) (hk : lookup special k = none) :
    lookup (propStack wf special td tv) k = orElse (lookup wf k) (orElse (lookup tv k) (lookup td k)) := by
  simp only [propStack, lookup_wrappedAndFlattened, lookup_overlay, hk, get_cons, get_nil, orElse_eq_or, Option.none_or,
    Option.or_none]

theorem get_rankedTask (p : Path) (td tv : KV) (k : String) :
    get (rankedTask p td tv) k = orElse (get (ranked p) k) (orElse (lookup tv k) (lookup td k)) := by
  simp only [rankedTask, get_append, get_cons, get_nil, orElse_eq_or, Option.or_none]

theorem tabulate_cons (a : String) (rest : List String) (f : String → Option String) :
    tabulate (a :: rest) f = match f a with
      | some v => (a, v) :: tabulate rest f
      | none => tabulate rest f := by
  simp only [tabulate, List.filterMap_cons]; cases f a <;> rfl

theorem tabulate_congr (keys : List String) (f g : String → Option String)
    (h : ∀ k ∈ keys, f k = g k) : tabulate keys f = tabulate keys g := by
  induction keys with
  | nil => rfl
  | cons a rest ih =>
    rw [tabulate_cons, tabulate_cons, h a (by simp), ih (fun k hk => h k (by simp [hk]))]

theorem lookup_tabulate (keys : List String) (f : String → Option String) (k : String) :
    lookup (tabulate keys f) k = if k ∈ keys then f k else none :=
  (lookup_eq_get _ k).trans (Assoc.get_tabulate keys f k)

/-- Everything observed at a role is what the rule demands as soon as the command line is: the stack, the
    maps, `Get`, `FlattenStack`, the stages and the task's properties do not depend on the configuration. -/
theorem modelObsOf_eq_expected (cfg : TaskCfg) (keys : List String) (special : KV) (r : RoleIn)
    (hclear : ∀ k ∈ keys, lookup special k = none)
    (hcmd : ∀ td tv, r.tmpl = some (td, tv) → ∀ k ∈ keys,
      lookup (cmdStackOf cfg (consolidated r.path) special td tv) k = get (rankedTask r.path td tv) k) :
    modelObsOf cfg keys special r = expected keys r := by
  obtain ⟨p, locals, tmpl⟩ := r
  have hfl : ∀ c : Chain, lookup (flatten c) = firstDefined c := fun c => funext (lookup_flatten c)
  have hst : lookup (consolidated p) = firstDefined (ranked p) := funext (lookup_consolidated p)
  have hfs : lookup (flattenStack [dChain p, vChain p, uChain p]) = firstDefined (ranked p) :=
    funext (lookup_flattenStack_kinds p)
  have hsg : ∀ s, lookup (staged locals p s) = firstDefined (rankedAt locals p s) :=
    fun s => funext (lookup_staged locals p s)
  simp only [modelObsOf, expected, consolidatedMaps, hfl, hst, hfs, hsg]
  cases tmpl with
  | none => rfl
  | some t =>
    have hc := tabulate_congr keys _ _ (hcmd t.1 t.2 rfl)
    have hp : tabulate keys (lookup (propStack (consolidated p) special t.1 t.2))
        = tabulate keys (firstDefined (rankedTask p t.1 t.2)) :=
      tabulate_congr keys _ _ fun k hk => by
        rw [lookup_propStack _ _ _ _ _ (hclear k hk), lookup_consolidated]; exact (get_rankedTask p _ _ k).symm
    simp only [Option.map_some, hp]
    rw [hc]
    rfl

theorem caseOk_expected (keys : List String) (rs : List RoleIn) :
    caseOk keys rs (rs.map (expected keys)) = true := by
  induction rs with
  | nil => rfl
  | cons r rest ih => simp [caseOk, roleOk, ih]

end Vars
