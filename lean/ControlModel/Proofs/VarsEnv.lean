/-
  Proofs/VarsEnv — lemmas about the variable writes an environment performs on
  its own transitions (C14, third part). Core Lean only.

  The invariant: a transition of the environment (any table of rows whose
  user-kind rows on the root role / on the environment carry keys from a given
  list `rk` only) leaves, for every OTHER key `k`, the user-var hierarchy of
  every role exactly as it was (`UEq`), hence what the hierarchy says about `k`
  (`userView`), hence — when it says something — what the role resolves `k` to.
  That a whole run keeps what its rows and its runtime writes keep is proved once,
  for anything read off the workflow and the environment-wide maps (`obs_fire`,
  `obs_snapshots`); `UEq` and the shape of the workflow are the two instances.
-/
import ControlModel.Model.VarsEnv
import ControlModel.Spec.C14
import ControlModel.Proofs.VarsTree

namespace Vars

def userView (s : EnvSt) (a : Addr) (k : String) : Option (Option String) :=
  (chainAt s.t a).map fun c => get (uChain (pathOf c [s.envLv])) k

def uk (k : String) (n : Node) : Option String := lookup n.own.userVars k

/-- What `userView` is a function of (`userView_of_UEq`): for key `k`, the environment's own entry and the
    entries of the roles of every chain. -/
def userHier (k : String) (s : EnvSt) : Option String × (Addr → Option (List (Option String))) :=
  (lookup s.envLv.userVars k, fun a => (chainAt s.t a).map (List.map (uk k)))

/-- What a transition keeps for a key `k` it does not write: the user-var entries for `k`. -/
def UEq (k : String) (s s' : EnvSt) : Prop := userHier k s' = userHier k s

theorem userHier_congr {k : String} {s s' : EnvSt} (ht : s'.t = s.t) (he : s'.envLv = s.envLv) :
    userHier k s' = userHier k s := by
  unfold userHier; rw [ht, he]

theorem get_uChain_pathOf (c : List Node) (e : Level) (k : String) :
    get (uChain (pathOf c [e])) k = ((c.map (uk k)).reverse ++ [lookup e.userVars k]).findSome? id := by
  simp only [get_eq_findSome?, uChain, pathOf, List.map_append, List.map_map, ← List.map_reverse, List.map_cons,
    List.map_nil, List.findSome?_append, List.findSome?_map]
  rfl

theorem userView_of_UEq {k : String} {s s' : EnvSt} (h : UEq k s s') (a : Addr) :
    userView s' a k = userView s a k := by
  have hview : ∀ s : EnvSt, userView s a k
      = ((userHier k s).2 a).map fun l => (l.reverse ++ [(userHier k s).1]).findSome? id := by
    intro s
    simp only [userView, userHier, Option.map_map, Function.comp_def, get_uChain_pathOf]
  rw [hview, hview, h]

theorem chainAt_updRoot_proj {β : Type} (p : Node → β) (h : Node → Node) (hp : ∀ n, p (h n) = p n) (t : Forest) (a : Addr) :
    (chainAt (t.updRoot h) a).map (List.map p) = (chainAt t a).map (List.map p) := by
  cases t with
  | nil => rfl
  | role n kids next =>
    match a with
    | [] => rfl
    | [0] => simp [Forest.updRoot, chainAt, hp]
    | 0 :: j :: rest =>
      simp only [Forest.updRoot, chainAt, Option.map_map]
      congr 1
      funext c
      simp [hp]
    | (i + 1) :: rest => simp [Forest.updRoot, chainAt]

theorem preorder_updRoot (h : Node → Node) (hs : ∀ n, (h n).site = n.site) (t : Forest) (idx : Nat) (pre : Addr) :
    preorder (t.updRoot h) idx pre = preorder t idx pre := by
  cases t with
  | nil => rfl
  | role n kids next => simp only [Forest.updRoot, preorder, hs]

def rowOk (rk : List String) (w : EnvWrite) : Bool :=
  w.kind != .user || w.tgt == .role || rk.contains w.key

theorem lookup_fn (w : EnvWrite) (s : EnvSt) (m : KV) (k : String) (h : w.key ≠ k) :
    lookup (w.fn s m) k = lookup m k := by
  unfold EnvWrite.fn
  split
  · simp [lookup_erase, h]
  · simp [lookup_set, h]

theorem lookup_upd_user (w : EnvWrite) (s : EnvSt) (l : Level) (k : String) (rk : List String)
    (hok : rowOk rk w = true) (hrole : w.tgt ≠ .role) (hk : rk.contains k = false) :
    lookup (Level.upd w.kind (w.fn s) l).userVars k = lookup l.userVars k := by
  cases hkind : w.kind with
  | defaults => simp [Level.upd]
  | vars => simp [Level.upd]
  | user =>
    -- a user-kind row on the root or on the environment carries a key of `rk`, so not `k`
    have hmem : rk.contains w.key = true := by simpa [rowOk, hkind, beq_false_of_ne hrole] using hok
    exact lookup_fn w s _ k fun hkey => by rw [hkey, hk] at hmem; cases hmem

theorem UEq_exec (rk : List String) (k : String) (hk : rk.contains k = false) (w : EnvWrite) (hok : rowOk rk w = true)
    (s : EnvSt) : UEq k s (w.exec s) := by
  unfold EnvWrite.exec
  cases ht : w.tgt with
  | role => rfl
  | env => exact Prod.ext (lookup_upd_user w s s.envLv k rk hok (by rw [ht]; decide) hk) rfl
  | root =>
    refine Prod.ext rfl (funext fun a => chainAt_updRoot_proj (uk k) _ (fun n => ?_) s.t a)
    exact lookup_upd_user w s n.own k rk hok (by rw [ht]; decide) hk

theorem preorder_exec (w : EnvWrite) (s : EnvSt) (idx : Nat) (pre : Addr) :
    preorder (w.exec s).t idx pre = preorder s.t idx pre := by
  unfold EnvWrite.exec
  cases w.tgt with
  | root => exact preorder_updRoot (Node.updOwn (Level.upd w.kind (w.fn s))) (fun _ => rfl) s.t idx pre
  | env => rfl
  | role => rfl

theorem lookup_op_apply (op : Op) (m : KV) (k : String) (h : op.key ≠ k) : lookup (op.apply m) k = lookup m k := by
  cases op with
  | set k' v => simp only [Op.key] at h; simp [Op.apply, lookup_set, h]
  | del k' => simp only [Op.key] at h; simp [Op.apply, lookup_erase, h]

theorem UEq_write (k : String) (w : Write) (h : w.op.key ≠ k) (s : EnvSt) :
    UEq k s { s with t := applyWrite s.t w } := by
  refine Prod.ext rfl (funext fun a => ?_)
  show (chainAt (applyWrite s.t w) a).map (List.map (uk k)) = (chainAt s.t a).map (List.map (uk k))
  rw [chainAt_applyWrite, Option.map_map]
  congr 1
  funext c
  simp only [Function.comp_def, replayWrite]
  split
  · exact map_modUser (uk k) w.op.apply (fun n => lookup_op_apply w.op n.own.userVars k h) c _
  · rfl

def Item.avoids (k : String) : Item → Bool
  | .write w => w.op.key != k
  | .trans _ _ => true

/-! Whatever of an environment is read off its workflow and its environment-wide maps alone (`hobs`) and is
  kept by every row of the table (`hrow`) is kept by the callbacks, by a transition, and — when the runtime
  writes of the schedule keep it too — by a whole run. -/

section keeps

variable {α : Type} (obs : EnvSt → α) (hobs : ∀ s s' : EnvSt, s'.t = s.t → s'.envLv = s.envLv → obs s' = obs s)
  (table : List EnvWrite) (hrow : ∀ w ∈ table, ∀ s, obs (w.exec s) = obs s)
include hrow

theorem obs_runRows (ctx : String) (ev : EnvM.Ev) (src : EnvM.St) (s : EnvSt) :
    obs (runRows table ctx ev src s) = obs s := by
  have : ∀ rows : List EnvWrite, (∀ w ∈ rows, w ∈ table) → ∀ s, obs (rows.foldl (EnvWrite.step ev src) s) = obs s := by
    intro rows
    induction rows with
    | nil => intro _ _; rfl
    | cons w rest ih =>
      intro hsub s
      rw [List.foldl_cons, ih (fun x hx => hsub x (List.mem_cons_of_mem _ hx))]
      unfold EnvWrite.step
      split
      · exact hrow w (hsub w List.mem_cons_self) s
      · rfl
  exact this _ (fun w hw => (List.mem_filter.mp hw).1) s

include hobs

theorem obs_fire (ev : EnvM.Ev) (ok : Bool) (s : EnvSt) : obs (fire table ev ok s).1 = obs s := by
  have R := obs_runRows obs table hrow
  unfold fire
  cases EnvM.dst? ev s.st with
  | none => rfl
  | some d =>
    -- the run-number bookkeeping and the change of state touch neither the workflow nor the maps
    have hst : ∀ (s' : EnvSt) (st : EnvM.St), obs { s' with st := st } = obs s' := fun _ _ => hobs _ _ rfl rfl
    have hrn : ∀ (s' : EnvSt) (l c : Nat), obs { s' with lastRn := l, curRn := c } = obs s' :=
      fun _ _ _ => hobs _ _ rfl rfl
    have h1 : obs (if ev = .START_ACTIVITY then { s with lastRn := s.lastRn + 1, curRn := s.lastRn + 1 } else s)
        = obs s := by
      split
      · exact hrn s _ _
      · rfl
    cases ok with
    | false => simp only [Bool.not_false, if_true, R, h1]
    | true =>
      simp only [Bool.not_true, Bool.false_eq_true, if_false]
      split
      · rw [hrn _ _ 0, R, R, hst, R, R, h1]
      · rw [R, R, hst, R, R, h1]

theorem obs_create (sd sv u : KV) (t : Forest) :
    obs (create table sd sv u t) = obs { st := .STANDBY, t := t, envLv := { defaults := sd, vars := sv, userVars := u },
                                         base := [], curRn := 0, lastRn := 0 } := by
  refine (hobs _ _ ?_ ?_).trans (obs_runRows obs table hrow "newEnvironment" .DEPLOY .STANDBY _) <;> rfl

variable (items : List Item) (hitems : ∀ w, Item.write w ∈ items → ∀ s : EnvSt, obs { s with t := applyWrite s.t w } = obs s)
include hitems

theorem obs_runSched : ∀ s, ∀ p ∈ runSched table s items, obs p.1 = obs s := by
  induction items with
  | nil => intro s p hp; cases hp
  | cons i rest ih =>
    intro s p hp
    have hstep : obs (stepItem table s i).1 = obs s := by
      cases i with
      | trans ev ok => exact obs_fire obs hobs table hrow ev ok s
      | write w => exact hitems w List.mem_cons_self s
    simp only [runSched, List.mem_cons] at hp
    rcases hp with rfl | hp
    · exact hstep
    · rw [ih (fun w hw => hitems w (List.mem_cons_of_mem _ hw)) _ p hp, hstep]

theorem obs_snapshots (sd sv u : KV) (t : Forest) :
    ∀ p ∈ snapshots table sd sv u t items, obs p.1 = obs (create table sd sv u t) := by
  intro p hp
  simp only [snapshots, List.mem_cons] at hp
  rcases hp with rfl | hp
  · rfl
  · exact obs_runSched obs hobs table hrow items hitems _ p hp

end keeps

theorem get_uChain_isSome_of_env (c : List Node) (e : Level) (k v : String) (h : lookup e.userVars k = some v) :
    ∃ x, get (uChain (pathOf c [e])) k = some x := by
  -- the environment's entry closes the chain: whatever the roles say, something is found
  simp only [pathOf, uChain, List.map_append, List.map_cons, List.map_nil, get_append, get_cons, get_nil, h]
  generalize get _ k = o
  cases o <;> exact ⟨_, rfl⟩

theorem consolidated_of_user (p : Path) (k x : String) (h : get (uChain p) k = some x) :
    lookup (consolidated p) k = some x := by
  rw [lookup_consolidated]
  simp only [ranked, get_append, h]
  rfl

theorem sameAt_filterMap (k : String) (obs : RoleIn → RoleObs) (g0 g : Addr → Option RoleIn) :
    ∀ (L : List Addr),
      (∀ a ∈ L, (g0 a = none ∧ g a = none) ∨
        ∃ r0 r, g0 a = some r0 ∧ g a = some r ∧ lookup (obs r0).stack k = lookup (obs r).stack k ∧
          (lookup (obs r0).stack k).isSome = true) →
      sameAt k ((L.filterMap g0).map obs) ((L.filterMap g).map obs) = true := by
  intro L
  induction L with
  | nil => intro _; rfl
  | cons a rest ih =>
    intro h
    have hrest := ih (fun x hx => h x (by simp [hx]))
    rcases h a (by simp) with ⟨h0, h1⟩ | ⟨r0, r, h0, h1, heq, hsome⟩
    · simpa [List.filterMap_cons, h0, h1] using hrest
    · simp [h0, h1, sameAt, heq, hrest]
      rw [← heq]; exact hsome

theorem mem_keys_lookup (m : KV) (k : String) (h : k ∈ m.map (·.1)) : ∃ v, lookup m k = some v :=
  Option.ne_none_iff_exists'.mp fun hn => Assoc.get_eq_none_iff.mp ((lookup_eq_get m k).symm.trans hn) h

theorem of_mem_stableKeys (u : KV) (items : List Item) (k : String) (h : k ∈ stableKeys u items) :
    k ∈ u.map (·.1) ∧ runtimeUserKeys.contains k = false ∧ items.all (Item.avoids k) = true := by
  simp only [stableKeys, List.mem_filter, Bool.and_eq_true, Bool.not_eq_true'] at h
  refine ⟨h.1, h.2.1, List.all_eq_true.mpr fun i hi => ?_⟩
  have := List.any_eq_false.mp h.2.2 i hi
  cases i with
  | trans ev ok => rfl
  | write w => simpa [Item.key?, Item.avoids] using this

theorem preorder_snapshots (table : List EnvWrite) (sd sv u : KV) (t : Forest) (items : List Item) (idx : Nat) (pre : Addr) :
    ∀ p ∈ snapshots table sd sv u t items, preorder p.1.t idx pre = preorder (create table sd sv u t).t idx pre :=
  obs_snapshots (fun s => preorder s.t idx pre) (fun _ _ ht _ => by rw [ht]) table
    (fun w _ s => preorder_exec w s idx pre) items (fun _ _ _ => preorder_updAt _ _ _ _ _) sd sv u t

section user

variable (rk : List String) (k : String) (hk : rk.contains k = false) (table : List EnvWrite)
  (htab : table.all (rowOk rk) = true)
include hk htab

theorem UEq_rows : ∀ w ∈ table, ∀ s, UEq k s (w.exec s) :=
  fun w hw s => UEq_exec rk k hk w (List.all_eq_true.mp htab w hw) s

theorem UEq_fire (ev : EnvM.Ev) (ok : Bool) (s : EnvSt) : UEq k s (fire table ev ok s).1 :=
  obs_fire (userHier k) (fun _ _ => userHier_congr) table (UEq_rows rk k hk table htab) ev ok s

theorem lookup_userVars_create (sd sv u : KV) (t : Forest) :
    lookup (create table sd sv u t).envLv.userVars k = lookup u k :=
  congrArg Prod.fst
    (obs_create (userHier k) (fun _ _ => userHier_congr) table (UEq_rows rk k hk table htab) sd sv u t)

variable (sd sv u : KV) (t : Forest) (items : List Item) (hitems : items.all (Item.avoids k) = true)
include hitems

theorem UEq_snapshots : ∀ p ∈ snapshots table sd sv u t items, UEq k (create table sd sv u t) p.1 :=
  obs_snapshots (userHier k) (fun _ _ => userHier_congr) table (UEq_rows rk k hk table htab) items
    (fun w hw s => UEq_write k w (by simpa [Item.avoids] using List.all_eq_true.mp hitems _ hw) s) sd sv u t

theorem user_value_wins (v : String) (hu : lookup u k = some v) :
    ∀ p ∈ snapshots table sd sv u t items, ∀ a c, chainAt p.1.t a = some c →
      ∃ x, lookup (consolidated (pathOf c [p.1.envLv])) k = some x ∧
        userView (create table sd sv u t) a k = some (some x) := by
  intro p hp a c hc
  have hE := UEq_snapshots rk k hk table htab sd sv u t items hitems p hp
  have henv : lookup p.1.envLv.userVars k = some v :=
    (congrArg Prod.fst hE).trans ((lookup_userVars_create rk k hk table htab sd sv u t).trans hu)
  obtain ⟨x, hx⟩ := get_uChain_isSome_of_env c p.1.envLv k v henv
  refine ⟨x, consolidated_of_user _ k x hx, ?_⟩
  rw [← userView_of_UEq hE a]
  simp [userView, hc, hx]

theorem sameAt_snapshots (v : String) (hu : lookup u k = some v) (keys : List String) (special : KV)
    (tmpl : Option (KV × KV)) (hkk : k ∈ keys) :
    ∀ p ∈ snapshots table sd sv u t items,
      sameAt k (((create table sd sv u t).roles tmpl).map (modelObs keys special))
        ((p.1.roles tmpl).map (modelObs keys special)) = true := by
  intro p hp
  have hwin := user_value_wins rk k hk table htab sd sv u t items hitems v hu
  have hstack : ∀ r : RoleIn, lookup (modelObs keys special r).stack k = lookup (consolidated r.path) k :=
    fun r => (lookup_tabulate keys _ k).trans (if_pos hkk)
  simp only [EnvSt.roles, rolesOf]
  rw [preorder_snapshots table sd sv u t items 0 [] p hp]
  apply sameAt_filterMap
  intro a _
  have hv := userView_of_UEq (UEq_snapshots rk k hk table htab sd sv u t items hitems p hp) a
  unfold userView at hv
  cases hc0 : chainAt (create table sd sv u t).t a with
  | none =>
    cases hc : chainAt p.1.t a with
    | none => exact .inl ⟨rfl, rfl⟩
    | some c => rw [hc0, hc] at hv; cases hv
  | some c0 =>
    cases hc : chainAt p.1.t a with
    | none => rw [hc0, hc] at hv; cases hv
    | some c =>
      obtain ⟨r0, hr0, hp0⟩ := roleInOf_isSome [(create table sd sv u t).envLv] tmpl c0 (chainAt_ne_nil _ a c0 hc0)
      obtain ⟨r, hr, hpr⟩ := roleInOf_isSome [p.1.envLv] tmpl c (chainAt_ne_nil _ a c hc)
      obtain ⟨x0, hx0, hv0⟩ := hwin _ List.mem_cons_self a c0 hc0
      obtain ⟨x, hx, hvx⟩ := hwin p hp a c hc
      have hxx : x0 = x := Option.some.inj (Option.some.inj (hv0.symm.trans hvx))
      refine .inr ⟨r0, r, hr0, hr, ?_, ?_⟩
      · rw [hstack, hstack, hp0, hpr, hx0, hx, hxx]
      · rw [hstack, hp0, hx0]; rfl

end user

theorem userView_snapshots (rk : List String) (k : String) (hk : rk.contains k = false) (table : List EnvWrite)
    (htab : table.all (rowOk rk) = true) (sd sv u : KV) (t : Forest) (items : List Item)
    (hitems : items.all (Item.avoids k) = true) :
    ∀ p ∈ snapshots table sd sv u t items, ∀ a, userView p.1 a k = userView (create table sd sv u t) a k :=
  fun p hp a => userView_of_UEq (UEq_snapshots rk k hk table htab sd sv u t items hitems p hp) a

theorem snapsOk_expected (keys : List String) (tmpl : Option (KV × KV)) (snap : EnvSt × String → SnapObs)
    (hsnap : ∀ p, (snap p).roles = (p.1.roles tmpl).map (expected keys)) (l : List (EnvSt × String)) :
    snapsOk keys tmpl l (l.map snap) = true := by
  induction l with
  | nil => rfl
  | cons p rest ih => rw [List.map_cons, snapsOk, hsnap, caseOk_expected, ih]; rfl

theorem userStable_snapshots (table : List EnvWrite) (htab : table.all (rowOk runtimeUserKeys) = true)
    (keys : List String) (special : KV) (sd sv u : KV) (t : Forest) (items : List Item) (tmpl : Option (KV × KV))
    (hkeys : ∀ k ∈ u.map (·.1), k ∈ keys) (snap : EnvSt × String → SnapObs)
    (hsnap : ∀ p, (snap p).roles = (p.1.roles tmpl).map (modelObs keys special)) :
    userStable u items ((snapshots table sd sv u t items).map snap) = true := by
  simp only [snapshots, List.map_cons, userStable, List.all_eq_true, hsnap]
  intro k hkst
  obtain ⟨hmem, hrk, hitems⟩ := of_mem_stableKeys u items k hkst
  obtain ⟨v, hu⟩ := mem_keys_lookup u k hmem
  have hall := sameAt_snapshots runtimeUserKeys k hrk table htab sd sv u t items hitems v hu keys special tmpl
    (hkeys k hmem)
  intro o ho
  simp only [List.mem_cons, List.mem_map] at ho
  rcases ho with rfl | ⟨p, hp, rfl⟩
  · rw [hsnap]; exact hall _ List.mem_cons_self
  · rw [hsnap]; exact hall p (List.mem_cons_of_mem _ hp)

end Vars
