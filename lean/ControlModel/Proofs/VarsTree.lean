/-
  Proofs/VarsTree — loaded role trees and runtime writes (C14). What a role observes is a function of its
  chain (`chainAt`, read as a path by `pathOf`); a write on `r` is, on the chain of every role at or below
  `r`, a change of `r`'s own user vars, and nothing on any other chain (`chainAt_updAt`). An address reaches
  the `j`-th instance of an iterator at sibling index `j` (`chainAt_instances`), and the load with its Locals
  is `expand` wherever every iterated template publishes them (`load_eq_expand`). Core Lean only.
-/
import ControlModel.Model.VarsTree
import ControlModel.Proofs.Vars

namespace Vars

theorem lookup_erase (m : KV) (k k' : String) :
    lookup (erase m k) k' = if k = k' then none else lookup m k' := by
  fun_induction erase m k with
  | case1 => simp [lookup]
  | case2 b rest k ih => by_cases h' : k = k' <;> simpa [lookup, h'] using ih
  | case3 a b rest k h ih =>
    by_cases h' : a = k'
    · subst h'; simp [lookup, Ne.symm h]
    · simp [lookup, h', ih]

theorem chainAt_updAt (f : KV → KV) (t : Forest) : ∀ (r s : Addr),
    chainAt (updAt f t r) s
      = (chainAt t s).map (fun c => if r ≠ [] ∧ isAnc r s = true then modUser f c (r.length - 1) else c) := by
  intro r s
  fun_induction updAt f t r generalizing s with
  | case1 => rfl
  | case2 => simp
  | case3 =>  -- r = [0]
    match s with
    | [] => rfl
    | [0] => rfl
    | 0 :: j :: rest => simp [chainAt, isAnc, modUser, Option.map_map, Function.comp_def]
    | (i+1) :: rest => simp [chainAt, isAnc]
  | case4 n kids next r1 rr ihk =>  -- r = 0 :: r1 :: rr
    match s with
    | [] => rfl
    | [0] => simp [chainAt, isAnc]
    | 0 :: j :: rest =>
      have hanc : isAnc (0 :: r1 :: rr) (0 :: j :: rest) = isAnc (r1 :: rr) (j :: rest) := by
        simp [isAnc]
      simp only [chainAt, ihk, Option.map_map, hanc, ne_eq, reduceCtorEq, not_false_eq_true, true_and]
      congr 1
      funext c
      simp only [Function.comp_def, List.length_cons]
      split
      · simp [modUser]
      · rfl
    | (i+1) :: rest => simp [chainAt, isAnc]
  | case5 n kids next i rr ihn =>  -- r = (i + 1) :: rr
    match s with
    | [] => rfl
    | [0] => simp [chainAt, isAnc]
    | 0 :: j :: rest => simp [chainAt, isAnc, Option.map_map, Function.comp_def]
    | (j+1) :: rest =>
      have hanc : isAnc ((i + 1) :: rr) ((j + 1) :: rest) = isAnc (i :: rr) (j :: rest) := by
        simp [isAnc]
      simp only [chainAt, ihn, hanc, List.length_cons, ne_eq, reduceCtorEq, not_false_eq_true, true_and]

theorem updAt_nil_addr (f : KV → KV) (t : Forest) : updAt f t [] = t := by
  cases t <;> rfl

theorem chainAt_applyWrite (t : Forest) (w : Write) (s : Addr) :
    chainAt (applyWrite t w) s = (chainAt t s).map (fun c => replayWrite s c w) :=
  chainAt_updAt w.op.apply t w.target s

theorem chainAt_applyWrites (ws : List Write) : ∀ (t : Forest) (s : Addr),
    chainAt (applyWrites t ws) s = (chainAt t s).map (fun c => replay s c ws) := by
  induction ws with
  | nil => intro t s; simp [applyWrites, replay]
  | cons w ws ih =>
    intro t s
    show chainAt (applyWrites (applyWrite t w) ws) s = _
    rw [ih, chainAt_applyWrite, Option.map_map]
    rfl

theorem preorder_updAt (f : KV → KV) (t : Forest) : ∀ (r : Addr) (idx : Nat) (pre : Addr),
    preorder (updAt f t r) idx pre = preorder t idx pre := by
  intro r idx pre
  fun_induction updAt f t r generalizing idx pre with
  | case1 | case2 | case3 => rfl
  | case4 _ _ _ _ _ ih | case5 _ _ _ _ _ ih => simp [preorder, ih]

theorem preorder_applyWrites (ws : List Write) : ∀ (t : Forest) (idx : Nat) (pre : Addr),
    preorder (applyWrites t ws) idx pre = preorder t idx pre := by
  induction ws with
  | nil => intro t idx pre; rfl
  | cons w ws ih => intro t idx pre; exact (ih (applyWrite t w) idx pre).trans (preorder_updAt _ _ _ _ _)

theorem rolesAfter_eq_rolesReplayed (t : Forest) (ws : List Write) (env : Path) (tmpl : Option (KV × KV)) :
    rolesAfter t ws env tmpl = rolesReplayed t ws env tmpl := by
  simp only [rolesAfter, rolesOf, rolesReplayed, preorder_applyWrites, chainAt_applyWrites]

/-- No write of `ws` is at or above `s` (`replay_untouched`). -/
def untouched (ws : List Write) (s : Addr) : Bool := ws.all fun w => !(isAnc w.target s) || w.target == []

theorem replay_untouched (s : Addr) (ws : List Write) (h : untouched ws s = true) (c : List Node) :
    replay s c ws = c := by
  induction ws generalizing c with
  | nil => rfl
  | cons w ws ih =>
    simp only [untouched, List.all_cons, Bool.and_eq_true, Bool.or_eq_true, Bool.not_eq_true', beq_iff_eq] at h
    have hw : replayWrite s c w = c := by
      unfold replayWrite
      rcases h.1 with h1 | h1 <;> simp [h1]
    show replay s (replayWrite s c w) ws = c
    rw [hw]
    exact ih h.2 c

/-- levels of a chain (root first) as a role's path: nearest first, then the environment -/
def pathOf (c : List Node) (env : Path) : Path := c.reverse.map (·.own) ++ env

theorem chainAt_ne_nil (t : Forest) : ∀ (a : Addr) (c : List Node), chainAt t a = some c → c ≠ [] := by
  intro a c h
  fun_induction chainAt t a with
  | case1 | case2 => cases h
  | case3 => cases h; simp
  | case4 =>
    obtain ⟨c', _, rfl⟩ := Option.map_eq_some_iff.1 h
    simp
  | case5 _ _ _ _ _ ih => exact ih h

theorem roleInOf_isSome (env : Path) (tmpl : Option (KV × KV)) (c : List Node) (h : c ≠ []) :
    ∃ r, roleInOf env tmpl c = some r ∧ r.path = pathOf c env := by
  unfold roleInOf
  cases hc : c.reverse with
  | nil => exact absurd (List.reverse_eq_nil_iff.mp hc) h
  | cons me anc => exact ⟨_, rfl, by simp [pathOf, hc]⟩

/-- `modUser` is core's `List.modify` (`List.modify_eq_take_cons_drop`, `List.modify_eq_self`, …). -/
theorem modUser_eq_modify (f : KV → KV) : ∀ (c : List Node) (i : Nat), modUser f c i = c.modify i (Node.updUser f)
  | [], _ => (List.modify_nil ..).symm
  | _ :: _, 0 => rfl
  | n :: rest, i + 1 => (congrArg (n :: ·) (modUser_eq_modify f rest i)).trans (List.modify_succ_cons ..).symm

theorem modUser_ge (f : KV → KV) (c : List Node) : ∀ (i : Nat), c.length ≤ i → modUser f c i = c :=
  fun i h => (modUser_eq_modify f c i).trans (List.modify_eq_self h)

theorem map_modUser {β} (g : Node → β) (f : KV → KV) (hg : ∀ n, g (n.updUser f) = g n) (c : List Node) :
    ∀ i, (modUser f c i).map g = c.map g := by
  induction c with
  | nil => intro i; rfl
  | cons n rest ih =>
    intro i
    cases i with
    | zero => simp [modUser, hg]
    | succ i => simp [modUser, ih i]

theorem pathOf_insert (a b : List Node) (n : Node) (env : Path) :
    pathOf (a ++ n :: b) env = pathOf b [] ++ n.own :: pathOf a env := by
  simp only [pathOf, List.reverse_append, List.reverse_cons, List.map_append, List.map_cons, List.append_assoc,
    List.cons_append, List.nil_append, List.append_nil]

theorem pathOf_split (c : List Node) (env : Path) (i : Nat) (hi : i < c.length) :
    pathOf c env = pathOf (c.drop (i + 1)) [] ++ c[i].own :: pathOf (c.take i) env := by
  rw [← pathOf_insert, List.getElem_cons_drop, List.take_append_drop]

theorem get_ranked_modUser (f : KV → KV) (c : List Node) (env : Path) (i : Nat) (hi : i < c.length) (k : String) :
    get (ranked (pathOf (modUser f c i) env)) k =
      orElse (get (uChain (pathOf (c.drop (i + 1)) [])) k)
        (orElse (lookup (f c[i].own.userVars) k)
          (orElse (get (uChain (pathOf (c.take i) env)) k)
            (orElse (get (vChain (pathOf c env)) k) (get (dChain (pathOf c env)) k)))) := by
  rw [modUser_eq_modify, List.modify_eq_take_cons_drop hi, pathOf_insert, pathOf_split c env i hi]
  simp only [ranked, uChain, vChain, dChain, List.map_append, List.map_cons, get_append, get_cons, orElse_eq_or,
    Option.or_assoc]
  rfl

theorem get_ranked_pathOf (c : List Node) (env : Path) (i : Nat) (hi : i < c.length) (k : String) :
    get (ranked (pathOf c env)) k =
      orElse (get (uChain (pathOf (c.drop (i + 1)) [])) k)
        (orElse (lookup c[i].own.userVars k)
          (orElse (get (uChain (pathOf (c.take i) env)) k)
            (orElse (get (vChain (pathOf c env)) k) (get (dChain (pathOf c env)) k)))) := by
  have h := get_ranked_modUser id c env i hi k
  rwa [modUser_eq_modify, show Node.updUser id = id from rfl, List.modify_id] at h

/-- Below an instance of an iterator the iteration variable is a VAR of that instance. -/
theorem get_vChain_withIter (c : List Node) (env : Path) (i : Nat) (hi : i < c.length) (n : Node) (var val : String)
    (hc : c[i] = withIter n var val) :
    get (vChain (pathOf c env)) var = orElse (get (vChain (pathOf (c.drop (i + 1)) [])) var) (some val) := by
  rw [pathOf_split c env i hi, hc]
  simp only [vChain, List.map_append, List.map_cons, get_append, get_cons, withIter, lookup_set, if_true]
  cases get (List.map (fun x => x.vars) (pathOf (List.drop (i + 1) c) [])) var <;> rfl

/-- `isAnc` decides core's prefix relation on addresses. -/
theorem isAnc_iff_prefix : ∀ (r s : Addr), isAnc r s = true ↔ r <+: s
  | [], _ => by simp [isAnc]
  | _ :: _, [] => by simp [isAnc]
  | a :: r, b :: s => by simp [isAnc, isAnc_iff_prefix r s, List.cons_prefix_cons]

theorem isAnc_refl (a : Addr) : isAnc a a = true := (isAnc_iff_prefix a a).mpr (List.prefix_refl a)

theorem isAnc_append (a b : Addr) : isAnc a (a ++ b) = true := (isAnc_iff_prefix a _).mpr (List.prefix_append a b)

theorem isAnc_sibling (pre : Addr) (i j : Nat) (rest : Addr) (h : i ≠ j) :
    isAnc (pre ++ [i]) (pre ++ j :: rest) = false :=
  Bool.eq_false_iff.mpr fun hp => h (by
    simpa [List.prefix_append_right_inj, List.cons_prefix_cons] using (isAnc_iff_prefix _ _).mp hp)

theorem chainAt_instances (var : String) (n : Node) (kids rest : Forest) (vals : List String) :
    ∀ (j : Nat) (hj : j < vals.length) (more : Addr),
      chainAt (instances var n kids rest vals) (j :: more)
        = chainAt (.role (withIter n var vals[j]) kids .nil) (0 :: more) := by
  induction vals with
  | nil => intro j hj; cases hj
  | cons v vs ih =>
    intro j hj more
    cases j with
    | zero => cases more <;> simp [instances, chainAt]
    | succ j =>
      have := ih j (by simpa using hj) more
      simp only [instances, chainAt, this, List.getElem_cons_succ]

theorem chainAt_instances_rest (var : String) (n : Node) (kids rest : Forest) (vals : List String) :
    ∀ (j : Nat) (more : Addr),
      chainAt (instances var n kids rest vals) ((vals.length + j) :: more) = chainAt rest (j :: more) := by
  induction vals with
  | nil => intro j more; simp [instances]
  | cons v vs ih =>
    intro j more
    have := ih j more
    have hidx : (v :: vs).length + j = (vs.length + j) + 1 := by simp; omega
    rw [hidx]
    simp only [instances, chainAt, this]

theorem instancesWith_publishing (cfg : LoadCfg) (var : String) (n : Node) (hn : cfg.publishes n = true)
    (kids rest : Forest) (vals : List String) :
    instancesWith cfg var n kids rest vals = instances var n kids rest vals := by
  induction vals with
  | nil => rfl
  | cons v vs ih => simp only [instancesWith, instances, instantiate, hn, if_true, ih]

/-- The load yields the tree the rule reads off the template (`expand`) as soon as every template of an
    iterator publishes its Locals: plain roles do, and either include sites do too or none is iterated. -/
theorem load_eq_expand (cfg : LoadCfg) (hp : cfg.plainPublishes = true) (t : TForest)
    (h : cfg.sitePublishesBeforeSwap = true ∨ noIteratedSite t = true) : load cfg t = expand t := by
  induction t with
  | nil => rfl
  | role n kids next ihk ihn =>
    simp only [noIteratedSite, Bool.and_eq_true] at h
    simp only [load, expand, ihk (h.imp_right (·.1)), ihn (h.imp_right (·.2))]
  | iter var vals n kids next ihk ihn =>
    simp only [noIteratedSite, Bool.and_eq_true, Bool.not_eq_true'] at h
    have hn : cfg.publishes n = true := by
      unfold LoadCfg.publishes
      rcases h with hs | h
      · split
        · exact hs
        · exact hp
      · rw [h.1.1]; exact hp
    simp only [load, expand, ihk (h.imp_right (·.1.2)), ihn (h.imp_right (·.2)),
      instancesWith_publishing cfg var n hn]

end Vars
