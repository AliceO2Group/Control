/-
  Props/C01 — "Environment state changes only along the documented graph, one at a time".

  The model (Model/Env.lean) is tied to /repo by
    * `C01_fsm_is_code`: its transition table is the table obtained on this run by
      firing every event in every state on a real Environment (Gen/EnvFsm.lean);
    * `C01_glue_is_code`: the condition under which `controlApi` forces ERROR is the one
      written in RpcServer.ControlEnvironment (go/ast, Gen/EnvGlue.lean; the theorem gives the
      source text, `controlApi` is compared with it by reading);
    * the go/ast facts the concurrent layers assume (the other four `C01_…_is_code`);
    * the correspondence run (harness/envh): real Environment, real fsm, real
      TryTransition / TeardownEnvironment, compared step by step by the trace monitor.
-/
import ControlModel.Gen.EnvFsm
import ControlModel.Gen.EnvLocks
import ControlModel.Gen.EnvGlue
import ControlModel.Gen.FailureFacts
import ControlModel.Proofs.Env
import ControlModel.Proofs.EnvConc
import ControlModel.Proofs.EnvPair
import ControlModel.Proofs.EnvPhase
import ControlModel.Spec.C01

open EnvM

def stIdx : St → Nat
  | .STANDBY => 0 | .DEPLOYED => 1 | .CONFIGURED => 2 | .RUNNING => 3 | .ERROR => 4 | .DONE => 5
def evIdx : Ev → Nat
  | .DEPLOY => 0 | .CONFIGURE => 1 | .RESET => 2 | .START_ACTIVITY => 3 | .STOP_ACTIVITY => 4
  | .EXIT => 5 | .GO_ERROR => 6 | .RECOVER => 7

/-- The model's table IS the transition table of the fsm.FSM the code builds:
    same names in the same order, and for each of the 48 (event, state) cells the
    same verdict and destination. -/
theorem C01_fsm_is_code :
    Gen.envStates = St.all.map St.name ∧ Gen.envEvents = Ev.all.map Ev.name ∧
    ∀ (e : Ev) (s : St),
      (dst? e s).map stIdx =
        ((Gen.envFsm.find? (fun t => t.1 == evIdx e && t.2.1 == stIdx s)).map (·.2.2)) := by
  refine ⟨rfl, rfl, ?_⟩
  intro e s; cases e <;> cases s <;> decide

theorem api_edge (e : Ev) (s d : St) (he : e.isApi = true ∨ e = .GO_ERROR) (h : dst? e s = some d) :
    docEdge s d = true ∧ d ≠ .DONE := by
  cases e <;> cases s <;> cases h <;> revert he <;> decide

theorem docEdge_refl (s : St) : docEdge s s = true := by cases s <;> rfl

theorem docEdge_error (s : St) (h : s ≠ .DONE) : docEdge s .ERROR = true := by
  revert h; cases s <;> decide

theorem docEdge_to_done (s : St) : docEdge s .DONE = true := by cases s <;> rfl

theorem docEdge_done (s : St) (h : docEdge .DONE s = true) : s = .DONE := by
  revert h; cases s <;> decide

/-- Invariant carried along request sequences: an environment in DONE is no longer listed. -/
def DoneIsGone (env : Env) : Prop := env.st = .DONE → env.gone = true

theorem DoneIsGone.notDone {env : Env} (hinv : DoneIsGone env) (hng : env.gone = false) : env.st ≠ .DONE :=
  fun h => by rw [hinv h] at hng; cases hng

theorem try_edge (hooks : List Hook) (env : Env) (e : Ev) (b r : Bool) (he : e.isApi = true ∨ e = .GO_ERROR) :
    docEdge env.st (tryTransition env hooks e b r).1.st = true ∧ (tryTransition env hooks e b r).1.gone = env.gone ∧
    ((tryTransition env hooks e b r).1.st = .DONE → env.st = .DONE) := by
  unfold tryTransition
  have hg := fsmEvent_gone env hooks e b r
  obtain h | ⟨d, hd, hst, _⟩ := fsmEvent_st env hooks e b r
  · rw [h.1]; exact ⟨docEdge_refl _, hg, id⟩
  · obtain ⟨h1, h2⟩ := api_edge e env.st d he hd
    rw [hst]; exact ⟨h1, hg, fun hD => absurd hD h2⟩

/-- An illegal request is never executed: no hook starts, no body runs, nothing changes. -/
theorem C01_illegal_inert (hooks : List Hook) (env : Env) (e : Ev) (b r : Bool) (h : dst? e env.st = none) :
    tryTransition env hooks e b r = (env, [], .illegal) :=
  fsmEvent_illegal env hooks e b r h

/-- **The glue leaves a finished environment alone**: a request that reaches the ControlEnvironment
    glue while the environment is DONE — it looked the environment up while a teardown was in
    progress — is refused as illegal and executes NOTHING: no hook, no body, no GO_ERROR callback, no
    forced state; the environment is exactly what the teardown left. For every event. -/
theorem C01_control_on_done_inert (hooks : List Hook) (env : Env) (e : Ev) (b r : Bool) (hd : env.st = .DONE) :
    controlApi env hooks e b r = (env, [], .illegal) := by
  have h1 := C01_illegal_inert hooks env e b r (by rw [hd]; exact dst_done e)
  have h2 := C01_illegal_inert hooks env .GO_ERROR true false (by rw [hd]; exact dst_done _)
  unfold controlApi
  simp [h1, h2, Result.isOk, hd]

theorem control_edge (hooks : List Hook) (env : Env) (e : Ev) (b r : Bool) (he : e.isApi = true) (hnd : env.st ≠ .DONE) :
    docEdge env.st (controlApi env hooks e b r).1.st = true ∧ (controlApi env hooks e b r).1.st ≠ .DONE ∧
    ((controlApi env hooks e b r).2.2.isOk = false → (controlApi env hooks e b r).1.st = .ERROR) := by
  have ht := try_edge hooks env e b r (.inl he)
  rcases controlApi_cases hooks env e b r with ⟨hok, heq⟩ | ⟨_, hE⟩ | ⟨_, _, hD⟩
  · rw [heq] at hok ⊢
    exact ⟨ht.1, fun h => hnd (ht.2.2 h), fun h => by rw [hok] at h; cases h⟩
  · rw [hE]; exact ⟨docEdge_error _ hnd, nofun, fun _ => rfl⟩
  · -- the glue spares DONE only: an API event never takes a live environment there
    exact absurd (ht.2.2 hD) hnd

theorem stepHeld_edge (hooks : List Hook) (n : Nat) (listed : Bool) (env : Env) (q : Req)
    (hq : q.inScope = true) (hinv : DoneIsGone env) :
    docEdge env.st (stepHeld hooks n listed env q).1.st = true ∧ DoneIsGone (stepHeld hooks n listed env q).1 := by
  fun_cases stepHeld hooks n listed env q with
  | case1 e b r =>
    simp only [Req.inScope, Bool.or_eq_true, beq_iff_eq] at hq
    obtain ⟨h1, hg, hD⟩ := try_edge hooks env e b r hq
    exact ⟨h1, fun h => hg ▸ hinv (hD h)⟩
  | case2 | case4 => exact ⟨docEdge_refl _, hinv⟩  -- not found
  | case3 e b r =>
    by_cases hd : env.st = .DONE
    · rw [C01_control_on_done_inert hooks env e b r hd]; exact ⟨docEdge_refl _, hinv⟩
    · obtain ⟨h1, h2, _⟩ := control_edge hooks env e b r hq hd
      exact ⟨h1, fun h => absurd h h2⟩
  | case5 f r1 r2 =>
    rcases teardown_st env hooks f r1 r2 n with ⟨h1, h2, _⟩ | ⟨h1, h2⟩
    · rw [h1]; exact ⟨docEdge_refl _, fun hD => h2 ▸ hinv (h1 ▸ hD)⟩
    · rw [h1]; exact ⟨docEdge_to_done _, fun _ => h2⟩

/-- One in-scope request moves the reported state along a documented edge (or not at
    all) and keeps "DONE ⇒ unlisted". -/
theorem C01_step_edge (hooks : List Hook) (n : Nat) (env : Env) (q : Req)
    (hq : q.inScope = true) (hinv : DoneIsGone env) :
    docEdge env.st (step hooks n env q).1.st = true ∧ DoneIsGone (step hooks n env q).1 := by
  rw [step_eq_stepHeld]; exact stepHeld_edge hooks n _ env q hq hinv

/-- States reported after each request of a sequence. -/
def reported (hooks : List Hook) (n : Nat) (env : Env) (qs : List Req) : List St :=
  (runSeq hooks n env qs).map (·.2.2.st)

def chainOk : St → List St → Bool
  | _, [] => true
  | s, s' :: rest => docEdge s s' && chainOk s' rest

/-- States reported after each request of a list with overlapping pairs, in mutex order. -/
def reportedPar (hooks : List Hook) (n : Nat) (env : Env) (qs : List PReq) : List St :=
  (runPar hooks n env qs).map (·.2.2.st)

def PReq.inScope : PReq → Bool
  | .one q => q.inScope
  | .par a b => a.inScope && b.inScope

/-- **The graph clause for overlapping requests**: for EVERY hook set and EVERY list of in-scope
    requests and overlapping pairs — the second of a pair having looked the environment up before the
    first finished — consecutive reported states are joined by documented edges. No pair is excluded. -/
theorem C01_graph_par (hooks : List Hook) (n : Nat) (qs : List PReq)
    (hq : qs.all PReq.inScope = true) (env : Env) (hinv : DoneIsGone env) :
    chainOk env.st (reportedPar hooks n env qs) = true := by
  induction qs generalizing env with
  | nil => rfl
  | cons q qs ih =>
    simp only [List.all_cons, Bool.and_eq_true] at hq
    cases q with
    | one a =>
      obtain ⟨h1, h2⟩ := C01_step_edge hooks n env a hq.1 hinv
      simp only [reportedPar, runPar, List.map_cons, chainOk, Bool.and_eq_true]
      exact ⟨h1, ih hq.2 _ h2⟩
    | par a b =>
      simp only [PReq.inScope, Bool.and_eq_true] at hq
      obtain ⟨h1, h2⟩ := C01_step_edge hooks n env a hq.1.1 hinv
      have hb := stepHeld_edge hooks n (!env.gone) (step hooks n env a).1 b hq.1.2 h2
      simp only [reportedPar, runPar, List.map_cons, chainOk, Bool.and_eq_true]
      exact ⟨h1, hb.1, ih hq.2 _ hb.2⟩

theorem chainOk_done (l : List St) (h : chainOk .DONE l = true) : ∀ s ∈ l, s = .DONE := by
  induction l with
  | nil => nofun
  | cons s l ih =>
    simp only [chainOk, Bool.and_eq_true] at h
    cases docEdge_done s h.1
    exact fun s' hs' => (List.mem_cons.mp hs').elim id (ih h.2 s')

/-- C01, graph clause: for EVERY hook set, EVERY sequence of in-scope requests
    (API control requests, teardowns, internal GO_ERROR) of any length and with any
    combination of failing hooks, failing bodies, failing run-number acquisition and
    failing releases, consecutive reported states are joined by documented edges. -/
theorem C01_graph (hooks : List Hook) (n : Nat) (qs : List Req) (hq : qs.all Req.inScope = true)
    (env : Env) (hinv : DoneIsGone env) :
    chainOk env.st (reported hooks n env qs) = true := by
  have h := C01_graph_par hooks n (qs.map .one) (by rw [List.all_map]; exact hq) env hinv
  rwa [reportedPar, runPar_one] at h

/-- …in particular from a freshly created environment. -/
theorem C01_graph_from_new (hooks : List Hook) (n : Nat) (qs : List Req) (hq : qs.all Req.inScope = true) :
    chainOk .STANDBY (reported hooks n {} qs) = true :=
  C01_graph hooks n qs hq {} nofun

/-- DONE is terminal: once a sequence of in-scope requests has reported DONE, every later
    report is DONE (the environment is unlisted; API requests answer "not found"). -/
theorem C01_done_terminal (hooks : List Hook) (n : Nat) (qs : List Req) (hq : qs.all Req.inScope = true)
    (env : Env) (hinv : DoneIsGone env) (hd : env.st = .DONE) :
    ∀ s ∈ reported hooks n env qs, s = .DONE :=
  chainOk_done _ (hd ▸ C01_graph hooks n qs hq env hinv)

/-- A teardown that is not legal — the environment is DONE, or it is neither STANDBY nor
    DEPLOYED and `force` was not given — is refused and executes nothing: no hook, no release, no
    change. -/
theorem C01_illegal_teardown_inert (hooks : List Hook) (env : Env) (f r1 r2 : Bool) (n : Nat)
    (h : env.st = .DONE ∨ (env.st ≠ .STANDBY ∧ env.st ≠ .DEPLOYED ∧ f = false)) :
    teardown env hooks f r1 r2 n = (env, [], .teardownRefused) :=
  teardown_refused env hooks f r1 r2 n h

/-- Through the API an illegal request on a listed environment (hence not DONE: `DoneIsGone`)
    contributes NO step of its own — everything that runs is the GO_ERROR fallback (whose no-op body is not a task command) — is answered
    with an error, and leaves the environment in ERROR. -/
theorem C01_illegal_api (hooks : List Hook) (env : Env) (e : Ev) (b r : Bool) (he : e.isApi = true)
    (h : dst? e env.st = none) (hinv : DoneIsGone env) (hng : env.gone = false) :
    (controlApi env hooks e b r).2.2 = .illegal ∧ (controlApi env hooks e b r).1.st = .ERROR ∧
    let gs := (tryTransition env hooks .GO_ERROR true false).2.1.filter (fun s => match s with | .body .. => false | _ => true)
    ((controlApi env hooks e b r).2.1 = gs ∨ (controlApi env hooks e b r).2.1 = gs ++ [Step.setState .ERROR]) := by
  have hE := (control_edge hooks env e b r he (hinv.notDone hng)).2.2
  have hres : (controlApi env hooks e b r).2.2 = .illegal := by
    rw [controlApi_result, C01_illegal_inert hooks env e b r h]
  refine ⟨hres, hE (by rw [hres]; rfl), ?_⟩
  unfold controlApi
  rw [C01_illegal_inert hooks env e b r h]
  simp only [show Result.illegal.isOk = false from rfl, Bool.false_eq_true, if_false, List.nil_append]
  split
  · exact Or.inl rfl
  · exact Or.inr rfl

/-- A request made through the API on a listed environment (hence not DONE: `DoneIsGone`) that does not succeed
    leaves the environment in ERROR. -/
theorem C01_failed_goes_error (hooks : List Hook) (env : Env) (e : Ev) (b r : Bool) (he : e.isApi = true)
    (hinv : DoneIsGone env) (hng : env.gone = false)
    (hfail : (controlApi env hooks e b r).2.2.isOk = false) :
    (controlApi env hooks e b r).1.st = .ERROR :=
  (control_edge hooks env e b r he (hinv.notDone hng)).2.2 hfail

/-- The ControlEnvironment glue of the model is the one in core/server.go (go/ast on every run): the
    state is forced — `env.Sm.SetState("ERROR")` — in exactly one statement, guarded by
    `goErr != nil && env.CurrentState() != "DONE"` where `goErr` is the result of the GO_ERROR fallback
    (the states spared are exactly [DONE]); `controlApi`, which does not occur in the statement, is written
    to match: it forces ERROR iff that fallback was refused and the state is not DONE. Without the repair "ControlEnvironment does not force ERROR on an environment
    that is DONE" the condition is `goErr != nil` (`controlApiLegacy`) and this theorem is false. -/
theorem C01_glue_is_code :
    Gen.glueRecognised = true ∧ Gen.glueSpares = [St.DONE.name] ∧
    Gen.glueInit = "goErr := env.TryTransition(environment.NewGoErrorTransition(m.state.taskman))" ∧
    Gen.glueCond = "goErr != nil && env.CurrentState() != \"DONE\"" := ⟨rfl, rfl, rfl, rfl⟩

/-- Non-vacuity: a concrete walk with a critical hook that fails once, through the API. -/
example :
    let hooks : List Hook := [{ id := 0, isTask := false, critical := true, trig := .before .CONFIGURE, tw := 0,
                                await := .before .CONFIGURE, aw := 0, outcomes := [true] }]
    reported hooks 1 {} [.control .DEPLOY true false, .control .CONFIGURE true false, .teardown true true true]
      = [.DEPLOYED, .ERROR, .DONE] := by decide

/-- What the concurrent layer (Model/EnvConc) assumes about the code, re-read from the source
    by go/ast on every run: the ONLY place that fires the environment's state machine is
    TryTransition, with transitionMutex held (deferred unlock); the only direct writes of the
    state are `DONE` at the end of TeardownEnvironment — under the mutex — and the forced
    `ERROR` of the failure paths (`setState` itself, the workflow watcher writing the ERROR it
    was notified of, auto-stop, CreateEnvironment, integrated-service events,
    CreateAutoEnvironment, ControlEnvironment), which hold no lock: `Piece.force`. (The statement compares
    the lock flag of each site and the argument written, in order; the enclosing functions named here are the
    first components in Gen/EnvLocks.lean.) A new
    unlocked writer, or a second place that fires events, makes this theorem false. -/
theorem C01_lock_sites_are_code :
    Gen.smEventSites.map (·.2) = [true] ∧
    Gen.stateWriteSites.map (·.2) =
      [("state", false), ("wfState.String()", false), ("ERROR", false), ("ERROR", false), ("DONE", true),
       ("ERROR", false), ("ERROR", false), ("ERROR", false)] := ⟨rfl, rfl⟩

/-- How the mutex is taken, re-read from the source by go/ast on every run: the only functions that touch
    `transitionMutex` are TryTransition and TeardownEnvironment, each as
    `if !m.TryLock() { log…; m.Lock(); log… }; defer m.Unlock()` with nothing but plain calls in the
    if-body: a caller that finds the mutex busy ALWAYS queues for it — whoever holds it, a transition or a
    teardown — and is carried out afterwards. This is the `.start` / `.between .goError` move of
    Model/EnvConc (not enabled while somebody holds; nothing else the caller can do). A way out of that
    if-body (a request refused at once because "a teardown is in progress", say) makes this theorem false. -/
theorem C01_busy_mutex_is_waited_for_is_code :
    Gen.mutexAcquireSites = [("TryTransition", true), ("TeardownEnvironment", true)] := rfl

/-- The one unlocked writer whose argument is not a literal — `env.setState(wfState.String())` in
    the workflow watcher (`subscribeToWfState`) — only ever writes ERROR: the watcher reacts to
    ERROR only, arms its timer once and LEAVES its loop at once (so the value the timer's
    function later forces cannot be overwritten by a later notification), and what it forces
    when GO_ERROR is refused is that ERROR (go/ast facts shared with C03, re-read on every run).
    With `C01_lock_sites_are_code` this is why `Piece.force` writes ERROR and nothing else. -/
theorem C01_watcher_forces_error_only_is_code :
    Gen.C03.watcherOnError = true ∧ Gen.C03.watcherOneShot = true ∧ Gen.C03.forcedError = true := ⟨rfl, rfl, rfl⟩

/-- **At most one transition or teardown of an environment is in progress at any instant**:
    for EVERY set of concurrent callers (any requests) and EVERY schedule of their moves
    (look-up, take the mutex and run, release, GO_ERROR fallback, unlocked read, forced write), at most one
    caller is inside the mutex. -/
theorem C01_mutex (hooks : List Hook) (n : Nat) (env : Env) (reqs : List Req) (sched : List Nat) :
    AtMostOne (runSched hooks n (initSys env reqs) sched).callers :=
  (concInv_run hooks n env _ sched (concInv_init hooks n env reqs)).mutex

/-- **Concurrent requests are executed one after the other, each one seeing the state left by
    the previous one**: under every schedule the pieces that were executed form a chain — the
    first found the initial environment, every other one found exactly what its predecessor
    left, and the environment now is what the last one left … -/
theorem C01_serial (hooks : List Hook) (n : Nat) (env : Env) (reqs : List Req) (sched : List Nat) :
    chained env (runSched hooks n (initSys env reqs) sched).log ∧
    lastEnv env (runSched hooks n (initSys env reqs) sched).log = (runSched hooks n (initSys env reqs) sched).env :=
  ⟨(concInv_run hooks n env _ sched (concInv_init hooks n env reqs)).chain,
   (concInv_run hooks n env _ sched (concInv_init hooks n env reqs)).last⟩

/-- … and every executed piece did to the environment it found exactly what that request
    does when it runs alone (`runLocked`: TryTransition / TeardownEnvironment; the GO_ERROR
    fallback; the forced ERROR). (That a piece is applied in one move, so that nobody sees it
    half-done, is how Model/EnvConc is built, not part of this statement.) -/
theorem C01_pieces_atomic (hooks : List Hook) (n : Nat) (env : Env) (reqs : List Req) (sched : List Nat) :
    ∀ x ∈ (runSched hooks n (initSys env reqs) sched).log, x.faithful hooks n :=
  (concInv_run hooks n env _ sched (concInv_init hooks n env reqs)).faithful

/-- Non-vacuity: three callers, the schedule lets the second arrive (and look the environment
    up) while the first is inside; all three run, in mutex order, on each other's results. -/
example :
    let s := runSched [] 1 (initSys {} [.try_ .DEPLOY true false, .control .CONFIGURE true false, .teardown false true true])
      [0, 0, 1, 2, 1, 2, 0, 1, 1, 2, 2]
    s.log.map (fun x => (x.caller, x.before.st, x.after.st)) =
      [(0, .STANDBY, .DEPLOYED), (1, .DEPLOYED, .CONFIGURED), (2, .CONFIGURED, .CONFIGURED)] := by decide

/-- What the repair does NOT close (all schedules are covered by the three theorems above, which say
    nothing about the graph): the glue's read of the state and its write of ERROR are two unlocked
    moves. Caller 0's request and its GO_ERROR fallback are both vetoed by a critical leave_STANDBY hook,
    its check reads STANDBY; caller 1's teardown runs to DONE; caller 0 then writes ERROR over DONE. The
    window is between two adjacent statements of ControlEnvironment (no hook point, not reachable by the
    harness); the overlap the finding was about — the request waiting for the mutex — is closed
    (`C01_graph_par_code`). -/
example :
    let hooks : List Hook := [{ id := 0, isTask := false, critical := true, trig := .leave .STANDBY, tw := 0,
                                await := .leave .STANDBY, aw := 0, outcomes := [true, true, true] }]
    let s := runSched hooks 1 (initSys {} [.control .DEPLOY true false, .teardown true true true]) [0, 0, 0, 0, 0, 0, 1, 1, 1, 0]
    s.log.map (fun x => (x.caller, x.before.st, x.after.st)) =
      [(0, .STANDBY, .STANDBY), (0, .STANDBY, .STANDBY), (1, .STANDBY, .DONE), (0, .DONE, .ERROR)] := by decide

/-- The same with the ControlEnvironment glue as it was before the repair (`controlApiLegacy`). -/
def reportedParLegacy (hooks : List Hook) (n : Nat) (env : Env) (qs : List PReq) : List St :=
  (runParLegacy hooks n env qs).map (·.2.2.st)

/-- The pairs that finding control_overlaps_teardown was about: an API control request that arrives
    while a teardown is in progress. -/
def PReq.noControlOverTeardown : PReq → Bool
  | .par (.teardown ..) (.control ..) => false
  | _ => true

/-- The graph clause at full strength for overlapping requests, for a given way `rep` of running a
    list: EVERY hook set, EVERY list of in-scope requests and overlapping pairs. -/
def C01_graph_par_full_of (rep : List Hook → Nat → Env → List PReq → List St) : Prop :=
  ∀ (hooks : List Hook) (n : Nat) (qs : List PReq), qs.all PReq.inScope = true →
    chainOk .STANDBY (rep hooks n {} qs) = true

/-- … for the code as it is. Proved: `C01_graph_par_code`. -/
def C01_graph_par_full : Prop := C01_graph_par_full_of reportedPar

/-- **Finding control_overlaps_teardown** (repaired by "fix: ControlEnvironment does not force ERROR on
    an environment that is DONE"; a statement about the glue AS IT WAS, `controlApiLegacy`): a
    ControlEnvironment request that looked the environment up while a teardown was in progress gets the
    mutex after it, is refused (the event is illegal in DONE), the GO_ERROR fallback is refused too, and
    the glue then forced the state: the reply reported ERROR for an environment that is DONE and
    unlisted — DONE → ERROR is not an edge of the documented graph. -/
theorem C01_finding_control_overlaps_teardown : ¬ C01_graph_par_full_of reportedParLegacy := by
  intro h
  have := h [] 1 [.par (.teardown true true true) (.control .DEPLOY true false)] (by decide)
  revert this
  decide

/-- The same pair with the code as it is: the held control request is refused and the reported state
    stays DONE. -/
example : reportedPar [] 1 {} [.par (.teardown true true true) (.control .DEPLOY true false)] = [.DONE, .DONE] ∧
    (runPar [] 1 {} [.par (.teardown true true true) (.control .DEPLOY true false)]).map (·.2.1) = [.ok, .illegal] := by
  decide

/-- The full-strength statement holds for the code as it is (for the glue as it was it fails:
    `C01_finding_control_overlaps_teardown`). -/
theorem C01_graph_par_code : C01_graph_par_full :=
  fun hooks n qs hq => C01_graph_par hooks n qs hq {} nofun

/-- The graph clause for lists in which no API control request overlaps a teardown: all that holds of the
    glue as it was (`C01_graph_par_partial_legacy`); of the code as it is, an instance of `C01_graph_par`. -/
theorem C01_graph_par_partial (hooks : List Hook) (n : Nat) (qs : List PReq)
    (hq : qs.all PReq.inScope = true) (_hp : qs.all PReq.noControlOverTeardown = true)
    (env : Env) (hinv : DoneIsGone env) :
    chainOk env.st (reportedPar hooks n env qs) = true :=
  C01_graph_par hooks n qs hq env hinv

/-- **DONE is terminal for overlapping requests too**: once DONE has been reported, every later report
    of a list of in-scope requests and overlapping pairs is DONE. -/
theorem C01_done_terminal_par (hooks : List Hook) (n : Nat) (qs : List PReq) (hq : qs.all PReq.inScope = true)
    (env : Env) (hinv : DoneIsGone env) (hd : env.st = .DONE) :
    ∀ s ∈ reportedPar hooks n env qs, s = .DONE :=
  chainOk_done _ (hd ▸ C01_graph_par hooks n qs hq env hinv)

/-- …and the walk that the finding was about, from a new environment: whatever follows a teardown
    that went through — here a control request held on the mutex meanwhile — reports DONE. -/
example :
    reportedPar [] 1 {} [.one (.control .DEPLOY true false), .par (.teardown false true true) (.control .CONFIGURE true false),
                         .one (.teardown true true true)] = [.DEPLOYED, .DONE, .DONE, .DONE] := by decide

theorem controlApiLegacy_live (hooks : List Hook) (env : Env) (e : Ev) (b r : Bool) (he : e.isApi = true)
    (hnd : env.st ≠ .DONE) : controlApiLegacy env hooks e b r = controlApi env hooks e b r :=
  controlApiLegacy_eq hooks env e b r fun h => hnd ((try_edge hooks env e b r (.inl he)).2.2 h)

theorem stepLegacy_eq (hooks : List Hook) (n : Nat) (env : Env) (q : Req) (hq : q.inScope = true)
    (hinv : DoneIsGone env) : stepLegacy hooks n env q = step hooks n env q := by
  cases q with
  | try_ e b r => rfl
  | teardown f a b => rfl
  | control e b r =>
    rw [stepLegacy, step]
    split
    · rfl
    · rename_i hg
      exact controlApiLegacy_live hooks env e b r hq fun h => hg (hinv h)

theorem stepHeldLegacy_eq (hooks : List Hook) (n : Nat) (listed : Bool) (env : Env) (q : Req) (hq : q.inScope = true)
    (hc : ∀ e b r, q = .control e b r → listed = true → env.st ≠ .DONE) :
    stepHeldLegacy hooks n listed env q = stepHeld hooks n listed env q := by
  cases q with
  | try_ e b r => rfl
  | teardown f a b => rfl
  | control e b r =>
    cases listed with
    | false => rfl
    | true => exact controlApiLegacy_live hooks env e b r hq (hc e b r rfl rfl)

theorem step_notDone (hooks : List Hook) (n : Nat) (env : Env) (q : Req) (hq : q.inScope = true)
    (hnd : env.st ≠ .DONE) (hnt : ∀ f a b, q ≠ .teardown f a b) :
    (step hooks n env q).1.st ≠ .DONE := by
  fun_cases step hooks n env q with
  | case1 e b r =>
    simp only [Req.inScope, Bool.or_eq_true, beq_iff_eq] at hq
    exact fun h => hnd ((try_edge hooks env e b r hq).2.2 h)
  | case2 => exact hnd  -- not found
  | case3 e b r => exact (control_edge hooks env e b r hq hnd).2.1
  | case4 | case5 => exact nomatch hnt _ _ _ rfl

/-- **The repair touches the overlap of a control request with a teardown and nothing else**: on every
    list of in-scope requests and overlapping pairs in which no API control request overlaps a teardown,
    the glue as it was and the glue as it is produce the same steps, results and environments. -/
theorem C01_legacy_differs_only_over_teardown (hooks : List Hook) (n : Nat) (qs : List PReq)
    (hq : qs.all PReq.inScope = true) (hp : qs.all PReq.noControlOverTeardown = true)
    (env : Env) (hinv : DoneIsGone env) :
    runParLegacy hooks n env qs = runPar hooks n env qs := by
  induction qs generalizing env with
  | nil => rfl
  | cons q qs ih =>
    simp only [List.all_cons, Bool.and_eq_true] at hq hp
    cases q with
    | one a =>
      have h2 := (C01_step_edge hooks n env a hq.1 hinv).2
      simp only [runParLegacy, runPar]
      rw [stepLegacy_eq hooks n env a hq.1 hinv, ih hq.2 hp.2 _ h2]
    | par a b =>
      simp only [PReq.inScope, Bool.and_eq_true] at hq
      have h2 := (C01_step_edge hooks n env a hq.1.1 hinv).2
      have hb := stepHeld_edge hooks n (!env.gone) (step hooks n env a).1 b hq.1.2 h2
      -- a control request that saw the environment listed: it was not DONE before `a`, and `a` is not a teardown
      have hc : ∀ e x r, b = .control e x r → (!env.gone) = true → (step hooks n env a).1.st ≠ .DONE := by
        intro e x r hbc hl
        refine step_notDone hooks n env a hq.1.1 (hinv.notDone (Bool.not_eq_true' _ ▸ hl)) ?_
        intro f r1 r2 hat
        subst hat hbc
        exact nomatch hp.1
      simp only [runParLegacy, runPar]
      rw [stepLegacy_eq hooks n env a hq.1.1 hinv,
        stepHeldLegacy_eq hooks n (!env.gone) (step hooks n env a).1 b hq.1.2 hc, ih hq.2 hp.2 _ hb.2]

/-- Hence the graph clause for the glue as it was, on the lists without such an overlap. -/
theorem C01_graph_par_partial_legacy (hooks : List Hook) (n : Nat) (qs : List PReq)
    (hq : qs.all PReq.inScope = true) (hp : qs.all PReq.noControlOverTeardown = true)
    (env : Env) (hinv : DoneIsGone env) :
    chainOk env.st (reportedParLegacy hooks n env qs) = true := by
  unfold reportedParLegacy
  rw [C01_legacy_differs_only_over_teardown hooks n qs hq hp env hinv]
  exact C01_graph_par hooks n qs hq env hinv

/-- In a pair, the second request runs on exactly what the first left (and the rest of the
    list on what the second left): overlapping requests are a sequence. -/
theorem C01_par_is_sequence (hooks : List Hook) (n : Nat) (env : Env) (a b : Req) (qs : List PReq) :
    runPar hooks n env (.par a b :: qs) =
      (let r1 := step hooks n env a
       let r2 := stepHeld hooks n (!env.gone) r1.1 b
       (r1.2.1, r1.2.2, r1.1) :: (r2.2.1, r2.2.2, r2.1) :: runPar hooks n r2.1 qs) := rfl

/-- A pair whose first request leaves the listing alone is the two requests issued one after the other. -/
theorem C01_par_eq_seq (hooks : List Hook) (n : Nat) (env : Env) (a b : Req)
    (hg : (step hooks n env a).1.gone = env.gone) :
    stepHeld hooks n (!env.gone) (step hooks n env a).1 b = step hooks n (step hooks n env a).1 b := by
  rw [step_eq_stepHeld hooks n (step hooks n env a).1 b, hg]

/-- **While a caller is inside the mutex, the callers that have not been inside yet can do nothing**: for
    EVERY schedule of their moves (the holder does not move) the environment and the log stay what they
    are, the holder still holds and the others are still newcomers — none has run anything, none has
    returned. This is the model's side of the harness's overlap record: with the first request of a pair
    parked inside its critical section, the second one queues and the reported state does not move
    (`overlapItems`, Spec clause `st1 = st0`). A request that is refused at once and answered with a forced
    write, as in "teardown in progress ⇒ do not queue", is not a behaviour of this layer. -/
theorem C01_nothing_happens_while_held (hooks : List Hook) (n : Nat) (s : Sys) (j : Nat) (sched : List Nat)
    (hs : ∀ i ∈ sched, i ≠ j) (h : HeldBy s j) :
    (runSched hooks n s sched).env = s.env ∧ (runSched hooks n s sched).log = s.log ∧
      HeldBy (runSched hooks n s sched) j :=
  runSched_induction (P := fun s' => s'.env = s.env ∧ s'.log = s.log ∧ HeldBy s' j) sched
    (fun s' i hi h' =>
      have hm := heldBy_move hooks n s' j i (hs i hi) h'.2.2
      ⟨hm.2.1.trans h'.1, hm.2.2.trans h'.2.1, hm.1⟩)
    ⟨rfl, rfl, h⟩

/-- **The one write of Model/EnvConc outside any critical section (ControlEnvironment's forced ERROR) needs two
    critical sections of its own**: under every
    schedule of any set of callers, a forced ERROR in the log was written by a caller whose own request
    AND whose GO_ERROR fallback had both been carried out under the mutex before — and had failed. The
    write can land while somebody else (a teardown, say) is inside only in that way: never from a
    request that has just arrived. -/
theorem C01_forced_write_needs_own_sections (hooks : List Hook) (n : Nat) (env : Env) (reqs : List Req)
    (sched : List Nat) (pre post : List LogEntry) (x : LogEntry)
    (hlog : (runSched hooks n (initSys env reqs) sched).log = pre ++ x :: post) (hx : x.isForce = true) :
    wentThrough pre x.caller = true := by
  have h := (forceInv_run hooks n _ sched (forceInv_init env reqs)).just
  rw [hlog] at h
  simpa using forcedJustified_at [] pre post x h hx

/-- Non-vacuity, and the schedule in which the write does land during a teardown: caller 0's request and
    fallback are vetoed by a critical hook (two critical sections of its own), it reads the state, caller 1
    takes the mutex for its teardown, and caller 0 forces ERROR while caller 1 is still inside. -/
example :
    let hooks : List Hook := [{ id := 0, isTask := false, critical := true, trig := .leave .STANDBY, tw := 0,
                                await := .leave .STANDBY, aw := 0, outcomes := [true, true, true] }]
    let s := runSched hooks 1 (initSys {} [.control .DEPLOY true false, .teardown true true true]) [0, 1, 0, 0, 0, 0, 0, 1, 0]
    s.log.map (fun x => (x.caller, x.isForce)) = [(0, false), (0, false), (1, false), (0, true)] ∧
      (s.callers.map Caller.isHolding) = [false, true] := by decide

/-- With the first request of a pair (a transition through TryTransition or a teardown) inside its critical
    section, every schedule that does not let it leave keeps the environment at what that critical section made of it, and the second caller queueing. -/
theorem C01_pair_second_waits (hooks : List Hook) (n : Nat) (env : Env) (a b : Req) (ha : a.isControl = false)
    (sched : List Nat) (hs : ∀ i ∈ sched, i ≠ 0) :
    let s := runSched hooks n (pairStart hooks n env a b) sched
    s.env = (step hooks n env a).1 ∧ s.log = (pairStart hooks n env a b).log ∧
      s.callers.map Caller.isNew = [false, true] := by
  intro s
  have hstay : s = pairStart hooks n env a b :=
    runSched_induction (P := (· = pairStart hooks n env a b)) sched
      (fun s i hi h => by rw [h]; exact move_pairStart hooks n env a b ha i (hs i hi)) rfl
  rw [hstay, pairStart_eq hooks n env a b ha]
  exact ⟨runLocked_eq_step hooks n env a ha, rfl, rfl⟩

/-- **A pair is executed as `runPar` says, under EVERY schedule**: two callers, both look-ups made, the
    first (a transition through TryTransition or a teardown) inside its critical section — whatever the
    order of the moves from there, when both callers are done the environment is the one the sequential
    model of the pair ends in (`runPar`: the first request, then the second on what the first left, with
    the look-up it made before). The trace monitor's model is the outcome of all schedules of the
    concurrent layer. -/
theorem C01_pair_every_schedule (hooks : List Hook) (n : Nat) (env : Env) (a b : Req) (ha : a.isControl = false)
    (sched : List Nat) :
    let s := runSched hooks n (pairStart hooks n env a b) sched
    s.allDone = true → (runPar hooks n env [.par a b]).getLast?.map (·.2.2) = some s.env := by
  intro s hd
  have hinv : PairInv hooks n env a b s :=
    runSched_induction sched (fun s i _ => pairInv_move hooks n env a b ha s i) (.inl rfl)
  rcases hinv with hs | ⟨c0, c1, hcs, _, hout⟩
  · -- caller 0 is still inside
    rw [hs, pairStart_eq hooks n env a b ha] at hd; cases hd
  · -- caller 1 is done: the environment is the one it was going to leave
    have h1 : c1.pc = .done := by
      simp only [Sys.allDone, hcs, List.all_cons, List.all_nil, Bool.and_true, Bool.and_eq_true] at hd
      cases hpc : c1.pc with
      | done => rfl
      | _ => rw [hpc] at hd; cases hd.2
    rw [Caller.outcome, h1] at hout
    exact congrArg some hout.symm

example :
    let s := runSched [] 1 (pairStart [] 1 {} (.teardown true true true) (.control .DEPLOY true false)) [1, 1, 0, 1, 1, 1, 1, 1, 1, 1]
    s.allDone = true ∧ s.env.st = .DONE ∧ s.log.map (fun x => (x.caller, x.after.st)) = [(0, .DONE), (1, .DONE), (1, .DONE)] := by decide

/-- How the task-level body of a transition is run, re-read from the source by go/ast on every run: the only
    function of core/environment that calls `Transition.do` is handlerFunc (the helper of the leave_<state>
    callback, which runs inside `Sm.Event`, i.e. inside TryTransition's critical section —
    `C01_lock_sites_are_code`), and it WAITS for it for as long as the tasks take: a plain call in the
    function literal it returns, no go statement, no select, no timer or deadline anywhere in it. This is
    `codePhaseCfg` (`abandon = false`): a `.caller` move of Model/EnvPhase is not enabled while the caller's
    `do` has not returned, and there is no `.giveUp` move. A `do` run in a goroutine and waited for with a
    time limit ("the tasks get so long to answer") makes this theorem false. -/
theorem C01_task_phase_is_synchronous_is_code :
    Gen.bodyCallSites = [("handlerFunc", !codePhaseCfg.abandon)] := rfl

/-- **At most one task phase at any instant, and it lies inside its critical section**: for EVERY set of
    concurrent callers and EVERY schedule of their moves and of the tasks' answers — however late an answer
    comes — at most one command is unanswered, the transitions waiting for an answer are exactly those whose
    command is unanswered, the caller of that transition is inside the mutex (nobody else can be: `C01_mutex`
    through `C01_task_phase_schedules_are_schedules`), and so the mutex is not free while the tasks work. -/
theorem C01_task_phases_never_overlap (hooks : List Hook) (n : Nat) (env : Env) (reqs : List Req) (sched : List PMove) :
    let ps := runPhases codePhaseCfg hooks n (initPSys env reqs) sched
    ps.unanswered.length ≤ 1 ∧ ps.waiting = ps.unanswered ∧
      (∀ i ∈ ps.unanswered, isHoldingAt ps.sys i = true) ∧ (ps.unanswered ≠ [] → ps.sys.free = false) := by
  intro ps
  have h := phaseInv_run hooks n env _ sched (phaseInv_init hooks n env reqs)
  have hs : ps.waiting = ps.unanswered := h.same
  -- the unanswered commands are those of the waiting transitions: none, or the one of the caller inside
  rw [← hs]
  rcases h.open_ with hw | ⟨j, hw, hj⟩ <;> rw [show ps.waiting = _ from hw]
  · exact ⟨Nat.zero_le 1, rfl, nofun, fun hne => absurd rfl hne⟩
  · refine ⟨Nat.le_refl 1, rfl, fun i hi => List.mem_singleton.mp hi ▸ hj, fun _ => ?_⟩
    obtain ⟨cj, hcj, hh⟩ := (isHoldingAt_iff _ _).mp hj
    exact not_free_of_holding _ j cj hcj hh

/-- **Every answer of the tasks is received by the transition that asked**: under every schedule, each
    TasksStateChangedEvent delivered so far went to the `do` of the caller whose command it answers. -/
theorem C01_answer_goes_to_the_transition_that_asked (hooks : List Hook) (n : Nat) (env : Env) (reqs : List Req)
    (sched : List PMove) :
    ∀ p ∈ (runPhases codePhaseCfg hooks n (initPSys env reqs) sched).consumed, p.1 = p.2 :=
  (phaseInv_run hooks n env _ sched (phaseInv_init hooks n env reqs)).cons

/-- Whatever a schedule with task phases reaches, the concurrent layer of Model/EnvConc reaches by a schedule
    of its own: the task phase adds waiting, never a new behaviour … -/
theorem C01_task_phase_schedules_are_schedules (cfg : PhaseCfg) (hooks : List Hook) (n : Nat) (env : Env)
    (reqs : List Req) (sched : List PMove) :
    ∃ sched' : List Nat, (runPhases cfg hooks n (initPSys env reqs) sched).sys = runSched hooks n (initSys env reqs) sched' :=
  runPhases_sys cfg hooks n (initPSys env reqs) sched

/-- … hence **a request that runs sees the state the previous one left, bodies with their task phases
    included**: under every schedule of callers' moves and late answers, at most one caller is inside the mutex,
    the executed pieces form a chain from the initial environment to the present one, and each did what it does
    when run alone. -/
theorem C01_serial_with_task_phases (hooks : List Hook) (n : Nat) (env : Env) (reqs : List Req) (sched : List PMove) :
    let s := (runPhases codePhaseCfg hooks n (initPSys env reqs) sched).sys
    AtMostOne s.callers ∧ chained env s.log ∧ lastEnv env s.log = s.env ∧ ∀ x ∈ s.log, x.faithful hooks n := by
  intro s
  obtain ⟨sched', hs⟩ := C01_task_phase_schedules_are_schedules codePhaseCfg hooks n env reqs sched
  have hs' : s = runSched hooks n (initSys env reqs) sched' := hs
  rw [hs']
  exact ⟨C01_mutex hooks n env reqs sched', (C01_serial hooks n env reqs sched').1, (C01_serial hooks n env reqs sched').2,
    C01_pieces_atomic hooks n env reqs sched'⟩

/-- **While the tasks work on one transition, a request that arrives can do nothing**: with caller `j` in its
    task phase (however long), every move of a caller that has not been inside the mutex yet leaves the
    environment, the log and the open task phase as they are. -/
theorem C01_newcomer_waits_for_task_phase (hooks : List Hook) (n : Nat) (ps : PSys) (i j : Nat) (hij : i ≠ j)
    (hw : ps.waiting = [j]) (hh : HeldBy ps.sys j) :
    let ps' := pmove codePhaseCfg hooks n ps (.caller i)
    ps'.sys.env = ps.sys.env ∧ ps'.sys.log = ps.sys.log ∧ ps'.waiting = [j] ∧ ps'.unanswered = ps.unanswered ∧ HeldBy ps'.sys j := by
  have hm := heldBy_move hooks n ps.sys j i hij hh
  intro ps'
  rcases pmove_caller_cases codePhaseCfg hooks n ps i with hk | ⟨_, hk | ⟨_, hnow, _⟩⟩
  · rw [show ps' = _ from hk]; exact ⟨rfl, rfl, hw, rfl, hh⟩
  · rw [show ps' = _ from hk]; exact ⟨hm.2.1, hm.2.2, hw, rfl, hm.1⟩
  · -- the mutex is busy: the move cannot take it
    obtain ⟨ci, hci, hhi⟩ := (isHoldingAt_iff _ _).mp hnow
    have hnew := hm.1.2 i ci hij hci
    rw [Caller.isNew] at hnew; rw [Caller.isHolding] at hhi
    revert hnew hhi; cases ci.pc <;> exact nofun

/-- Non-vacuity: two callers; the first takes the mutex and sends its command (task phase open), the second
    arrives and tries three times — nothing; the tasks answer; the first releases; the second runs on the
    state the first left and has a task phase of its own. -/
example :
    let ps := runPhases codePhaseCfg [] 1 (initPSys {} [.try_ .DEPLOY true false, .control .CONFIGURE true false])
      [.caller 0, .caller 0, .caller 1, .caller 1, .caller 0, .caller 1, .answer 1, .answer 0, .caller 0, .caller 1]
    ps.consumed = [(0, 0)] ∧ ps.unanswered = [1] ∧ ps.waiting = [1] ∧
      ps.sys.log.map (fun x => (x.caller, x.before.st, x.after.st)) = [(0, .STANDBY, .DEPLOYED), (1, .DEPLOYED, .CONFIGURED)] := by
  decide

/-- A body that may be abandoned — `abandonPhaseCfg`, NOT the code: handlerFunc stops waiting for a `do` that
    has not returned — breaks both statements: caller 0 gives up on its slow tasks and leaves the mutex with its
    command unanswered, caller 1 is carried out meanwhile: two task phases at once, and the answer to caller
    1's command is taken by caller 0's abandoned `do`. -/
theorem C01_abandoned_task_phase_overlaps :
    ¬ (∀ (hooks : List Hook) (n : Nat) (env : Env) (reqs : List Req) (sched : List PMove),
        (runPhases abandonPhaseCfg hooks n (initPSys env reqs) sched).unanswered.length ≤ 1) ∧
    ¬ (∀ (hooks : List Hook) (n : Nat) (env : Env) (reqs : List Req) (sched : List PMove),
        ∀ p ∈ (runPhases abandonPhaseCfg hooks n (initPSys env reqs) sched).consumed, p.1 = p.2) := by
  constructor
  · intro h
    have := h [] 1 {} [.try_ .DEPLOY true false, .try_ .CONFIGURE true false]
      [.caller 0, .caller 0, .caller 1, .giveUp 0, .caller 1]
    revert this
    decide
  · intro h
    have := h [] 1 {} [.try_ .DEPLOY true false, .try_ .CONFIGURE true false]
      [.caller 0, .caller 0, .caller 1, .giveUp 0, .caller 1, .answer 1] (1, 0)
    revert this
    decide
