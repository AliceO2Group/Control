/-
  Props/C02 — "A transition succeeds iff every critical task acknowledged it".

  Model: Model/Transition.lean (task-level bodies, DEPLOY wait, ControlEnvironment incl. gRPC status) on top of
  Model/Env.lean (state machine). Tied to /repo by the whole-core simulator runs of harness/props/c02: the real core
  (child process) is driven through its gRPC API while scripted executors answer, and every request's status,
  reply state, state afterwards and set of commanded tasks is compared with `Trans.run`.

  The code departed from the property at seven corners (eight with the lost verdict of an offers round, further down).
  Repaired in /repo by `fix:` commits (notes/C02.fix-{1,2,3,5,6}.patch): the four corners of the task commands, the
  workflow without a role (deploy_empty_workflow) and one of the two mechanisms of deploy_misses_active (the dropped
  "root is ACTIVE" notification). `Cfg.code` is the code as it is (tied to the source by `C02_cfg_is_code` and by the
  differential runs), `Cfg.legacy` the code as it was. Each clause has its full-strength statement as a
  `def …_full (cfg) : Prop`; for the repaired corners it is PROVED for the code as it is (`…_code : …_full Cfg.code`),
  the refutation `C02_finding_<id>` is a statement about `Cfg.legacy` — where a clause holds of exactly the
  configurations with certain repairs on, that is said once (`…_full_iff`) and the two are its directions —, and the
  `…_partial` theorem (corner excluded by a decidable hypothesis) holds for any configuration. Two DEPLOY corners are still open — a
  non-critical task that does not start, a TASK_RUNNING update that overtakes the roster: full statement, refutation
  on a witness (about `Cfg.code`), `…_partial`.
  The lemmas about Model/Deadline (which has no Proofs module) and the other unprefixed helpers stand here too.
-/
import ControlModel.Proofs.TransitionRun
import ControlModel.Gen.C02Facts

open EnvM Trans

/-- Tie to the source (go/ast, regenerated every run): `Cfg.code` has a switch on exactly where the source has the
    repair: the single-response branch of BOTH transitionTasks and configureTasks asks `isCriticalTarget` (fix-1);
    transitionTasks returns nil for no task and ConfigureTransition.do waits on stateChangedCh only if it sent the
    message (fix-2); ControlEnvironment keeps the transition's error apart from GO_ERROR's (fix-3); DeployTransition.do
    subscribes with a channel that has room for a notification and its loop reads the workflow's status itself when
    woken, the status being stored before the non-blocking notification is sent (fix-5); the loop is entered only if a
    task descriptor or a call role was asked to become active (fix-6). Reverting any of the five commits breaks this
    theorem. -/
theorem C02_cfg_is_code :
    Cfg.code = { singleUsesCritical := Gen.C02.singleBranchAsksCritical,
                 emptyIsSuccess := Gen.C02.transitionEmptyReturnsNil && Gen.C02.configureWaitsOnlyIfSent,
                 keepTransitionError := Gen.C02.goErrorKeepsErr,
                 deployKeepsNotification := decide (0 < Gen.C02.deployStatusChanCapacity) &&
                   Gen.C02.deployLoopRereadsStatus && Gen.C02.statusStoredBeforeNotified,
                 deployEmptyIsSuccess := Gen.C02.deployWaitsOnlyIfAwaited } := by decide

/-- The events whose body commands the tasks. -/
def commandEv (e : Ev) : Prop := e = .CONFIGURE ∨ e = .START_ACTIVITY ∨ e = .STOP_ACTIVITY ∨ e = .RESET

theorem commands_iff (e : Ev) : commands e = true ↔ commandEv e := by
  cases e <;> simp [commands, commandEv]

/-- `bodyFor_ok_iff` with the events given as a disjunction, as the statements below give them. -/
theorem body_ok_iff (cfg : Cfg) (e : Ev) (he : commandEv e) (ts : List Target) :
    bodyFor cfg e ts = .ok ↔
      allCriticalAcked ts = true ∧ (noTargets ts = true → cfg.emptyIsSuccess = true) ∧
        (singleNoncritFail ts = true → cfg.singleUsesCritical = true) :=
  bodyFor_ok_iff cfg e ((commands_iff e).2 he) ts

theorem body_ok_iff_partial (cfg : Cfg) (e : Ev) (he : commandEv e) (ts : List Target)
    (h0 : noTargets ts = false) (h1 : singleNoncritFail ts = false) :
    bodyFor cfg e ts = .ok ↔ allCriticalAcked ts = true := by
  rw [body_ok_iff cfg e he, h0, h1]
  exact ⟨fun h => h.1, fun h => ⟨h, nofun, nofun⟩⟩

theorem body_ok_iff_code (e : Ev) (he : commandEv e) (ts : List Target) :
    bodyFor Cfg.code e ts = .ok ↔ allCriticalAcked ts = true := by
  rw [body_ok_iff Cfg.code e he]
  exact ⟨fun h => h.1, fun h => ⟨h, fun _ => rfl, fun _ => rfl⟩⟩

/-- Full strength: for EVERY list of tasks and EVERY assignment of outcomes, the body of
    CONFIGURE / START_ACTIVITY / STOP_ACTIVITY / RESET succeeds iff every active critical task acknowledged. -/
def C02_iff_full (cfg : Cfg) : Prop :=
  ∀ (e : Ev), commandEv e → ∀ (ps : List (Task × Outcome)),
    (bodyFor cfg e (targets ps) = .ok ↔ allCriticalAcked (targets ps) = true)

/-- It holds of exactly the configurations with both repairs of the task commands on (fix-1, fix-2), whatever the other
    switches. The witnesses: nobody to command; a lone non-critical task that answers with an error. -/
theorem iff_full_iff (cfg : Cfg) : C02_iff_full cfg ↔ cfg.emptyIsSuccess = true ∧ cfg.singleUsesCritical = true := by
  have he : commandEv .START_ACTIVITY := .inr (.inl rfl)
  constructor
  · intro h
    exact ⟨((body_ok_iff cfg _ he _).1 ((h _ he []).2 rfl)).2.1 rfl,
      ((body_ok_iff cfg _ he _).1 ((h _ he [(⟨false, true⟩, .errorReplyStaySrc)]).2 rfl)).2.2 rfl⟩
  · intro ⟨h0, h1⟩ e he ps
    rw [body_ok_iff cfg e he]
    exact ⟨fun h => h.1, fun h => ⟨h, fun _ => h0, fun _ => h1⟩⟩

/-- It holds whenever the command goes to somebody, and not to a lone non-critical task that fails
    (for every configuration, the code as it was included). -/
theorem C02_iff_partial (cfg : Cfg) (e : Ev) (he : commandEv e) (ps : List (Task × Outcome))
    (h0 : noTargets (targets ps) = false) (h1 : singleNoncritFail (targets ps) = false) :
    bodyFor cfg e (targets ps) = .ok ↔ allCriticalAcked (targets ps) = true :=
  body_ok_iff_partial cfg e he _ h0 h1

/-- The code as it is: it holds in full. -/
theorem C02_iff_code : C02_iff_full Cfg.code := (iff_full_iff _).2 ⟨rfl, rfl⟩

/-- finding `single_target_ignores_critical` (repaired; about the code as it was): `C02_iff_full` is false; the witness
    (in `iff_full_iff`): a lone NON-critical task that answers START with an error makes the transition fail. -/
theorem C02_finding_single_target_ignores_critical : ¬ C02_iff_full Cfg.legacy :=
  fun h => nomatch ((iff_full_iff _).1 h).2

/-- finding `zero_targets_error` (repaired; about the code as it was): `C02_iff_full` is false; the witness (in `iff_full_iff`):
    with no active task START fails. -/
theorem C02_finding_zero_targets_error : ¬ C02_iff_full Cfg.legacy :=
  fun h => nomatch ((iff_full_iff _).1 h).1

/-- finding `configure_nothing_hangs` (repaired; about the code as it was): with no active task CONFIGURE never returns. -/
theorem C02_finding_configure_nothing_hangs :
    ¬ C02_iff_full Cfg.legacy ∧
    bodyFor Cfg.legacy .CONFIGURE (targets [({ critical := true, active := false }, .ok)]) = .hang :=
  ⟨fun h => (nomatch ((iff_full_iff _).1 h).1), by decide⟩

theorem iff_api_of_body (cfg : Cfg) (env : Env) (e : Ev) (d : St) (he : commandEv e) (w : Bool)
    (hp : env.pending = []) (hd : dst? e env.st = some d) (ps : List (Task × Outcome))
    (hiff : bodyFor cfg e (targets ps) = .ok ↔ allCriticalAcked (targets ps) = true) :
    let r := controlRpc cfg env [] e (decide (bodyFor cfg e (targets ps) = .ok)) false w
    (r.2 = true ∧ r.1.st = d) ↔ allCriticalAcked (targets ps) = true :=
  (controlRpc_reports_iff cfg env e d _ w hp hd
    (fun h => commands_dst e env.st ((commands_iff e).2 he) (h ▸ hd))).trans (decide_eq_true_iff.trans hiff)

/-- The same at the API, any configuration: ControlEnvironment answers OK with the destination state iff every active
    critical task acknowledged — the two task-level corners excluded; no hooks, no run-number failure, nothing pending,
    the event possible in the environment's state. -/
theorem C02_iff_api_partial (cfg : Cfg) (env : Env) (e : Ev) (d : St) (he : commandEv e) (w : Bool)
    (hp : env.pending = []) (hd : dst? e env.st = some d) (ps : List (Task × Outcome))
    (h0 : noTargets (targets ps) = false) (h1 : singleNoncritFail (targets ps) = false) :
    let r := controlRpc cfg env [] e (decide (bodyFor cfg e (targets ps) = .ok)) false w
    (r.2 = true ∧ r.1.st = d) ↔ allCriticalAcked (targets ps) = true :=
  iff_api_of_body cfg env e d he w hp hd ps (C02_iff_partial cfg e he ps h0 h1)

/-- The code as it is, at the API, in full: for every task list and outcome assignment, whoever wins the mutex (no hooks, no
    run-number failure, nothing pending, the event possible in the environment's state). -/
theorem C02_iff_api_code (env : Env) (e : Ev) (d : St) (he : commandEv e) (w : Bool)
    (hp : env.pending = []) (hd : dst? e env.st = some d) (ps : List (Task × Outcome)) :
    let r := controlRpc Cfg.code env [] e (decide (bodyFor Cfg.code e (targets ps) = .ok)) false w
    (r.2 = true ∧ r.1.st = d) ↔ allCriticalAcked (targets ps) = true :=
  iff_api_of_body Cfg.code env e d he w hp hd ps (C02_iff_code e he ps)

/-- In full, for every configuration: if some active critical task does not acknowledge, the body fails. -/
theorem C02_unacked_never_reported (cfg : Cfg) (e : Ev) (he : commandEv e) (ts : List Target)
    (h : allCriticalAcked ts = false) : bodyFor cfg e ts ≠ .ok := by
  intro hb
  rw [((body_ok_iff cfg e he ts).1 hb).1] at h
  cases h

/-- In full, for ALL hook sets, ALL environments, ALL task lists and outcomes, whoever wins the mutex: when the
    task-level body of a requested transition does not succeed, ControlEnvironment as `controlRpc` models it (without
    the code's DONE guard) leaves the environment in ERROR. -/
theorem C02_fail_ends_error (cfg : Cfg) (hooks : List Hook) (env : Env) (e : Ev) (rnFail w : Bool)
    (ts : List Target) (hfail : bodyFor cfg e ts ≠ .ok) :
    (controlRpc cfg env hooks e (decide (bodyFor cfg e ts = .ok)) rnFail w).1.st = .ERROR := by
  rw [decide_eq_false hfail]
  exact controlRpc_failed_error cfg env hooks e false rnFail w (fsmEvent_body_fails env hooks e rnFail)

/-- …in particular when an active critical task answered with an error, could not be reached, stayed silent or died. -/
theorem C02_unacked_ends_error (cfg : Cfg) (hooks : List Hook) (env : Env) (e : Ev) (he : commandEv e)
    (rnFail w : Bool) (ps : List (Task × Outcome)) (h : allCriticalAcked (targets ps) = false) :
    (controlRpc cfg env hooks e (decide (bodyFor cfg e (targets ps) = .ok)) rnFail w).1.st = .ERROR :=
  C02_fail_ends_error cfg hooks env e rnFail w _ (C02_unacked_never_reported cfg e he _ h)

/-- Full strength: a request whose critical tasks did not all acknowledge answers with an error status. -/
def C02_fail_returns_error_full (cfg : Cfg) : Prop :=
  ∀ (env : Env) (e : Ev) (d : St) (w : Bool) (ts : List Target), commandEv e → env.pending = [] →
    dst? e env.st = some d → allCriticalAcked ts = false →
    (controlRpc cfg env [] e (decide (bodyFor cfg e ts = .ok)) false w).2 = false

/-- finding `rpc_ok_on_failed_transition` (repaired; about the code as it was): the handler overwrote the
    transition's error with the result of the GO_ERROR it performs next; GO_ERROR succeeds, so the status was OK (and
    the reply said ERROR). -/
theorem C02_finding_rpc_ok_on_failed_transition : ¬ C02_fail_returns_error_full Cfg.legacy := by
  intro h
  have := h { st := .CONFIGURED } .START_ACTIVITY .RUNNING false [(true, .errorReplyStaySrc)]
    (Or.inr (Or.inl rfl)) rfl rfl rfl
  revert this; decide

/-- Any configuration (as the code was, an error status came back only by this accident): when the environment's own
    watcher performed GO_ERROR first, so that the handler's GO_ERROR is refused, the status is an error. (Whatever the
    hooks, the environment and what is pending — `controlRpc_failed_watcherFirst`; `hp` and `hd` are not needed.) -/
theorem C02_fail_returns_error_partial (cfg : Cfg) (env : Env) (e : Ev) (d : St) (ts : List Target)
    (he : commandEv e) (hp : env.pending = []) (hd : dst? e env.st = some d)
    (h : allCriticalAcked ts = false) :
    (controlRpc cfg env [] e (decide (bodyFor cfg e ts = .ok)) false true).2 = false := by
  rw [decide_eq_false (C02_unacked_never_reported cfg e he ts h)]
  exact controlRpc_failed_watcherFirst cfg env [] e false false (fsmEvent_body_fails env [] e false)

/-- The code as it is: an error status always comes back — for ALL hook sets, environments (whatever is pending,
    whether or not the event is possible), run-number failures and mutex winners. -/
theorem C02_fail_returns_error_code_any_hooks (hooks : List Hook) (env : Env) (e : Ev) (he : commandEv e) (rnFail w : Bool)
    (ts : List Target) (h : allCriticalAcked ts = false) :
    (controlRpc Cfg.code env hooks e (decide (bodyFor Cfg.code e ts = .ok)) rnFail w).2 = false := by
  rw [decide_eq_false (C02_unacked_never_reported Cfg.code e he ts h)]
  cases hs : (controlRpc Cfg.code env hooks e false rnFail w).2
  · rfl
  · cases controlRpc_failed_status Cfg.code env hooks e false rnFail w (fsmEvent_body_fails env hooks e rnFail) hs

/-- …in particular the full-strength clause holds of the code as it is. -/
theorem C02_fail_returns_error_code : C02_fail_returns_error_full Cfg.code :=
  fun env e _ w ts he _ _ h => C02_fail_returns_error_code_any_hooks [] env e he false w ts h

def C02_noncritical_harmless_full (cfg : Cfg) : Prop :=
  ∀ (e : Ev), commandEv e → ∀ (ps : List (Task × Outcome)),
    (∀ t ∈ targets ps, t.2 ≠ .ok → t.1 = false) → bodyFor cfg e (targets ps) = .ok

theorem C02_noncritical_harmless_partial (cfg : Cfg) (e : Ev) (he : commandEv e) (ps : List (Task × Outcome))
    (h0 : noTargets (targets ps) = false) (h1 : singleNoncritFail (targets ps) = false)
    (h : ∀ t ∈ targets ps, t.2 ≠ .ok → t.1 = false) : bodyFor cfg e (targets ps) = .ok :=
  (C02_iff_partial cfg e he ps h0 h1).2 (harmless_acked _ h)

/-- The code as it is: failures confined to non-critical tasks never fail a transition. -/
theorem C02_noncritical_harmless_code : C02_noncritical_harmless_full Cfg.code :=
  fun e he ps h => (C02_iff_code e he ps).2 (harmless_acked _ h)

/-- The single-target corner refuted this clause too (repaired; about the code as it was). -/
theorem C02_finding_single_target_harms : ¬ C02_noncritical_harmless_full Cfg.legacy := by
  intro h
  have := h .STOP_ACTIVITY (Or.inr (Or.inr (Or.inl rfl))) [({ critical := false, active := true }, .silent)]
    (by decide)
  revert this; decide

def C02_empty_succeeds_full (cfg : Cfg) : Prop := ∀ (e : Ev), commandEv e → bodyFor cfg e [] = .ok

/-- It holds of exactly the configurations with fix-2 on. -/
theorem empty_succeeds_full_iff (cfg : Cfg) : C02_empty_succeeds_full cfg ↔ cfg.emptyIsSuccess = true :=
  ⟨fun h => ((body_ok_iff cfg .RESET (.inr (.inr (.inr rfl))) []).1 (h _ (.inr (.inr (.inr rfl))))).2.1 rfl,
    fun h0 e he => (body_ok_iff cfg e he []).2 ⟨rfl, fun _ => h0, nofun⟩⟩

/-- What the code did instead (exactly): CONFIGURE never returned, the others failed. -/
theorem C02_empty_legacy (e : Ev) (he : commandEv e) :
    bodyFor Cfg.legacy e [] = if e = .CONFIGURE then .hang else .error := by
  rw [bodyFor_commands _ _ ((commands_iff e).2 he)]; rfl

/-- (repaired; about the code as it was) -/
theorem C02_finding_zero_targets : ¬ C02_empty_succeeds_full Cfg.legacy :=
  fun h => nomatch (empty_succeeds_full_iff _).1 h

/-- The code as it is: a transition with nothing to command succeeds at once. -/
theorem C02_empty_succeeds_code : C02_empty_succeeds_full Cfg.code := (empty_succeeds_full_iff _).2 rfl

/-- "Nothing to command" is decided by `GetActiveTasks`: tasks whose role is not ACTIVE are not commanded, and what
    is scripted for them is irrelevant. -/
theorem C02_inactive_not_commanded (ps : List (Task × Outcome)) (f : Outcome → Outcome) :
    targets (ps.map (fun p => if p.1.active then p else (p.1, f p.2))) = targets ps := by
  induction ps with
  | nil => rfl
  | cons p ps ih =>
    simp only [targets, List.map_cons, List.filter_cons] at ih ⊢
    by_cases ha : p.1.active = true <;> simp [ha, ih]

theorem C02_all_inactive_no_targets (ps : List (Task × Outcome)) (h : ∀ p ∈ ps, p.1.active = false) :
    targets ps = [] := by
  simp only [targets, List.map_eq_nil_iff, List.filter_eq_nil_iff]
  intro p hp; simp [h p hp]

/-- Full strength: DEPLOY succeeds iff every critical task became active — every workflow, every launch assignment,
    wherever the loop is when the root becomes ACTIVE. -/
def C02_deploy_iff_full (cfg : Cfg) : Prop :=
  ∀ (ls : List (Bool × Launch)) (calls : Nat) (lost : Bool),
    deployBody cfg ls calls lost = .ok ↔ allCriticalLaunched ls = true

/-- DEPLOY succeeds iff every critical task became active — provided the workflow has a role at all, no
    NON-critical task failed to start (the root status the loop waits for is the product over all roles), no
    TASK_RUNNING update overtook the roster and the loop was listening when the root became ACTIVE (for every
    configuration, the code as it was included). -/
theorem C02_deploy_iff_partial (cfg : Cfg) (ls : List (Bool × Launch)) (calls : Nat) (lost : Bool)
    (h0 : emptyWorkflow { calls := calls, tasks := ls } = false) (h1 : noncritLaunchFail ls = false)
    (h2 : earlyRunning ls = false) (h3 : lost = false) :
    deployBody cfg ls calls lost = .ok ↔ allCriticalLaunched ls = true := by
  have ha : deployAwaits ls calls = true := by
    rw [emptyWorkflow_eq, Bool.not_eq_false'] at h0; exact h0
  rw [deployBody_ok_iff, ha, if_pos rfl, h1, h2, h3]
  exact ⟨fun h => h.1, fun h => ⟨h, rfl, rfl, rfl⟩⟩

/-- The code as it is: the same with only the two open corners excluded — also for a workflow without a role, and
    wherever the loop is when the root becomes ACTIVE. -/
theorem C02_deploy_iff_code_partial (ls : List (Bool × Launch)) (calls : Nat) (lost : Bool)
    (h1 : noncritLaunchFail ls = false) (h2 : earlyRunning ls = false) :
    deployBody Cfg.code ls calls lost = .ok ↔ allCriticalLaunched ls = true := by
  rw [deployBody_code_ok, all_launched_iff, h1, h2]
  exact ⟨fun h => h.1, fun h => ⟨h, rfl, rfl⟩⟩

/-- In full: a critical task that does not start (dies, stays staging, has no host) fails the DEPLOY. -/
theorem C02_deploy_critical_needed (cfg : Cfg) (ls : List (Bool × Launch)) (calls : Nat) (lost : Bool)
    (h : allCriticalLaunched ls = false) : deployBody cfg ls calls lost ≠ .ok := by
  intro hb
  rw [((deployBody_ok_iff cfg ls calls lost).1 hb).1] at h
  cases h

/-- finding `deploy_noncritical_blocks` (open; about the code as it is): `C02_deploy_iff_full` is false; the proof's
    witness: a non-critical task that does not start makes the DEPLOY fail. -/
theorem C02_finding_deploy_noncritical_blocks : ¬ C02_deploy_iff_full Cfg.code := by
  intro h
  have := h [(true, .ok), (false, .dies)] 0 false
  revert this; decide

/-- finding `deploy_misses_active` (open; about the code as it is): `C02_deploy_iff_full` is false; the proof's
    witness: a task that reports TASK_RUNNING before acquireTasks has entered it into the roster never becomes ACTIVE
    for the core: the DEPLOY times out although every task started in time. -/
theorem C02_finding_deploy_running_update_dropped : ¬ C02_deploy_iff_full Cfg.code := by
  intro h
  have := h [(true, .okEarly)] 0 false
  revert this; decide

/-- Full strength: "a transition with nothing to command succeeds at once" for DEPLOY — a workflow without a task role
    and without a call role is deployed, wherever the loop would be. -/
def C02_deploy_empty_full (cfg : Cfg) : Prop := ∀ (lost : Bool), deployBody cfg [] 0 lost = .ok

/-- It holds of exactly the configurations with fix-6 on. -/
theorem deploy_empty_full_iff (cfg : Cfg) : C02_deploy_empty_full cfg ↔ cfg.deployEmptyIsSuccess = true :=
  ⟨fun h => ((deployBody_ok cfg [] 0 false).1 (h false)).2, fun h lost => (deployBody_ok cfg [] 0 lost).2 ⟨nofun, h⟩⟩

/-- The code as it is (since `fix: DEPLOY does not wait for a workflow that has nothing to deploy`). -/
theorem C02_deploy_empty_code : C02_deploy_empty_full Cfg.code := (deploy_empty_full_iff _).2 rfl

/-- the former finding `deploy_empty_workflow` (repaired; a true statement about the code as it was): a workflow without
    roles could not be deployed — nobody ever reports a status, the wait can only time out. -/
theorem C02_finding_deploy_empty_workflow : ¬ C02_deploy_empty_full Cfg.legacy ∧ ¬ C02_deploy_iff_full Cfg.legacy := by
  refine ⟨fun h => (nomatch (deploy_empty_full_iff _).1 h), fun h => ?_⟩
  have := h [] 0 false
  revert this; decide

/-- Full strength: what DEPLOY answers does not depend on where its loop is when the root becomes ACTIVE. -/
def C02_deploy_heard_full (cfg : Cfg) : Prop :=
  ∀ (ls : List (Bool × Launch)) (calls : Nat) (lost : Bool), deployBody cfg ls calls lost = deployBody cfg ls calls false

/-- Any configuration whose hand-over keeps the notification. -/
theorem C02_deploy_heard_of_kept (cfg : Cfg) (h : cfg.deployKeepsNotification = true) : C02_deploy_heard_full cfg := by
  intro ls calls lost
  simp [deployBody, Cfg.deployHears, h]

/-- It holds of exactly the configurations with fix-5 on: every task up and the loop elsewhere is answered like the loop
    listening only if the notification is kept. -/
theorem deploy_heard_full_iff (cfg : Cfg) : C02_deploy_heard_full cfg ↔ cfg.deployKeepsNotification = true :=
  ⟨fun h => ((deployBody_ok cfg [(true, .ok)] 0 true).1
      ((h _ 0 true).trans ((deployBody_ok cfg [(true, .ok)] 0 false).2 ⟨by decide, rfl⟩))).2,
    C02_deploy_heard_of_kept cfg⟩

/-- The code as it is (since `fix: DEPLOY cannot miss that the workflow became active`). -/
theorem C02_deploy_heard_code : C02_deploy_heard_full Cfg.code := C02_deploy_heard_of_kept _ rfl

/-- An ACTIVE root is reported by the code as it is, in every environment: every task up ⇒ DEPLOYED. -/
theorem C02_deploy_active_reported_code (ls : List (Bool × Launch)) (calls : Nat) (lost : Bool)
    (h : ∀ l ∈ ls, l.2 = .ok) : deployBody Cfg.code ls calls lost = .ok :=
  (deployBody_code_ok ls calls lost).2 h

/-- the former mechanism (b) of finding `deploy_misses_active` (repaired; a true statement about the code as it was):
    the non-blocking notification that the root became ACTIVE was dropped while the loop was not at its receive: the
    DEPLOY timed out although the workflow was ACTIVE. -/
theorem C02_finding_deploy_notification_lost : ¬ C02_deploy_heard_full Cfg.legacy ∧ ¬ C02_deploy_iff_full Cfg.legacy := by
  refine ⟨fun h => (nomatch (deploy_heard_full_iff _).1 h), fun h => ?_⟩
  have := h [(true, .ok)] 0 true
  revert this; decide

/-! ## the corners are exhaustive; outside the DEPLOY corners the Spec holds of the code as it is

  `Trans.judge` (Spec/C02.lean) is the decidable predicate the correspondence harness evaluates on what the real
  core did; `Trans.judgeAll` is the same verdict with the repaired corners named too. Here they are evaluated on
  what the MODEL does, for every scenario: `judgeAll` on the code as it was (`C02_corners_exhaustive_legacy`),
  `judge` on the code as it is (`C02_spec_code`, `C02_corners_exhaustive`). -/

/-- About the code as it was: the recorded corners (seven findings, the two mechanisms of deploy_misses_active named
    apart) were EXHAUSTIVE — for every workflow, every outcome
    assignment and every request sequence (judged up to the first request whose event commands no task or is not
    possible), whenever what the model of the legacy code does is rejected by Spec.C02, the
    scenario lies in one of the named corners (the verdict with all corners named is never the anonymous "-"). -/
theorem C02_corners_exhaustive_legacy (sc : Scenario) : judgeAll sc (run Cfg.legacy sc) ≠ some "-" :=
  verdict_named (run_verdict Cfg.legacy sc)

/-- The code as it is satisfies Spec.C02 on EVERY scenario in which no non-critical task fails to start and no
    TASK_RUNNING update overtakes the roster (the two DEPLOY corners that stay open findings): every workflow — the one
    without a role included —, every request sequence (judged up to the first request whose event commands no task or is
    not possible), every critical / active mix, every outcome assignment, idle deaths
    included, and wherever the DEPLOY loop is when the root becomes ACTIVE (`sc.wf.notifyLost` is not constrained). -/
theorem C02_spec_code (sc : Scenario)
    (h1 : noncritLaunchFail sc.wf.tasks = false) (h2 : earlyRunning sc.wf.tasks = false) :
    judge sc (run Cfg.code sc) = none := by
  refine Option.eq_none_iff_forall_ne_some.2 fun h hj => ?_
  rcases judge_code sc h hj with ⟨_, he⟩ | ⟨_, hn⟩
  · rw [h2] at he; cases he
  · rw [h1] at hn; cases hn

/-- …and on ALL scenarios nothing else is left: whenever Spec.C02 rejects what the model of the code as it is does,
    the verdict names one of the two open DEPLOY corners. -/
theorem C02_only_deploy_corners_code (sc : Scenario) (h : String) (hj : judge sc (run Cfg.code sc) = some h) :
    h = "deploy_misses_active" ∨ h = "deploy_noncritical_blocks" :=
  (judge_code sc h hj).imp (·.1) (·.1)

/-- The open corners are EXHAUSTIVE for the code as it is: the verdict the correspondence harness computes is never the
    anonymous "-" on what the model does. With the correspondence run (model = implementation) this is what makes
    "only KNOWN-FINDING lines" a complete account — and a return of one of the repaired defects a plain violation. -/
theorem C02_corners_exhaustive (sc : Scenario) : judge sc (run Cfg.code sc) ≠ some "-" :=
  fun hj => openCorner_named (judge_code sc "-" hj) rfl

/-- The model of the code as it is never fails a DEPLOY with the root ACTIVE: the observation `active-unseen` (the core's
    own time-out message lists no role that is not ACTIVE) is a disagreement with the model whenever it is seen. -/
theorem C02_active_never_unseen_code (sc : Scenario) : ∀ o ∈ run Cfg.code sc, o.activeUnseen = false := by
  refine fun o ho => Bool.eq_false_iff.2 fun ha => ?_
  -- an ACTIVE root would have been heard
  obtain ⟨hfail, hact⟩ := activeUnseen_of_mem_run Cfg.code sc o ho ha
  exact hfail (C02_deploy_active_reported_code _ _ _ ((rootStatus_active _ _).1 hact).2)

/-! ## executor / agent loss while a command is outstanding

  Mesos may report the executor or the agent of a commanded task lost (FAILURE event) before the last target has
  answered or timed out. `HandleExecutorFailed` / `HandleAgentFailed` then blank the executor id / agent id of every
  roster task on it. The response entries are keyed by the target computed BEFORE (agent id, executor id, task id); the
  classification looks the task up AFTERWARDS — by task id alone (`getTask`). Roster-level model: Model/Transition.lean
  (`RTask`, `applyLosses`, `classifyR`, `bodyForR`). -/

/-- Tie of the roster-level model to the source (go/ast, regenerated every run): the task behind a failed target is
    `m.GetTask(k.TaskId.Value)` in both functions and `GetTask` compares task ids only (`Trans.getTask`); the two FAILURE
    handlers write nothing of a roster task but its executor id / agent id (`Trans.handleExecutorFailed`,
    `Trans.handleAgentFailed`). A look-up that depends on anything a loss rewrites breaks this theorem. -/
theorem C02_lookup_is_code :
    Gen.C02.failedTargetLookupByTaskId = true ∧ Gen.C02.lossOnlyBlanksIds = true := by decide

/-- `GetTask` is blind to FAILURE events: for EVERY roster, EVERY sequence of executor / agent losses and EVERY task id
    it finds a task with the same critical trait afterwards as before (or none in both). -/
theorem C02_lookup_invariant_under_loss (L : List LossEv) (r : List RTask) (id : Nat) :
    (getTask (applyLosses L r) id).map (·.critical) = (getTask r id).map (·.critical) :=
  getTask_applyLosses L r id

/-- The classification of a command's responses is invariant under executor / agent loss of its targets (or of any
    other task): for EVERY configuration, roster, sequence of FAILURE events and list of response entries. -/
theorem C02_classification_invariant_under_loss (cfg : Cfg) (L : List LossEv) (r : List RTask)
    (es : List (CmdTarget × Bool)) :
    classifyR cfg (applyLosses L r) es = classifyR cfg r es :=
  classifyR_applyLosses cfg L r es

/-- …so the body of a transition computed on the roster (unique task ids, the commanded tasks in it), with ANY FAILURE
    events handled while its command is outstanding, depends only on the critical trait and the outcome of each
    commanded task: it is `bodyFor`. -/
theorem C02_body_invariant_under_loss (cfg : Cfg) (e : Ev) (r : List RTask) (cs : List (RTask × Outcome))
    (L : List LossEv) (h : RosterOk r cs) :
    bodyForR cfg e r cs L = bodyFor cfg e (plainTargets cs) :=
  bodyForR_eq cfg e r cs L h

/-- The iff of the property holds under executor / agent loss, the code as it is, in full: for every roster (unique task
    ids), every list of commanded roster tasks with their outcomes and EVERY sequence of FAILURE events handled while
    the command is outstanding, the body succeeds iff every commanded critical task acknowledged. -/
theorem C02_iff_code_under_loss (e : Ev) (he : commandEv e) (r : List RTask) (cs : List (RTask × Outcome))
    (L : List LossEv) (h : RosterOk r cs) :
    bodyForR Cfg.code e r cs L = .ok ↔ allCriticalAcked (plainTargets cs) = true := by
  rw [bodyForR_eq Cfg.code e r cs L h]
  exact body_ok_iff_code e he _

/-- …and for every configuration with the two task-level corners excluded (the code as it was included). -/
theorem C02_iff_partial_under_loss (cfg : Cfg) (e : Ev) (he : commandEv e) (r : List RTask)
    (cs : List (RTask × Outcome)) (L : List LossEv) (h : RosterOk r cs)
    (h0 : noTargets (plainTargets cs) = false) (h1 : singleNoncritFail (plainTargets cs) = false) :
    bodyForR cfg e r cs L = .ok ↔ allCriticalAcked (plainTargets cs) = true := by
  rw [bodyForR_eq cfg e r cs L h]
  exact body_ok_iff_partial cfg e he _ h0 h1

/-- A critical task that does not acknowledge fails the transition whatever FAILURE events are handled meanwhile — in
    particular when it is its own executor or agent that is lost (every configuration; unique task ids in the roster,
    the commanded tasks in it). -/
theorem C02_unacked_never_reported_under_loss (cfg : Cfg) (e : Ev) (he : commandEv e) (r : List RTask)
    (cs : List (RTask × Outcome)) (L : List LossEv) (h : RosterOk r cs)
    (hu : allCriticalAcked (plainTargets cs) = false) :
    bodyForR cfg e r cs L ≠ .ok := by
  rw [bodyForR_eq cfg e r cs L h]
  exact C02_unacked_never_reported cfg e he _ hu

/-- What a loss does change: a target acknowledges iff it answers ok AND that reply left before the loss (if any). -/
theorem C02_ack_under_loss (o : Outcome) (l : Option Loss) :
    o.under l = .ok ↔ o = .ok ∧ (∀ x, l = some x → x.before = false) := by
  cases l with
  | none => exact ⟨fun h => ⟨h, nofun⟩, fun h => h.1⟩
  | some x =>
    cases hb : x.before
    · have hu : o.under (some x) = o := by
        simp only [Outcome.under, hb, Bool.false_and, Bool.false_eq_true, ↓reduceIte]
      rw [hu]
      exact ⟨fun h => ⟨h, fun y hy => Option.some.inj hy ▸ hb⟩, fun h => h.1⟩
    · -- the reply had not left: what would have replied is silent, the rest did not acknowledge anyway
      refine ⟨fun h => ?_, fun h => by rw [h.2 x rfl] at hb; cases hb⟩
      simp only [Outcome.under, hb, Bool.true_and] at h
      cases o <;> cases h

/-- …and a loss never turns a failure into an acknowledgement. -/
theorem C02_loss_never_acks (o : Outcome) (l : Option Loss) (h : o ≠ .ok) : o.under l ≠ .ok :=
  fun hu => h ((C02_ack_under_loss o l).1 hu).1

/-! ## DEPLOY when the offers come late: the attempt loop of acquireTasks

  Manager.acquireTasks requests the whole deployment, revives offers and waits for the verdict of the next offers round;
  when a critical descriptor was left undeployed it pauses and tries again, up to MAX_ATTEMPTS_PER_DEPLOY_REQUEST times
  (Model/DeployAttempts.lean). The offers rounds are an INPUT: every theorem below quantifies over all descriptor lists
  (any critical mix, any placement, machines that no agent has) and ALL patterns of missing offers — any host missing
  from any round, not only "late by k rounds". -/

/-- Tie to the source (go/ast, regenerated every run): the attempt limit is the literal of schedulerstate.go and the loop
    counts up to it; the loop body resets the verdict flag before it hands the request to the scheduler; the flag is set
    to false only for CRITICAL descriptors; a successful attempt leaves the loop at once; a failed deployment detaches
    what it launched and only a successful one gives roles their tasks; resourceOffers abandons a round in which a
    machine-bound descriptor has no offer before it launches anything. -/
theorem C02_attempt_loop_is_code :
    AcqCfg.code.maxAttempts = Gen.C02.maxDeployAttempts ∧ AcqCfg.code.resetPerAttempt = Gen.C02.attemptResetsVerdict ∧
    Gen.C02.attemptFailsOnlyOnCritical = true ∧ Gen.C02.attemptLoopBreaksOnSuccess = true ∧
    Gen.C02.failedDeploymentDetaches = true ∧ Gen.C02.roundAbandonedWhenUndeployable = true := by decide

/-- Tie to the source of the verdict's hand-over (go/ast, regenerated every run): the channel that acquireTasks puts into
    the `outcomeCh` field of the request it hands to the scheduler is made inside the loop body — afresh for every attempt
    — by `make(chan ResourceOffersOutcome, N)` with this literal N (0: no capacity argument = unbuffered, or shape not
    recognised), and acquireTasks receives from it once per attempt; and there is exactly ONE send on an `outcomeCh` in
    core/task: in resourceOffers, on the channel of the one request that call took from `tasksToDeploy`, outside every
    loop, under no condition but "a request was taken", with no `return` between taking the request and the send. So the
    channel is empty when the send is tried: `AcqCfg.heard`. With the repair reverted the capacity reads 0 and this
    theorem is false. -/
theorem C02_verdict_channel_is_code :
    AcqCfg.code.outcomeCap = Gen.C02.outcomeChanCapacity ∧ Gen.C02.oneVerdictPerRequest = true := by decide

/-- The hand-over, for every configuration: the verdict is heard iff acquireTasks is at its receive or the channel has
    room for it. -/
theorem C02_handover_heard_iff (acfg : AcqCfg) (listening : Bool) :
    acfg.heard listening = true ↔ listening = true ∨ 0 < acfg.outcomeCap :=
  heard_iff acfg listening

/-- A channel with room never drops the verdict — whichever attempt's round is over before acquireTasks listens, and in
    every workflow: acquireTasks never hangs and does exactly what it does when every verdict is heard. In particular the
    code as it is (`AcqCfg.code`, capacity 1). -/
theorem C02_verdict_always_heard (acfg : AcqCfg) (hc : 0 < acfg.outcomeCap) (w : OWorkflow) :
    w.dropped acfg = none ∧ w.hung acfg = false ∧ w.acquired acfg = acquire acfg w.descs w.rounds :=
  heard_of_room acfg hc w

theorem dropped_code (w : OWorkflow) : w.dropped AcqCfg.code = none :=
  (C02_verdict_always_heard AcqCfg.code (by decide) w).1

theorem hung_code (w : OWorkflow) : w.hung AcqCfg.code = false :=
  (C02_verdict_always_heard AcqCfg.code (by decide) w).2.1

theorem acquired_code (w : OWorkflow) : w.acquired AcqCfg.code = acquire AcqCfg.code w.descs w.rounds :=
  (C02_verdict_always_heard AcqCfg.code (by decide) w).2.2

/-- acquireTasks' verdict on an attempt, for EVERY descriptor list and EVERY offers round: a failure iff a CRITICAL
    descriptor does not find the offer of its machine. -/
theorem C02_attempt_verdict_critical_only (ds : List Desc) (r : Round) :
    attemptVerdict ds (roundOutcome ds r) = !critMissing ds r :=
  attemptVerdict_round ds r

/-- What happens to tasks launched in a failed attempt: there are none — a round in which any descriptor misses its
    offer is abandoned before a task is launched, so a failed attempt leaves nothing behind that the next one would
    launch a second time. -/
theorem C02_failed_attempt_launches_nothing (ds : List Desc) (r : Round)
    (h : attemptVerdict ds (roundOutcome ds r) = false) : (roundOutcome ds r).deployed = [] := by
  rw [attemptVerdict_round] at h
  exact roundOutcome_incomplete ds r (critMissing_incomplete ds r (by simpa using h))

/-- Never more attempts than the limit (any configuration, any rounds). -/
theorem C02_attempts_bounded (cfg : AcqCfg) (ds : List Desc) (rs : List Round) :
    (acquire cfg ds rs).attempts.length ≤ cfg.maxAttempts := by
  unfold acquire
  split
  · simp
  · exact acquireLoop_length cfg ds cfg.maxAttempts true rs

/-- The verdict on an attempt depends on that attempt alone: whatever the earlier attempts left in the flag, the loop
    of the code as it is goes on in the same way. -/
theorem C02_attempt_verdicts_independent (ds : List Desc) (n : Nat) (flag : Bool) (rs : List Round) :
    acquireLoop AcqCfg.code ds (n + 1) flag rs = acquireLoop AcqCfg.code ds (n + 1) true rs :=
  acquireLoop_code_flag attemptLimit 1 ds n flag rs

/-- acquireTasks succeeds iff SOME attempt within the limit is not a failure — for every descriptor list and every
    pattern of missing offers. -/
theorem C02_acquire_succeeds_iff (ds : List Desc) (rs : List Round) :
    (acquire AcqCfg.code ds rs).ok = true ↔ ∃ i, i < attemptLimit ∧ critMissing ds (rs.getD i []) = false :=
  acquire_code_ok_iff ds rs

/-- Only the last attempt launches anything: nothing launched in an earlier attempt is abandoned. -/
theorem C02_only_last_attempt_launches (ds : List Desc) (rs : List Round) :
    ∀ l ∈ (acquire AcqCfg.code ds rs).attempts.dropLast, l = [] :=
  acquire_code_dropLast ds rs

/-- The whole deployment is requested again only after an attempt that left a critical descriptor unlaunched. -/
theorem C02_retry_only_after_unlaunched_critical (ds : List Desc) (rs : List Round) :
    retriesJustified ds (acquire AcqCfg.code ds rs).attempts = true :=
  acquire_code_retries ds rs

/-- Closed form, success: the FIRST attempt that is not a failure decides, wherever it is within the limit; the attempts
    before it launched nothing; its tasks are the ones the roles get. -/
theorem C02_first_good_attempt_decides (ds : List Desc) (rs : List Round) (hne : ds ≠ []) (i : Nat)
    (hi : i < attemptLimit) (hfail : ∀ j, j < i → critMissing ds (rs.getD j []) = true)
    (hgood : critMissing ds (rs.getD i []) = false) :
    acquire AcqCfg.code ds rs =
      { attempts := List.replicate i [] ++ [(roundOutcome ds (rs.getD i [])).deployed], ok := true,
        kept := (roundOutcome ds (rs.getD i [])).deployed, marked := [] } :=
  acquire_code_first ds rs hne i hi hfail hgood

/-- Closed form, genuine failure: every attempt up to the limit leaves a critical descriptor without its offer. Nothing
    was launched, no role holds a task, and exactly the critical descriptors that missed their offer in the last round
    are marked UNDEPLOYABLE. -/
theorem C02_attempts_exhausted (ds : List Desc) (rs : List Round) (hne : ds ≠ [])
    (h : ∀ j, j < attemptLimit → critMissing ds (rs.getD j []) = true) :
    acquire AcqCfg.code ds rs =
      { attempts := List.replicate attemptLimit [], ok := false, kept := [],
        marked := (roundOutcome ds (rs.getD 2 [])).undeployable.filter (critAt ds) } := by
  rw [acquire_code_eq ds rs hne, List.find?_range_eq_none.2 fun j hj => by rw [h j hj]; rfl]

/-- The attempts of the code as it is satisfy the clause of Spec.C02 about them, for every descriptor list and every
    pattern of missing offers: at most the limit; a retry only after a round in which a critical descriptor's machine was
    missing; no giving up before the limit while one still is. -/
theorem C02_attempts_ok (ds : List Desc) (rs : List Round) :
    attemptsOk ds rs (acquire AcqCfg.code ds rs).attempts.length = true :=
  acquire_code_attemptsOk ds rs

/-- Full strength, per configuration of acquireTasks and of the DEPLOY wait: a deployment whose offers come late — some
    attempt within the limit finds every machine's offer after attempts that each left a critical task without one — is
    reported DEPLOYED, every task coming up. In EVERY environment: whichever round is over before acquireTasks is at its
    receive, and wherever the DEPLOY loop is when the root becomes ACTIVE. -/
def C02_deploy_retry_full (acfg : AcqCfg) (cfg : Cfg) : Prop :=
  ∀ (w : OWorkflow) (i : Nat), i < attemptLimit →
    (∀ j, j < i → critMissing w.descs (w.rounds.getD j []) = true) →
    complete w.descs (w.rounds.getD i []) = true →
    (∀ t ∈ w.tasks, t.launch = .ok) → w.tasks ≠ [] →
    deployBody cfg (w.eff (w.acquired acfg)).tasks w.calls w.notifyLost = .ok

/-- The same with the excluding hypotheses: acquireTasks is at its receive whenever a verdict is handed over, and the
    DEPLOY loop at its receive when the root becomes ACTIVE. -/
def C02_deploy_retry_heard (acfg : AcqCfg) (cfg : Cfg) : Prop :=
  ∀ (w : OWorkflow) (i : Nat), w.notListening = none → i < attemptLimit →
    (∀ j, j < i → critMissing w.descs (w.rounds.getD j []) = true) →
    complete w.descs (w.rounds.getD i []) = true →
    (∀ t ∈ w.tasks, t.launch = .ok) → w.tasks ≠ [] → w.notifyLost = false →
    deployBody cfg (w.eff (w.acquired acfg)).tasks w.calls w.notifyLost = .ok

/-- The code as it is, at FULL strength (since `fix: acquireTasks cannot miss the verdict of its offers round` and `fix:
    DEPLOY cannot miss that the workflow became active`): a deployment whose complete round is the first, second or
    third after failed ones, every task coming up, is reported DEPLOYED, whichever round is over before acquireTasks
    listens and wherever the DEPLOY loop is when the root becomes ACTIVE — both channels keep what they are handed. -/
theorem C02_deploy_retry_code : C02_deploy_retry_full AcqCfg.code Cfg.code := by
  intro w i hi hfail hcomplete hscripts hne
  rw [acquired_code]
  exact eff_first_complete_deploys Cfg.code w i hi hfail hcomplete hscripts hne (Bool.or_true _)

/-- The code as it was (unbuffered verdict channel; any `Cfg`): it holds whenever acquireTasks is listening
    when a verdict is handed over and the DEPLOY loop when the root becomes ACTIVE. -/
theorem C02_deploy_retry_partial (cfg : Cfg) : C02_deploy_retry_heard AcqCfg.legacy cfg := by
  intro w i hv hi hfail hcomplete hscripts hne hl
  rw [acquired_legacy w hv]
  exact eff_first_complete_deploys cfg w i hi hfail hcomplete hscripts hne (by rw [hl]; rfl)

/-- the former finding `deploy_verdict_lost` (repaired; a true statement about the code as it was): in full it is false
    with the unbuffered verdict channel. resourceOffers hands the verdict of a round to acquireTasks with a non-blocking
    send; when the round is over before acquireTasks listens, the verdict is dropped: the tasks were launched and come up,
    acquireTasks waits for ever (holding the deployment mutex), no role gets its task, DEPLOY times out. -/
theorem C02_finding_deploy_verdict_lost : ¬ C02_deploy_retry_full AcqCfg.legacy Cfg.code := by
  intro h
  have := h { calls := 0, tasks := [⟨true, .ok, 1⟩, ⟨false, .ok, 2⟩], rounds := [], notListening := some 0 } 0
    (by decide) nofun (by decide) (by decide) (by decide)
  revert this; decide

/-- …and it is false with the unbuffered status channel of the DEPLOY wait, with acquireTasks as it is: every task is
    launched by the first attempt and comes up, every role is ACTIVE, and DEPLOY times out because the one notification
    that said so found the loop elsewhere. -/
theorem C02_retry_needs_kept_notification : ¬ C02_deploy_retry_full AcqCfg.code Cfg.legacy := by
  intro h
  have := h { calls := 0, tasks := [⟨true, .ok, 1⟩, ⟨false, .ok, 2⟩], rounds := [], notifyLost := true } 0
    (by decide) nofun (by decide) (by decide) (by decide)
  revert this; decide

/-- Without the reset at the head of the loop body it is false even when every verdict is heard (and the channel has
    room): a critical task whose machine is missing from the first round only is launched by the second attempt and comes
    up, yet the deployment is not reported (the flag is sticky, the launched task is detached, DEPLOY can only time out). -/
theorem C02_retry_needs_reset : ¬ C02_deploy_retry_heard AcqCfg.sticky Cfg.code := by
  intro h
  have := h { calls := 0, tasks := [⟨true, .ok, 1⟩, ⟨false, .ok, 2⟩], rounds := [[1]] } 1 rfl (by decide)
    (by intro j hj; have : j = 0 := by omega
        subst this; decide)
    (by decide) (by decide) (by decide) rfl
  revert this; decide

/-- The converse: when every attempt up to the limit leaves a critical descriptor without its offer, DEPLOY fails. -/
theorem C02_deploy_exhausted_fails (cfg : Cfg) (w : OWorkflow)
    (h : ∀ j, j < attemptLimit → critMissing w.descs (w.rounds.getD j []) = true) :
    deployBody cfg (w.eff (acquire AcqCfg.code w.descs w.rounds)).tasks w.calls w.notifyLost ≠ .ok := by
  have hne : w.tasks ≠ [] := fun ht => by
    have := h 0 (by decide)
    rw [OWorkflow.descs, ht] at this; cases this
  rw [C02_attempts_exhausted _ _ (descs_ne w hne) h]
  exact eff_none_fails cfg w _ rfl hne

/-- Conservative extension: with no round scripted, so every round complete (and every role on a machine that exists)
    the first attempt launches everything and the DEPLOY wait sees the workflow exactly as the model without offers
    rounds has it. -/
theorem C02_no_late_offers_is_plain (w : OWorkflow) (hne : w.tasks ≠ []) (hr : w.rounds = [])
    (hh : ∀ t ∈ w.tasks, t.launch ≠ .nohost) :
    (acquire AcqCfg.code w.descs w.rounds).attempts = [List.range w.tasks.length] ∧
    w.eff (acquire AcqCfg.code w.descs w.rounds) =
      { calls := w.calls, tasks := w.tasks.map (fun t => (t.critical, t.launch)), notifyLost := w.notifyLost } := by
  have hcomplete : complete w.descs (w.rounds.getD 0 []) = true := by
    simp only [hr, complete, OWorkflow.descs, List.all_map, List.all_eq_true]
    intro t ht
    simp [OTask.desc, Desc.offered, hh t ht]
  have hlen : w.descs.length = w.tasks.length := by simp [OWorkflow.descs]
  rw [C02_first_good_attempt_decides w.descs w.rounds (descs_ne w hne) 0 (by decide) nofun
    (complete_not_missing _ _ hcomplete)]
  rw [roundOutcome_complete _ _ hcomplete, hlen]
  exact ⟨by simp, eff_all w _ rfl⟩

theorem judgeAll_att (sc : Scenario) (o : Obs) (os : List Obs) (x : Option (List (List Nat))) :
    judgeAll sc ({ o with att := x } :: os) = judgeAll sc (o :: os) := rfl

/-- The code as it is satisfies Spec.C02 on EVERY scenario with offers rounds — every pattern of missing offers, every
    placement and critical mix (machines that no agent has included), every request sequence after the deployment
    (judged up to the first request whose event commands no task or is not possible),
    whichever round is over before acquireTasks is at its receive, wherever the DEPLOY loop is when the root becomes
    ACTIVE — outside the two open DEPLOY corners, evaluated on the workflow as offered in the last round that took place
    (a NON-critical task whose machine is missing from it is "a non-critical task that did not start"). -/
theorem C02_attempts_spec_code (sc : OScenario) :
    let wf := sc.wf.asOffered (acquire AcqCfg.code sc.wf.descs sc.wf.rounds).attempts.length
    noncritLaunchFail wf.tasks = false → earlyRunning wf.tasks = false →
    judgeO sc (runO AcqCfg.code Cfg.code sc) = none := by
  intro wf h1 h2
  rw [judgeO_code]; exact C02_spec_code _ h1 h2

/-- …and on ALL of them nothing else is left: a rejected run of the model of the code as it is lies in one of the two
    open DEPLOY corners. (Before the repair of the verdict's hand-over a further class was left:
    `C02_attempts_only_open_corners_legacy`.) -/
theorem C02_attempts_only_open_corners_code (sc : OScenario) (h : String)
    (hj : judgeO sc (runO AcqCfg.code Cfg.code sc) = some h) :
    h = "deploy_misses_active" ∨ h = "deploy_noncritical_blocks" := by
  rw [judgeO_code] at hj; exact C02_only_deploy_corners_code _ h hj

theorem C02_attempts_corners_exhaustive (sc : OScenario) : judgeO sc (runO AcqCfg.code Cfg.code sc) ≠ some "-" := by
  rw [judgeO_code]; exact C02_corners_exhaustive _

/-- Which round is over before acquireTasks listens is irrelevant for the code as it is: the run is the run of the
    scenario in which acquireTasks is always listening. -/
theorem C02_listening_irrelevant_code (cfg : Cfg) (sc : OScenario) :
    runO AcqCfg.code cfg sc = runO AcqCfg.code cfg { sc with wf := { sc.wf with notListening := none } } := by
  simp only [runO, acquired_code, hung_code]
  rfl

/-- The code as it was (unbuffered channel), analysed with the former corner named: a rejected run of its model lies in
    one of the two open DEPLOY corners or is due to a lost verdict. -/
theorem C02_attempts_only_open_corners_legacy (sc : OScenario) (h : String)
    (hj : judgeOAll sc (runO AcqCfg.legacy Cfg.code sc) = some h) :
    h = "deploy_misses_active" ∨ h = "deploy_noncritical_blocks" ∨ h = "deploy_verdict_lost" := by
  rcases judgeOAll_runO _ _ sc h hj with rfl | ⟨hl, hO⟩
  · exact Or.inr (Or.inr rfl)
  · cases hh : sc.wf.hung AcqCfg.legacy
    · rw [runO_legacy_eq _ sc hh] at hO
      exact (C02_attempts_only_open_corners_code sc h hO).imp_right Or.inl
    · rw [(hung_legacy sc.wf hh).1] at hl; cases hl

/-- The code as it was: a lost verdict is never mistaken for a deployment — acquireTasks is still waiting, no role holds
    a task, DEPLOY fails (the destination is not reported), whatever was launched in that attempt. -/
theorem C02_verdict_lost_never_reported (cfg : Cfg) (w : OWorkflow) (hne : w.tasks ≠ []) (hh : w.hung AcqCfg.legacy = true) :
    deployBody cfg (w.eff (w.acquired AcqCfg.legacy)).tasks w.calls w.notifyLost ≠ .ok :=
  eff_none_fails cfg w _ (hung_legacy w hh).2 hne

/-- A realistic mix satisfies the hypotheses of the partial theorems: two critical tasks and a failing non-critical one. -/
example :
    let ps : List (Task × Outcome) :=
      [(⟨true, true⟩, .ok), (⟨true, true⟩, .ok), (⟨false, true⟩, .errorReplyToError), (⟨false, false⟩, .dies)]
    noTargets (targets ps) = false ∧ singleNoncritFail (targets ps) = false ∧
    allCriticalAcked (targets ps) = true ∧ bodyFor Cfg.code .START_ACTIVITY (targets ps) = .ok := by decide

example :
    let ps : List (Task × Outcome) := [(⟨true, true⟩, .silent), (⟨false, true⟩, .ok)]
    allCriticalAcked (targets ps) = false ∧ bodyFor Cfg.code .STOP_ACTIVITY (targets ps) = .error ∧
    (controlRpc Cfg.code { st := .RUNNING } [] .STOP_ACTIVITY false false false).1.st = .ERROR := by decide

example : emptyWorkflow { calls := 0, tasks := [(true, .ok), (false, .ok)] } = false ∧
    noncritLaunchFail [(true, .ok), (false, .ok)] = false ∧ earlyRunning [(true, .ok), (false, .ok)] = false ∧
    deployBody Cfg.code [(true, .ok), (false, .ok)] 0 false = .ok ∧
    deployBody Cfg.legacy [(true, .ok), (false, .ok)] 0 false = .ok := by decide

/-- The two DEPLOY repairs, on whole scenarios. The loop is elsewhere when the root becomes ACTIVE: the code as it is
    reports CONFIGURED and goes on, the code as it was failed with every role ACTIVE (`activeUnseen`), and that
    observation judged for the code as it is is a violation outside every open corner. A workflow without a role: the
    code as it is walks through every transition at once, the code as it was could not deploy it. -/
example :
    (run Cfg.code { wf := { calls := 1, tasks := [(true, .ok), (false, .ok)], notifyLost := true }, configure := [.ok, .ok],
                    steps := [.ctl .START_ACTIVITY [.ok, .ok] false []] }).map (fun o => (o.rpc, o.state)) =
      [(.ok, some .CONFIGURED), (.ok, some .RUNNING)] ∧
    run Cfg.legacy { wf := { calls := 1, tasks := [(true, .ok), (false, .ok)], notifyLost := true }, configure := [.ok, .ok],
                     steps := [.ctl .START_ACTIVITY [.ok, .ok] false []] } =
      [{ ev := none, rpc := .err, state := none, after := none, cmd := [], activeUnseen := true }] ∧
    judge { wf := { calls := 1, tasks := [(true, .ok), (false, .ok)] }, configure := [.ok, .ok], steps := [] }
      [{ ev := none, rpc := .err, state := none, after := none, cmd := [], activeUnseen := true }] = some "-" ∧
    (run Cfg.code { wf := { calls := 0, tasks := [] }, configure := [],
                    steps := [.ctl .START_ACTIVITY [] false [], .ctl .STOP_ACTIVITY [] false [], .ctl .RESET [] false []] }).map
        (fun o => (o.rpc, o.state)) =
      [(.ok, some .CONFIGURED), (.ok, some .RUNNING), (.ok, some .CONFIGURED), (.ok, some .DEPLOYED)] ∧
    run Cfg.legacy { wf := { calls := 0, tasks := [] }, configure := [], steps := [] } =
      [{ ev := none, rpc := .err, state := none, after := none, cmd := [] }] ∧
    judge { wf := { calls := 0, tasks := [] }, configure := [], steps := [] }
      [{ ev := none, rpc := .err, state := none, after := none, cmd := [] }] = some "-" := by
  decide

/-- Executor loss inside a command, on the model of the code as it is: the critical task answers START with an error,
    its executor is lost while the co-target is still working, the co-target then answers ok — the request fails, the
    environment ends in ERROR (`err`, no state, ERROR, both commanded, task 0 lost). -/
example :
    run Cfg.code { wf := { calls := 0, tasks := [(true, .ok), (false, .ok)] }, configure := [.ok, .ok],
                   steps := [.ctl .START_ACTIVITY [.errorReplyStaySrc, .ok] false [some ⟨false, false, false⟩, none]] } =
      [{ ev := none, rpc := .ok, state := some .CONFIGURED, after := some .CONFIGURED, cmd := [0, 1] },
       { ev := some .START_ACTIVITY, rpc := .err, state := none, after := some .ERROR, cmd := [0, 1], lost := [0] }] := by
  decide

/-- The invariance has content: the key of the response entry (computed before) is NOT the task's target afterwards —
    a look-up by the full target would miss the task, the look-up by task id finds it. -/
example :
    let r : List RTask := [⟨1, some 10, some 7, true⟩, ⟨2, some 11, some 8, false⟩]
    let k := (⟨1, some 10, some 7, true⟩ : RTask).target
    (applyLosses [.executor 7] r).find? (fun t => t.target = k) = none ∧
    (getTask (applyLosses [.executor 7] r) k.taskId).map (·.critical) = some true ∧
    RosterOk r [(⟨1, some 10, some 7, true⟩, .errorReplyStaySrc), (⟨2, some 11, some 8, false⟩, .ok)] ∧
    bodyForR Cfg.code .START_ACTIVITY r [(⟨1, some 10, some 7, true⟩, .errorReplyStaySrc), (⟨2, some 11, some 8, false⟩, .ok)]
      [.executor 7] = .error := by
  refine ⟨by decide, by decide, ⟨?_, ?_⟩, by decide⟩
  · intro t ht t' ht' h
    simp only [List.mem_cons, List.mem_nil_iff, or_false] at ht ht'
    rcases ht with rfl | rfl <;> rcases ht' with rfl | rfl <;> simp_all
  · intro c hc
    simp only [List.mem_cons, List.mem_nil_iff, or_false] at hc
    rcases hc with rfl | rfl <;> simp

/-- Late offers, on the model of the code as it is: the critical task's machine is missing from the first two rounds;
    the third attempt launches both tasks, NewEnvironment answers CONFIGURED, START goes to both. -/
example :
    runO AcqCfg.code Cfg.code
      { wf := { calls := 0, tasks := [⟨true, .ok, 1⟩, ⟨false, .ok, 2⟩], rounds := [[1], [1]] }, configure := [.ok, .ok],
        steps := [.ctl .START_ACTIVITY [.ok, .ok] false []] } =
      [{ ev := none, rpc := .ok, state := some .CONFIGURED, after := some .CONFIGURED, cmd := [0, 1],
         att := some [[], [], [0, 1]] },
       { ev := some .START_ACTIVITY, rpc := .ok, state := some .RUNNING, after := some .RUNNING, cmd := [0, 1] }] := by
  decide

/-- The hypotheses of `C02_deploy_retry_full` are satisfiable with a retry (i = 2), and the sticky loop differs exactly there. -/
example :
    let w : OWorkflow := { calls := 0, tasks := [⟨true, .ok, 1⟩, ⟨true, .ok, 2⟩], rounds := [[1], [2]] }
    critMissing w.descs (w.rounds.getD 0 []) = true ∧ critMissing w.descs (w.rounds.getD 1 []) = true ∧
    complete w.descs (w.rounds.getD 2 []) = true ∧
    (acquire AcqCfg.code w.descs w.rounds).attempts = [[], [], [0, 1]] ∧ (acquire AcqCfg.code w.descs w.rounds).ok = true ∧
    (acquire AcqCfg.sticky w.descs w.rounds).attempts = [[], [], [0, 1]] ∧ (acquire AcqCfg.sticky w.descs w.rounds).ok = false := by
  decide

/-- A genuine failure: the machine never turns up within the limit — three empty attempts, the critical role marked. -/
example :
    acquire AcqCfg.code [⟨true, some 1⟩, ⟨false, some 2⟩] [[1], [1], [1]] =
      { attempts := [[], [], []], ok := false, kept := [], marked := [0] } := by decide

/-- The round is over before acquireTasks listens, on the model of the code as it is: the critical task's machine is
    missing from the first round, that (abandoned) round's verdict waits in the channel — second attempt, both tasks
    launched, NewEnvironment answers CONFIGURED. On the model of the code as it was the same environment loses the
    verdict: no second attempt, NewEnvironment fails, and `judgeOAll` names the corner. -/
example :
    runO AcqCfg.code Cfg.code
      { wf := { calls := 0, tasks := [⟨true, .ok, 1⟩, ⟨false, .ok, 2⟩], rounds := [[1]], notListening := some 0 },
        configure := [.ok, .ok], steps := [] } =
      [{ ev := none, rpc := .ok, state := some .CONFIGURED, after := some .CONFIGURED, cmd := [0, 1],
         att := some [[], [0, 1]] }] ∧
    runO AcqCfg.legacy Cfg.code
      { wf := { calls := 0, tasks := [⟨true, .ok, 1⟩, ⟨false, .ok, 2⟩], rounds := [[1]], notListening := some 0 },
        configure := [.ok, .ok], steps := [] } =
      [{ ev := none, rpc := .err, state := none, after := none, cmd := [], att := some [[]], verdictLost := true }] ∧
    judgeOAll { wf := { calls := 0, tasks := [⟨true, .ok, 1⟩, ⟨false, .ok, 2⟩], rounds := [[1]], notListening := some 0 },
                configure := [.ok, .ok], steps := [] }
      [{ ev := none, rpc := .err, state := none, after := none, cmd := [], att := some [[]], verdictLost := true }] =
      some "deploy_verdict_lost" ∧
    -- the same observation judged for the code as it is: a violation outside every open corner
    judgeO { wf := { calls := 0, tasks := [⟨true, .ok, 1⟩, ⟨false, .ok, 2⟩], rounds := [[1]] },
             configure := [.ok, .ok], steps := [] }
      [{ ev := none, rpc := .err, state := none, after := none, cmd := [], att := some [[]], verdictLost := true }] =
      some "-" := by
  decide

/-! ## WHEN an acknowledgement counts: the response time-out a transition gives its targets

  `Servent.RunCommand` waits for a target's answer with the time-out of the command it was handed — the per-target copy
  `MakeSingleTarget` makes — not with the time-out of the command the transition built. Model/Deadline.lean: `DlCfg`,
  `transitionCommand`, `makeSingleTarget`, `runCommandT`, `commitT`, `TOutcome.settle`. -/

/-- tie (go/ast, Gen/C02Facts.lean): `DlCfg.code` is the default of mesoscommand.go, the value configureTasks puts on the
    CONFIGURE command, and MakeSingleTarget's literal handing the receiver's `ResponseTimeout` on; the constructors stamp
    the default; nothing else under core/ writes the field (START / STOP / RESET keep the default); commit sends and
    RunCommand waits for the COPY with the copy's time-out. -/
theorem C02_deadline_is_code :
    DlCfg.code = { dflt := Gen.C02.defaultTimeoutMs, configure := Gen.C02.configureTimeoutMs,
                   copyInherits := Gen.C02.singleTargetCopiesTimeout } ∧
    Gen.C02.constructorStampsDefault = true ∧ Gen.C02.onlyConfigureOverridesTimeout = true ∧
    Gen.C02.serventWaitsCopyTimeout = true := by decide

/-- tie (differential): the LINKED constructors stamp the model's default, and the LINKED MakeSingleTarget — through the
    Transition and TriggerHook wrappers and on the base — gives every receiver of commands with default and non-default
    time-outs a copy with the time-out `makeSingleTarget DlCfg.code` computes. -/
theorem C02_single_target_deadline_is_code :
    (∀ r ∈ Gen.C02.constructedTimeoutsMs, r.2 = (newMesosCommand DlCfg.code).timeout) ∧
    (∀ r ∈ Gen.C02.singleTargetTimeoutsMs, r.2.2 = (makeSingleTarget DlCfg.code ⟨r.2.1⟩).timeout) ∧
    Gen.C02.singleTargetTimeoutsMs.length = 36 := by decide

/-- The code as it is gives every target of every transition exactly the time the transition allows. -/
theorem C02_target_deadline_code (e : Ev) : targetDeadline DlCfg.code e = allowed e := by
  cases e <;> rfl

/-- Whenever the copy inherits, a target is waited for with the time-out of the command the transition built — whatever
    the numbers. -/
theorem C02_target_deadline_inherits (dc : DlCfg) (h : dc.copyInherits = true) (e : Ev) :
    targetDeadline dc e = (transitionCommand dc e).timeout := by
  simp [targetDeadline, makeSingleTarget, h]

/-- …and otherwise with the constructor's default, whatever the transition put on its command. -/
theorem C02_target_deadline_default_copy (dc : DlCfg) (h : dc.copyInherits = false) (e : Ev) :
    targetDeadline dc e = dc.dflt := by
  simp [targetDeadline, makeSingleTarget, h, newMesosCommand]

/-- `RunCommand` with a time-out is `runCommand` on the settled outcome: an answer that is not there when the timer
    fires is no answer. All time-outs, all delays, all outcomes. -/
theorem C02_run_command_settles (tmo : Nat) (o : TOutcome) : runCommandT tmo o = runCommand (o.settle tmo) := by
  obtain ⟨b, d⟩ := o
  by_cases h : d < tmo <;> cases b <;> simp [runCommandT, runCommand, TOutcome.settle, Outcome.replies, h]

/-- `commit` with time is `commit` of Model/Transition on the outcomes settled by the COPY's time-out. -/
theorem C02_commit_timed (dc : DlCfg) (c : Command) (ts : List (Bool × TOutcome)) :
    commitT dc c ts = commit (ts.map (fun t => (t.1, t.2.settle (makeSingleTarget dc c).timeout))) := by
  simp [commitT, commit, C02_run_command_settles, Function.comp_def]

/-- A timed outcome settles to "acknowledged" iff the task acknowledged before the time-out. -/
theorem C02_ack_in_time_iff (dl : Nat) (o : TOutcome) : o.settle dl = .ok ↔ o.ackedWithin dl = true := by
  obtain ⟨b, d⟩ := o
  by_cases h : d < dl <;> cases b <;> simp [TOutcome.settle, TOutcome.ackedWithin, Outcome.replies, h]

/-- An answer that comes at or after the time-out never counts, whatever it says. -/
theorem C02_late_never_acks (dl : Nat) (o : TOutcome) (h : dl ≤ o.delay) : o.settle dl ≠ .ok := by
  rw [Ne, C02_ack_in_time_iff]; simp [TOutcome.ackedWithin]; omega

theorem targetsT_settle (dl : Nat) (ps : List (Task × TOutcome)) :
    (targetsT ps).map (fun t => (t.1, t.2.settle dl)) = targets (ps.map (fun p => (p.1, p.2.settle dl))) := by
  simp [targetsT, targets, List.filter_map, Function.comp_def]

theorem acked_settled_iff (dl : Nat) (ps : List (Task × TOutcome)) :
    allCriticalAcked (targets (ps.map (fun p => (p.1, p.2.settle dl)))) = true ↔
      ∀ p ∈ ps, p.1.active = true → p.1.critical = true → p.2.ackedWithin dl = true := by
  simp only [allCriticalAcked, targets, List.all_eq_true, List.mem_map, List.mem_filter]
  constructor
  · intro h p hp ha hc
    have := h (p.1.critical, p.2.settle dl) ⟨(p.1, p.2.settle dl), ⟨⟨p, hp, rfl⟩, ha⟩, rfl⟩
    simp only [hc, Bool.not_true, Bool.false_or, decide_eq_true_eq] at this
    exact (C02_ack_in_time_iff _ _).1 this
  · rintro h t ⟨q, ⟨⟨p, hp, rfl⟩, ha⟩, rfl⟩
    cases hc : p.1.critical
    · rfl
    · exact decide_eq_true ((C02_ack_in_time_iff _ _).2 (h p hp ha hc))

/-- Full strength with time: for EVERY task list and EVERY assignment of outcomes AND delays, the body of CONFIGURE /
    START_ACTIVITY / STOP_ACTIVITY / RESET succeeds iff every active critical task acknowledged within the time-out of
    the command the transition built. -/
def C02_iff_timed_full (dc : DlCfg) (cfg : Cfg) : Prop :=
  ∀ (e : Ev), commandEv e → ∀ (ps : List (Task × TOutcome)),
    (bodyForT dc cfg e (targetsT ps) = .ok ↔
      ∀ p ∈ ps, p.1.active = true → p.1.critical = true → p.2.ackedWithin (transitionCommand dc e).timeout = true)

theorem iff_timed_of_deadline (dc : DlCfg) (e : Ev) (he : commandEv e) (ps : List (Task × TOutcome)) :
    bodyForT dc Cfg.code e (targetsT ps) = .ok ↔
      ∀ p ∈ ps, p.1.active = true → p.1.critical = true → p.2.ackedWithin (targetDeadline dc e) = true := by
  rw [bodyForT, targetsT_settle, body_ok_iff_code e he, acked_settled_iff]

/-- It holds of the code as it is (`Cfg.code`) whenever the per-target copy inherits the command's time-out — for all
    default / CONFIGURE values. -/
theorem C02_iff_timed_inherits (dc : DlCfg) (h : dc.copyInherits = true) : C02_iff_timed_full dc Cfg.code := by
  intro e he ps
  rw [iff_timed_of_deadline dc e he ps, C02_target_deadline_inherits dc h]

/-- The code as it is: in full, and the time-out is the time the transition allows (`allowed`, Spec/C02.lean):
    `C02_iff_code_allowed`. -/
theorem C02_iff_code_timed : C02_iff_timed_full DlCfg.code Cfg.code := C02_iff_timed_inherits _ rfl

theorem C02_iff_code_allowed (e : Ev) (he : commandEv e) (ps : List (Task × TOutcome)) :
    bodyForT DlCfg.code Cfg.code e (targetsT ps) = .ok ↔
      ∀ p ∈ ps, p.1.active = true → p.1.critical = true → p.2.ackedWithin (allowed e) = true := by
  rw [iff_timed_of_deadline DlCfg.code e he ps, C02_target_deadline_code]

/-- It FAILS whenever the copy carries the default and CONFIGURE is meant to get more: a critical task that
    acknowledges CONFIGURE after the default but within the command's time-out is timed out. -/
theorem C02_copy_must_inherit (dc : DlCfg) (h : dc.copyInherits = false) (hlt : dc.dflt < dc.configure) :
    ¬ C02_iff_timed_full dc Cfg.code := by
  intro hf
  have := (hf .CONFIGURE (Or.inl rfl) [({ critical := true, active := true }, ⟨.ok, dc.dflt⟩)]).2
    (by intro p hp _ _
        simp only [List.mem_singleton] at hp
        subst hp
        simp [TOutcome.ackedWithin, transitionCommand, hlt])
  rw [iff_timed_of_deadline dc _ (Or.inl rfl), C02_target_deadline_default_copy dc h] at this
  have h1 := this _ (List.mem_singleton.2 rfl) rfl rfl
  simp [TOutcome.ackedWithin] at h1

/-- …in particular for the variant with the code's numbers. -/
theorem C02_default_copy_refuted : ¬ C02_iff_timed_full DlCfg.defaultCopy Cfg.code :=
  C02_copy_must_inherit _ rfl (by decide)

/-- In full, every configuration: a critical active task that does not acknowledge within the time-out its copy of the
    command carries makes the body fail. -/
theorem C02_unacked_in_time_never_reported (dc : DlCfg) (cfg : Cfg) (e : Ev) (he : commandEv e)
    (ps : List (Task × TOutcome)) (p : Task × TOutcome) (hp : p ∈ ps) (ha : p.1.active = true) (hc : p.1.critical = true)
    (hl : p.2.ackedWithin (targetDeadline dc e) = false) : bodyForT dc cfg e (targetsT ps) ≠ .ok := by
  rw [bodyForT, targetsT_settle]
  refine C02_unacked_never_reported cfg e he _ (Bool.eq_false_iff.2 fun h => ?_)
  rw [(acked_settled_iff _ ps).1 h p hp ha hc] at hl
  cases hl

/-- Why the time-out GIVEN has to be the time ALLOWED: for any other value there is a delay at which a lone critical
    task's answer is judged differently. -/
theorem C02_wrong_deadline_refutes (e : Ev) (dl : Nat) (h : dl ≠ allowed e) :
    ∃ d, (⟨.ok, d⟩ : TOutcome).ackedWithin dl ≠ (⟨.ok, d⟩ : TOutcome).ackedWithin (allowed e) := by
  refine ⟨min dl (allowed e), ?_⟩
  simp only [TOutcome.ackedWithin, decide_true, Bool.true_and, ne_eq, decide_eq_decide]
  omega

theorem settle_timed (dl : Nat) (h : 0 < dl) (o : Outcome) : (Outcome.timed o).settle dl = o := by
  cases o <;> simp [Outcome.timed, TOutcome.settle, Outcome.replies, h]

theorem settleOuts_timed (dl : Nat) (h : 0 < dl) (os : List Outcome) : settleOuts dl (os.map Outcome.timed) = os := by
  induction os with
  | nil => rfl
  | cons o os ih =>
    simp only [settleOuts, List.map_cons, List.cons.injEq] at ih ⊢
    exact ⟨settle_timed dl h o, ih⟩

/-- A scenario without delays, settled by ANY positive time-outs, is the scenario. -/
theorem C02_no_delay_is_plain (dl : Ev → Nat) (h : ∀ e, 0 < dl e) (sc : Scenario) : sc.timed.settle dl = sc := by
  obtain ⟨wf, conf, steps⟩ := sc
  simp only [Scenario.timed, TScenario.settle, settleOuts_timed _ (h _), Scenario.mk.injEq, true_and]
  induction steps with
  | nil => rfl
  | cons s ss ih =>
    simp only [List.map_cons, List.cons.injEq]
    refine ⟨?_, ih⟩
    cases s <;> simp [SStep.timed, TStep.settle, settleOuts_timed _ (h _)]

/-- …so its timed run is the run of Model/Transition, with the time-outs given added to the observation. -/
theorem C02_no_delay_run (cfg : Cfg) (sc : Scenario) :
    runT DlCfg.code cfg sc.timed = withDeadlines DlCfg.code (run cfg sc) := by
  rw [runT, C02_no_delay_is_plain _ (fun e => by rw [C02_target_deadline_code]; cases e <;> decide)]

theorem obs_withDeadlines (dc : DlCfg) (os : List Obs) : (withDeadlines dc os).map (·.obs) = os := by
  simp [withDeadlines, Function.comp_def]

theorem deadlinesOk_code (os : List Obs) : deadlinesOk (withDeadlines DlCfg.code os) = true := by
  simp [deadlinesOk, withDeadlines, C02_target_deadline_code]

theorem deadline_code_allowed : targetDeadline DlCfg.code = allowed := funext C02_target_deadline_code

theorem judgeT_code (sc : TScenario) :
    judgeT sc (runT DlCfg.code Cfg.code sc) = judge (sc.settle allowed) (run Cfg.code (sc.settle allowed)) := by
  rw [judgeT, judgeDl, runT, deadlinesOk_code, obs_withDeadlines, deadline_code_allowed]; rfl

theorem judgeOT_code (sc : OTScenario) :
    judgeOT sc (runOT DlCfg.code AcqCfg.code Cfg.code sc) =
      judgeO (sc.settle allowed) (runO AcqCfg.code Cfg.code (sc.settle allowed)) := by
  rw [judgeOT, judgeDl, runOT, deadlinesOk_code, obs_withDeadlines, deadline_code_allowed]; rfl

/-- The code as it is satisfies Spec.C02 on EVERY scenario with timed outcomes outside the two open DEPLOY corners:
    every request sequence (judged up to the first request whose event commands no task or is not possible), every
    outcome AND delay assignment (answers just inside and just outside the time allowed
    included), and every commanded target is given exactly the time its transition allows. -/
theorem C02_spec_code_timed (sc : TScenario)
    (h1 : noncritLaunchFail sc.wf.tasks = false) (h2 : earlyRunning sc.wf.tasks = false) :
    judgeT sc (runT DlCfg.code Cfg.code sc) = none := by
  rw [judgeT_code]; exact C02_spec_code _ h1 h2

theorem C02_only_deploy_corners_code_timed (sc : TScenario) (h : String)
    (hj : judgeT sc (runT DlCfg.code Cfg.code sc) = some h) :
    h = "deploy_misses_active" ∨ h = "deploy_noncritical_blocks" := by
  rw [judgeT_code] at hj; exact C02_only_deploy_corners_code _ h hj

/-- The verdict the harness computes on what the model does with a timed scenario is never the anonymous "-". -/
theorem C02_corners_exhaustive_timed (sc : TScenario) : judgeT sc (runT DlCfg.code Cfg.code sc) ≠ some "-" := by
  rw [judgeT_code]; exact C02_corners_exhaustive _

theorem C02_attempts_corners_exhaustive_timed (sc : OTScenario) :
    judgeOT sc (runOT DlCfg.code AcqCfg.code Cfg.code sc) ≠ some "-" := by
  rw [judgeOT_code]; exact C02_attempts_corners_exhaustive _

/-- Spec.C02 rejects the variant whose per-target copy carries the default — on a scenario in which EVERY task answers at
    once (only the time-outs given differ), and on one whose critical task acknowledges CONFIGURE after 100 s (the
    variant reports a failure). -/
theorem C02_default_copy_rejected :
    judgeT { wf := { calls := 0, tasks := [(true, .ok), (false, .ok)] }, configure := [⟨.ok, 0⟩, ⟨.ok, 0⟩], steps := [] }
      (runT DlCfg.defaultCopy Cfg.code
        { wf := { calls := 0, tasks := [(true, .ok), (false, .ok)] }, configure := [⟨.ok, 0⟩, ⟨.ok, 0⟩], steps := [] }) = some "-" ∧
    (let sc : TScenario := { wf := { calls := 0, tasks := [(true, .ok), (false, .ok)] }, configure := [⟨.ok, 100000⟩, ⟨.ok, 0⟩], steps := [] }
     (runT DlCfg.defaultCopy Cfg.code sc).map (·.obs.rpc) = [.err] ∧ (runT DlCfg.code Cfg.code sc).map (·.obs.rpc) = [.ok] ∧
     judge (sc.settle allowed) ((runT DlCfg.defaultCopy Cfg.code sc).map (·.obs)) = some "-") := by decide

example : (runT DlCfg.code Cfg.code
    { wf := { calls := 0, tasks := [(true, .ok), (false, .ok)] }, configure := [⟨.ok, 100000⟩, ⟨.ok, 0⟩],
      steps := [.ctl .START_ACTIVITY [⟨.ok, 80000⟩, ⟨.errorReplyStaySrc, 100000⟩] false [],
                .ctl .STOP_ACTIVITY [⟨.ok, 100000⟩, ⟨.ok, 0⟩] false []] }).map (fun o => (o.obs.rpc, o.obs.state, o.dl)) =
    [(.ok, some .CONFIGURED, [120000, 120000]), (.ok, some .RUNNING, [90000, 90000]), (.err, none, [90000, 90000])] := by decide
