/-
  Props/C03 — "Failure of a critical task drives a live environment to ERROR".

  The property theorems, the full-strength statements as predicates of the configuration
  (`C03_…_full c`) and what holds of every configuration that has the repair in question
  (`Failure.every_failure_to_error`, `Failure.noncritical_inert`); lemmas live in
  Proofs/Failure.lean (one step), Proofs/FailureRun.lean (runs of internal steps),
  Proofs/FailureRoster.lean (the roster) — and Proofs/RoleTree.lean, Proofs/Env.lean, which are
  C11's and C01's.

  The system is `Failure.Sys` (role tree + environment machine + watcher + whatever holds
  the transition mutex); inputs are `failOne`/`fail` (one failure of some `Kind`), internal
  steps are `Label`s. "Within bounded time" is stated as: every run of enabled internal
  steps is at most `budget` long, and when nothing is enabled any more the environment is
  in ERROR (fairness = enabled internal steps are eventually taken; wall-clock time is not
  modelled).

  Configurations (`Failure.Cfg`): `codeCfg` — the code as it is, with "fix: the workflow state
  watcher cannot miss an ERROR of the root role" (channel with a buffer of one, root state
  re-read after every receive) and the two repairs of handleDeviceEvent's TASK_INTERNAL_ERROR case (the role is told
  ERROR in every environment state; STOP_ACTIVITY is requested only for a critical task) —,
  `deviceLegacyCfg`, the code before those two (findings internal_error_ignored_unless_running,
  internal_error_noncritical_stops_run), and `legacyCfg`, the code before all of them (finding
  notify_dropped). `C03_watcher_is_code` and `C03_internal_effect_is_code` tie `codeCfg` to the
  source (go/ast facts regenerated on every run): they break when a repair is reverted.
-/
import ControlModel.Gen.FailureFacts
import ControlModel.Proofs.FailureRun
import ControlModel.Proofs.FailureRoster

open RoleTree EnvM Failure

def Failure.Kind.mesos? : Kind → Option String
  | .FAILED | .RFAILED => some "TASK_FAILED" | .LOST | .RLOST | .RAGENT => some "TASK_LOST"
  | .KILLED | .RKILLED => some "TASK_KILLED" | .TERROR | .RTERROR => some "TASK_ERROR"
  | .FINISHED | .RFINISHED => some "TASK_FINISHED" | _ => none

/-- `effect` for a terminal Mesos status IS the case table of task.Manager.handleMessage
    (state literal) and updateTaskStatus (INACTIVE); the ERROR rows are the ones guarded by
    `t.IsLocked()` (an owned task — every task of a live environment). Whatever the
    configuration, the environment's state and the task's criticality. -/
theorem C03_status_effect_is_code (c : Cfg) (k : Kind) (n : String) (st : St) (crit : Bool) (h : k.mesos? = some n) :
    (∃ row ∈ Gen.C03.statusState, row.1 = n ∧ TState.parse? row.2.1 = (effect c k st crit).st ∧ row.2.2 = k.hard) ∧
    n ∈ Gen.C03.inactiveOn ∧ (effect c k st crit).su = some .INACTIVE ∧ (effect c k st crit).stop = false := by
  cases k <;> simp [Kind.mesos?] at h <;> subst h
  all_goals first | rw [effect_hard c _ st crit rfl] | rw [effect_exitZero c _ st crit rfl]
  all_goals decide

/-- A terminal state learnt ONLY through the master's reconciliation answer after a
    re-subscription (the task died while the core was cut off) has the effect of the same
    state delivered directly — because that IS the shape of handleMessage(TaskStatusMessage):
    the `switch mesosState` is reached by every status update (straight-line code before it)
    and no condition on the way to `updateTaskState` mentions the update's reason; and
    `updateTaskStatus` (INACTIVE) is reached by every update about a task that is in the
    roster (only the KILL of tasks NOT in the roster looks at the reason). Moving the
    handling of reconciliation updates into a branch of its own makes this theorem false. -/
theorem C03_reconciled_effect_is_code (c : Cfg) (k : Kind) (st : St) (crit : Bool) (h : k.viaReconciliation = true) :
    Gen.C03.statusStateReasonBlind = true ∧ Gen.C03.statusUpdateReachesRosterTasks = true ∧
    k.direct.viaReconciliation = false ∧ k.mesos?.isSome = true ∧ k.mesos? = k.direct.mesos? ∧
    effect c k st crit = effect c k.direct st crit ∧ k.hard = k.direct.hard := by
  refine ⟨by decide, by decide, ?_, ?_, ?_, (effect_direct c k st crit).symm, ?_⟩ <;>
    cases k <;> first | rfl | cases h

/-- `effect` for a lost executor / agent IS HandleExecutorFailed / HandleAgentFailed. -/
theorem C03_lost_effect_is_code (c : Cfg) (st : St) (crit : Bool) :
    TState.parse? Gen.C03.execState = (effect c .EXEC st crit).st ∧ TState.parse? Gen.C03.execState = (effect c .EXEC0 st crit).st ∧
    TState.parse? Gen.C03.agentState = (effect c .AGENT st crit).st ∧ TState.parse? Gen.C03.agentState = (effect c .AGENT0 st crit).st ∧
    Gen.C03.execInactive = true ∧ Gen.C03.agentInactive = true ∧
    (effect c .EXEC st crit).su = some .INACTIVE ∧ (effect c .EXEC0 st crit).su = some .INACTIVE ∧
    (effect c .AGENT st crit).su = some .INACTIVE ∧ (effect c .AGENT0 st crit).su = some .INACTIVE := by
  rw [effect_hard c .EXEC st crit rfl, effect_hard c .EXEC0 st crit rfl, effect_hard c .AGENT st crit rfl,
    effect_hard c .AGENT0 st crit rfl]
  decide

/-- `effect codeCfg` for TASK_INTERNAL_ERROR IS the case of handleDeviceEvent, read off the
    GUARD STACKS go/ast finds for its two calls (conditions of the enclosing `if`s and negated
    conditions of earlier `if C { …; return }` statements): the role update
    `<parent>.UpdateState(sm.ERROR)` — exactly one, under no test of the environment's state and
    no test of the task's criticality (nil tests only) —, and the STOP request
    `env.TryTransition(NewStopActivityTransition(…))` — exactly one, under the test of the
    environment's state against the literal "RUNNING" AND under a positive test of the task's
    criticality, nothing else —, both in one goroutine, the role update first; the status is not
    touched. For every state of the environment and either criticality.
    Reverting "fix: TASK_INTERNAL_ERROR of a non-critical task does not stop the run" makes
    `internalStopNeedsCritical` false, reverting "fix: a task's TASK_INTERNAL_ERROR reaches its role
    in every environment state" makes `internalRoleNeedsRunning` true: either way this theorem
    is false. -/
theorem C03_internal_effect_is_code (st : St) (crit : Bool) :
    St.parse? Gen.C03.internalGuard = some .RUNNING ∧
    (effect codeCfg .INTERNAL st crit).st =
      (if Gen.C03.internalUpdatesRole ∧ (Gen.C03.internalRoleNeedsRunning = false ∨ some st = St.parse? Gen.C03.internalGuard) ∧
          (Gen.C03.internalRoleNeedsCritical = false ∨ crit = true) then some .ERROR else none) ∧
    (effect codeCfg .INTERNAL st crit).stop =
      (Gen.C03.internalStops && (!Gen.C03.internalStopNeedsRunning || decide (some st = St.parse? Gen.C03.internalGuard)) &&
        (!Gen.C03.internalStopNeedsCritical || crit)) ∧
    (effect codeCfg .INTERNAL st crit).su = none ∧
    Gen.C03.internalRoleOther = false ∧ Gen.C03.internalStopOther = false ∧ Gen.C03.internalRoleBeforeStop = true ∧
    Gen.C03.internalRoleNeedsRunning = !codeCfg.roleAlways ∧ Gen.C03.internalStopNeedsCritical = codeCfg.stopAsksCritical := by
  cases st <;> cases crit <;> decide

/-- `notify`, `updState`'s critical filter, `Watch` and `codeCfg` ARE the shapes found in
    parentadapter.go, taskrole.go and subscribeToWfState: non-blocking send, critical-only
    forwarding, one-shot watcher, 500 ms, forced ERROR — and the watcher's channel has a
    buffer of exactly one value and the root's state is re-read after a receive, before the
    value is acted upon (`codeCfg`; reverting the repair makes this theorem false). -/
theorem C03_watcher_is_code :
    Gen.C03.notifyNonBlocking = true ∧ Gen.C03.forwardIffCritical = true ∧ Gen.C03.watcherOnError = true ∧
    Gen.C03.watcherOneShot = true ∧ Gen.C03.watcherLeavesOnDone = true ∧ Gen.C03.forcedError = true ∧
    Gen.C03.timerMs = 500 ∧
    Gen.C03.notifyChanCap = (if codeCfg.buffered then 1 else 0) ∧ Gen.C03.watcherRereadsRoot = codeCfg.reread := by
  decide

/-- A live environment: CONFIGURED or RUNNING, its watcher in its loop and not holding a value it has
    taken (`Watch.parked`; whatever is waiting in the watcher's channel), nothing of RECOVER in flight. -/
def Live (s : Sys) : Prop :=
  (s.env.st = .CONFIGURED ∨ s.env.st = .RUNNING) ∧ s.w = .parked ∧ NoRecover s

/-- An ERROR written to a critical leaf is forwarded all the way up, and C11's fold over the critical
    leaves of the (consistent) tree says ERROR (`specState`: ERROR of a critical leaf dominates). -/
theorem C03_root_error (f : Forest) (p : List Nat) (hc : Consistent f) (hcrit : critLeafAt f p = true) :
    (updState f p .ERROR).2 = some .ERROR ∧ specState (updState f p .ERROR).1 = .ERROR := by
  have h1 := updState_crit_error f p hcrit
  refine ⟨h1, ?_⟩
  have hc' := upd_consistent f p .ERROR hc
  rw [← (consistent_spec _ hc').1]
  obtain ⟨a, o, _, h2⟩ := (upd_top f p .ERROR).2 .ERROR h1
  rw [h2, X_error_left]

/-- What holds of every configuration with an unbuffered channel (`legacyCfg`, the code before
    the repair) — for every role tree, every live state, every set of
    tasks dying together of which at least one is critical, every kind of failure that the
    code turns into task state ERROR at that instant (`Kind.drives`), idle or with any
    transition but RECOVER in flight, every hook set, every order of the enabled internal steps and
    every outcome of the in-flight / queued transitions — PROVIDED the watcher is at its receive
    when the root notifies for (one of) the critical victim(s) (`(p, true) ∈ vs`):
      (1) the watcher is armed and at most `budget` internal steps can follow,
      (2) when none is enabled any more the environment is in ERROR,
      (3) such a run exists (so (2) is not vacuous). -/
theorem C03_critical_to_error_partial (c : Cfg) (hb : c.buffered = false) (s : Sys) (k : Kind)
    (vs : List (List Nat × Bool))
    (hlive : Live s) (hk : k.drives c s.env.st = true)
    (hcrit : ∃ p, (p, true) ∈ vs ∧ critLeafAt s.f p = true) :
    let s1 := fail c k s vs
    s1.w = .armed ∧ budget s1 ≤ budget s + 3 * vs.length + 2 ∧
    (∀ ls, validRun c s1 ls = true → ls.length ≤ budget s1 ∧
      (quiescent (irun c s1 ls) = true → (irun c s1 ls).env.st = .ERROR)) ∧
    (∃ ls, validRun c s1 ls = true ∧ quiescent (irun c s1 ls) = true) := by
  obtain ⟨_, hw, hnr⟩ := hlive
  obtain ⟨p, hp, hc⟩ := hcrit
  have hnb : ¬ c.buffered = true := by rw [hb]; nofun
  have hcrit' : ∃ p r, (p, r) ∈ vs ∧ critLeafAt s.f p = true ∧ (c.buffered = true ∨ r = true) := ⟨p, true, hp, hc, .inr rfl⟩
  obtain ⟨h1, h2, h3⟩ := critical_to_error c s k vs hw hnr hk hcrit'
  exact ⟨(fail_aimed c k s vs hk hw (fun h => absurd h hnb) hcrit').resolve_right (fun h => hnb h.1), h1,
    fun ls hv => ⟨(h2 ls hv).1, (h2 ls hv).2 (fun h => absurd h hnb)⟩, h3⟩

/-- The single-victim reading. -/
theorem C03_critical_to_error (c : Cfg) (hb : c.buffered = false) (s : Sys) (k : Kind) (p : List Nat) (ls : List Label)
    (hlive : Live s) (hcrit : critLeafAt s.f p = true) (hk : k.drives c s.env.st = true)
    (hv : validRun c (failOne c k s p true) ls = true) (hq : quiescent (irun c (failOne c k s p true) ls) = true) :
    (irun c (failOne c k s p true) ls).env.st = .ERROR ∧ ls.length ≤ budget s + 5 := by
  obtain ⟨_, hbud, h, _⟩ := C03_critical_to_error_partial c hb s k [(p, true)] hlive hk ⟨p, List.mem_singleton.mpr rfl, hcrit⟩
  simp only [fail, List.length_singleton] at hbud h
  obtain ⟨h1, h2⟩ := h ls hv
  exact ⟨h2 hq, by omega⟩

/-- FULL-STRENGTH statement about the way from the root role to the environment — no premise
    about whether the watcher goroutine is at its receive: for every live system (whatever is
    waiting in the watcher's channel), every kind of failure the code turns into task state ERROR at that
    instant, every set of tasks dying together of which at least one is critical, EVERY
    `ready` bit, every valid run of internal steps — in which, if a stale value was still
    waiting in the watcher's channel when the task failed, the root role goes on saying ERROR
    while the watcher is in its loop (a statement about the ROLE TREE, not about the watcher:
    it fails only when a late command reply of the dead task overwrites its ERROR, the
    unordered `go updateTaskState` goroutines of C11 / C02) — once nothing more can happen the
    environment is in ERROR.
    FALSE for the code as it was (`C03_finding_notify_dropped`), TRUE for the code as it is
    (`C03_critical_to_error_code`). -/
def C03_critical_to_error_full (c : Cfg) : Prop :=
  ∀ (s : Sys) (k : Kind) (vs : List (List Nat × Bool)) (ls : List Label),
    Live s → k.drives c s.env.st = true → (∃ p r, (p, r) ∈ vs ∧ critLeafAt s.f p = true) →
    validRun c (fail c k s vs) ls = true →
    (s.chan = none ∨ rootHolds c (fail c k s vs) ls = true) →
    quiescent (irun c (fail c k s vs) ls) = true →
    (irun c (fail c k s vs) ls).env.st = .ERROR

/-- The same with the bounds, for every configuration that has the buffer and the re-read:
    at most `budget` (≤ budget before + 3 per victim + 2) internal steps can follow the
    failure; when none is enabled any more the environment is in ERROR; such a run exists. -/
theorem C03_critical_to_error_buffered (c : Cfg) (hb : c.buffered = true) (hr : c.reread = true)
    (s : Sys) (k : Kind) (vs : List (List Nat × Bool))
    (hlive : Live s) (hk : k.drives c s.env.st = true)
    (hcrit : ∃ p r, (p, r) ∈ vs ∧ critLeafAt s.f p = true) :
    let s1 := fail c k s vs
    budget s1 ≤ budget s + 3 * vs.length + 2 ∧
    (∀ ls, validRun c s1 ls = true → ls.length ≤ budget s1 ∧
      ((s.chan = none ∨ rootHolds c s1 ls = true) → quiescent (irun c s1 ls) = true → (irun c s1 ls).env.st = .ERROR)) ∧
    (∃ ls, validRun c s1 ls = true ∧ quiescent (irun c s1 ls) = true) := by
  obtain ⟨_, hw, hnr⟩ := hlive
  obtain ⟨p, r, hp, hc⟩ := hcrit
  obtain ⟨h1, h2, h3⟩ := critical_to_error c s k vs hw hnr hk ⟨p, r, hp, hc, .inl hb⟩
  exact ⟨h1, fun ls hv => ⟨(h2 ls hv).1, fun hprem => (h2 ls hv).2 (fun _ => hprem.imp id (⟨hr, ·⟩))⟩, h3⟩

/-- **The full-strength statement holds for the code as it is.** -/
theorem C03_critical_to_error_code : C03_critical_to_error_full codeCfg := by
  intro s k vs ls hlive hk hcrit hv hprem hq
  exact ((C03_critical_to_error_buffered codeCfg rfl rfl s k vs hlive hk hcrit).2.1 ls hv).2 hprem hq

/-- ERROR is absorbing for the internal steps (nothing in flight is RECOVER). -/
theorem C03_error_stable (c : Cfg) (s : Sys) (ls : List Label) (he : s.env.st = .ERROR) (hnr : NoRecover s)
    (hv : validRun c s ls = true) : (irun c s ls).env.st = .ERROR :=
  (irun_induct (fun s _ => NoRecover s ∧ s.env.st = .ERROR)
    (fun s l _ h hen => ⟨(istep_spec c s l hen).noRecover h.1, (istep_spec c s l hen).error h.1 h.2⟩) ls s ⟨hnr, he⟩ hv).2

/-- FULL-STRENGTH statement: the failure — of ANY kind — of a non-critical task of a quiet
    live environment never changes the environment's state. TRUE of the code as it is
    (`C03_noncritical_inert_code`), FALSE of the code as it was before "fix: TASK_INTERNAL_ERROR
    of a non-critical task does not stop the run" (`C03_finding_internal_error_noncritical_stops_run`). -/
def C03_noncritical_inert_full (c : Cfg) : Prop :=
  ∀ (s : Sys) (k : Kind) (p : List Nat) (ready : Bool) (ls : List Label),
    Live s → quiescent s = true → plainLeafAt s.f p = true →
    validRun c (failOne c k s p ready) ls = true → (irun c (failOne c k s p ready) ls).env.st = s.env.st

/-- What is proved for EVERY configuration: for every kind that does not queue a STOP
    (`Kind.quiet`: all of them in the code as it is, `quiet_code`; all except
    TASK_INTERNAL_ERROR while RUNNING in the code as it was) the failure of a
    non-critical task changes NOTHING outside that task's own role: environment, watcher, its
    channel, mutex holder, queued requests are untouched, no notification is sent, what the
    top-level role reports (`aggregateState s.f`, its cached state) is unchanged, exactly
    the same internal steps are enabled as before, and an idle environment stays idle — its
    state can never change as a consequence. Any schedule, any watcher position. -/
theorem C03_noncritical_inert_partial (c : Cfg) (s : Sys) (k : Kind) (p : List Nat) (ready : Bool)
    (hplain : plainLeafAt s.f p = true) (hq : k.quiet c s.env.st false = true) :
    let s1 := failOne c k s p ready
    s1.env = s.env ∧ s1.w = s.w ∧ s1.chan = s.chan ∧ s1.inflight = s.inflight ∧ s1.stopReq = s.stopReq ∧
    s1.dropped = s.dropped ∧ S s1.f = S s.f ∧
    (∀ l, enabled s1 l = enabled s l) ∧
    (quiescent s = true → ∀ ls, validRun c s1 ls = true → ls = [] ∧ (irun c s1 ls).env.st = s.env.st) := by
  obtain ⟨f', ro, hS, _, h⟩ := failOne_noncrit c k s p ready (plain_not_crit s.f p hplain) hq
  simp only [h]
  refine ⟨trivial, trivial, trivial, trivial, trivial, trivial, hS, enabled_tree s f' ro, fun hqs ls hv => ?_⟩
  cases ls with
  | nil => exact ⟨rfl, rfl⟩
  | cons l ls =>
    simp only [validRun, Bool.and_eq_true, enabled_tree, (quiescent_iff s).mp hqs l] at hv
    cases hv.1

/-- What `stopAsksCritical` buys: no kind queues a STOP on behalf of a non-critical task, so the statement holds of
    every configuration that has it (`C03_stop_must_ask_criticality`: not without). -/
theorem Failure.noncritical_inert (c : Cfg) (hs : c.stopAsksCritical = true) : C03_noncritical_inert_full c := by
  intro s k p ready ls _ hq hplain hv
  exact ((C03_noncritical_inert_partial c s k p ready hplain (quiet_of_stopAsksCritical c hs k s.env.st)).2.2.2.2.2.2.2.2 hq ls hv).2

/-- **The full-strength statement holds for the code as it is**: every kind of failure —
    TASK_INTERNAL_ERROR while RUNNING included — of a non-critical task of a quiet live
    environment never changes the environment's state (that no internal step is enabled afterwards
    and watcher, channel, mutex holder, queued requests, the top-level role's reported state are untouched:
    `C03_noncritical_inert_partial`, `C03_noncritical_untouched_code`). -/
theorem C03_noncritical_inert_code : C03_noncritical_inert_full codeCfg :=
  noncritical_inert codeCfg rfl

/-- The same without any premise about the environment (any state, anything in flight, any
    watcher position): nothing outside the task's own role changes, the same steps stay enabled. -/
theorem C03_noncritical_untouched_code (s : Sys) (k : Kind) (p : List Nat) (ready : Bool)
    (hplain : plainLeafAt s.f p = true) :
    let s1 := failOne codeCfg k s p ready
    s1.env = s.env ∧ s1.w = s.w ∧ s1.chan = s.chan ∧ s1.inflight = s.inflight ∧ s1.stopReq = s.stopReq ∧
    s1.dropped = s.dropped ∧ S s1.f = S s.f ∧ (∀ l, enabled s1 l = enabled s l) := by
  obtain ⟨a1, a2, a3, a4, a5, a6, a7, a8, _⟩ :=
    C03_noncritical_inert_partial codeCfg s k p ready hplain (quiet_code k s.env.st)
  exact ⟨a1, a2, a3, a4, a5, a6, a7, a8⟩

/-- When the watcher's timer runs on a RUNNING environment whose end-of-run stamps are
    still open (as START_ACTIVITY leaves them) and the workflow has no hooks and no call still
    awaited (none can veto GO_ERROR), both stamps are set and both run events (GO_ERROR STARTED at run_end_time_ms,
    GO_ERROR DONE_OK at run_end_completion_time_ms) are emitted, carrying the run number. -/
theorem C03_run_end_recorded (c : Cfg) (s : Sys) (hst : s.env.st = .RUNNING)
    (hh : s.hooks = []) (hp : s.env.pending = [])
    (h1 : s.env.vars.soeor = .empty) (h2 : s.env.vars.eoeor = .empty) :
    let s1 := timerStep c s
    s1.env.st = .ERROR ∧
    s1.env.vars.soeor = .val (s.env.clock + 1) ∧ s1.env.vars.eoeor = .val (s.env.clock + 2) ∧
    Step.runEvent "GO_ERROR" .started s.env.rn (s.env.clock + 1) ∈ s1.log ∧
    Step.runEvent "GO_ERROR" .doneOk s.env.rn (s.env.clock + 2) ∈ s1.log := by
  unfold timerStep
  simp only
  rw [(setLeaves_told _ _ _ _ _).env, (setLeaves_told _ _ _ _ _).log]
  simp only [hh]
  obtain ⟨k1, k2, k3, k4, k5, k6⟩ := goError_closes_run s.env hst hp h1 h2
  simp only [k1, Result.isOk, if_true]
  exact ⟨k2, k3, k4, List.mem_append_right _ k5, List.mem_append_right _ k6⟩

/-- One critical task, environment RUNNING after a START_ACTIVITY (stamps open). -/
def wRunning : Sys :=
  { f := .agg .RUNNING .ACTIVE (.leaf false true .RUNNING .ACTIVE (.leaf false false .RUNNING .ACTIVE .nil)) .nil,
    env := { st := .RUNNING, rn := 1, counter := 1, clock := 1,
             vars := { rnVar := some 1, sosor := .val 1, eosor := .val 1, soeor := .empty, eoeor := .empty } } }

def wConfigured : Sys :=
  { f := .agg .CONFIGURED .ACTIVE (.leaf false true .CONFIGURED .ACTIVE (.leaf false false .CONFIGURED .ACTIVE .nil)) .nil,
    env := { st := .CONFIGURED } }

theorem wRunning_live : Live wRunning := ⟨Or.inr rfl, rfl, fun i hi => by cases hi⟩
theorem wConfigured_live : Live wConfigured := ⟨Or.inl rfl, rfl, fun i hi => by cases hi⟩

/-- NEGATIVE lemma about the code AS IT WAS (finding notify_dropped, fixed): on an unbuffered
    channel, with the watcher away from its receive at the instant the root notifies, the
    ERROR is dropped; nothing is enabled afterwards and the environment keeps reporting
    RUNNING with its critical task dead, the root role saying ERROR. -/
theorem C03_finding_notify_dropped : ¬ C03_critical_to_error_full legacyCfg := by
  intro h
  have := h wRunning .FAILED [([0, 0], false)] [] wRunning_live (by decide) ⟨[0, 0], false, by decide, by decide⟩
    (by decide) (Or.inl rfl) (by decide)
  revert this; decide

/-- What exactly that schedule left behind — and what the same schedule does on the code as it
    is: the ERROR waits in the channel, the watcher takes it, the timer runs, the environment is
    in ERROR. -/
theorem C03_notify_dropped_witness :
    (let s1 := failOne legacyCfg .FAILED wRunning [0, 0] false
     quiescent s1 = true ∧ s1.env.st = .RUNNING ∧ rootState s1.f = .ERROR ∧ s1.dropped = 1 ∧ s1.w = .parked) ∧
    (let s1 := failOne codeCfg .FAILED wRunning [0, 0] false
     s1.chan = some .ERROR ∧ s1.dropped = 0 ∧ validRun codeCfg s1 [.take, .look, .timer] = true ∧
     quiescent (irun codeCfg s1 [.take, .look, .timer]) = true ∧ (irun codeCfg s1 [.take, .look, .timer]).env.st = .ERROR) := by
  decide

/-- The text of the property for EVERY kind of failure (no `Kind.drives`): FALSE of the code as
    it is — because of TASK_FINISHED alone (open finding finished_not_error, below); for every
    other kind it holds, `C03_every_failure_to_error_code`. -/
def C03_every_kind_to_error_full (c : Cfg) : Prop :=
  ∀ (s : Sys) (k : Kind) (vs : List (List Nat × Bool)) (ls : List Label),
    Live s → (∃ p r, (p, r) ∈ vs ∧ critLeafAt s.f p = true) →
    validRun c (fail c k s vs) ls = true → s.chan = none →
    quiescent (irun c (fail c k s vs) ls) = true →
    (irun c (fail c k s vs) ls).env.st = .ERROR

/-- A critical task whose process ends with exit status 0 (TASK_FINISHED) becomes DONE,
    not ERROR: the watcher receives DONE and leaves, the environment stays RUNNING. -/
theorem C03_finding_finished_not_error : ¬ C03_every_kind_to_error_full codeCfg := by
  intro h
  have := h wRunning .FINISHED [([0, 0], true)] [.take, .look] wRunning_live ⟨[0, 0], true, by decide, by decide⟩
    (by decide) rfl (by decide)
  revert this; decide

/-- The same statement, proved from the witness in which the exit is only learnt through reconciliation
    after a re-subscription (`.RFINISHED`; finding finished_not_error, same class). -/
theorem C03_finding_reconciled_finished_not_error : ¬ C03_every_kind_to_error_full codeCfg := by
  intro h
  have := h wRunning .RFINISHED [([0, 0], true)] [.take, .look] wRunning_live ⟨[0, 0], true, by decide, by decide⟩
    (by decide) rfl (by decide)
  revert this; decide

/-- The text of the property for every kind of failure it names — the process dies, Mesos
    reports the task failed / lost / killed / in error (directly or through reconciliation),
    its executor or agent is lost, OR IT ANNOUNCES AN INTERNAL ERROR —, i.e. every `Kind` but
    exit status 0, with NO hypothesis about what the code does with the kind at that instant
    (no `Kind.drives`): every live system — CONFIGURED or RUNNING, idle or with any transition
    but RECOVER in flight — with nothing waiting in its watcher's channel (a stale value there needs
    the premise of `C03_critical_to_error_full`: `C03_every_failure_to_error_bounded`), every set of victims with
    a critical one, every valid run of internal steps: once nothing more can happen the environment
    is in ERROR.
    FALSE of the code as it was (`C03_finding_internal_error_ignored_unless_running`), TRUE of
    the code as it is (`C03_every_failure_to_error_code`). -/
def C03_every_failure_to_error_full (c : Cfg) : Prop :=
  ∀ (s : Sys) (k : Kind) (vs : List (List Nat × Bool)) (ls : List Label),
    Live s → k.exitZero = false → (∃ p r, (p, r) ∈ vs ∧ critLeafAt s.f p = true) →
    validRun c (fail c k s vs) ls = true → s.chan = none →
    quiescent (irun c (fail c k s vs) ls) = true →
    (irun c (fail c k s vs) ls).env.st = .ERROR

/-- In the code as it is every kind of failure but exit status 0 puts the task's role into
    ERROR whatever the environment's state is at that instant, and no kind requests a
    transition on behalf of a non-critical task: the hypotheses `Kind.drives` / `Kind.quiet`
    of the `_partial` theorems are theorems. -/
theorem C03_every_failure_drives_code (k : Kind) (st : St) :
    (k.exitZero = false → k.drives codeCfg st = true) ∧ k.quiet codeCfg st false = true :=
  ⟨drives_code k st, quiet_code k st⟩

/-- **Holds for the code as it is**, with the bounds: at most `budget` (≤ budget before + 3 per
    victim + 2) internal steps follow the failure, a run to quiescence exists, and a quiescent
    system is in ERROR (nothing was waiting in the watcher's channel, or the premise of
    `C03_critical_to_error_full`). -/
theorem C03_every_failure_to_error_bounded (s : Sys) (k : Kind) (vs : List (List Nat × Bool))
    (hlive : Live s) (hk : k.exitZero = false) (hcrit : ∃ p r, (p, r) ∈ vs ∧ critLeafAt s.f p = true) :
    let s1 := fail codeCfg k s vs
    (∀ ls, validRun codeCfg s1 ls = true → ls.length ≤ budget s + 3 * vs.length + 2 ∧
      ((s.chan = none ∨ rootHolds codeCfg s1 ls = true) → quiescent (irun codeCfg s1 ls) = true →
        (irun codeCfg s1 ls).env.st = .ERROR)) ∧
    (∃ ls, validRun codeCfg s1 ls = true ∧ quiescent (irun codeCfg s1 ls) = true) := by
  obtain ⟨hb, h, hex⟩ := C03_critical_to_error_buffered codeCfg rfl rfl s k vs hlive (drives_code k s.env.st hk) hcrit
  refine ⟨fun ls hv => ?_, hex⟩
  obtain ⟨h1, h2⟩ := h ls hv
  exact ⟨by omega, h2⟩

/-- What the buffer and `roleAlways` buy: no notification is lost, and every kind but exit status 0 drives in every
    state of the environment; the statement holds of every configuration that has both (without the buffer the
    notification can be dropped, `C03_finding_notify_dropped`; without `roleAlways`:
    `C03_role_must_be_told_in_every_state`). -/
theorem Failure.every_failure_to_error (c : Cfg) (hb : c.buffered = true) (ha : c.roleAlways = true) :
    C03_every_failure_to_error_full c := by
  intro s k vs ls ⟨_, hw, hnr⟩ hk ⟨p, r, hp, hc⟩ hv hch hq
  exact (fail_pending c k s vs ls hw hnr (drives_of_roleAlways c ha k _ hk) ⟨p, r, hp, hc, .inl hb⟩
    (fun _ => .inl hch)).settles hv hq

theorem C03_every_failure_to_error_code : C03_every_failure_to_error_full codeCfg :=
  every_failure_to_error codeCfg rfl rfl

/-- For EVERY system, kind and victim list: a failure learnt through reconciliation IS the
    directly delivered one (same tree, watcher, channel, queues …) — so everything proved
    about `fail` (all the theorems of this file quantify over every `Kind`) holds for it, and
    the premises `drives` / `quiet` / `hard` are the direct kind's. -/
theorem C03_reconciled_as_direct (c : Cfg) (k : Kind) (s : Sys) (vs : List (List Nat × Bool)) :
    fail c k s vs = fail c k.direct s vs ∧
    (∀ st crit, k.drives c st = k.direct.drives c st ∧ k.quiet c st crit = k.direct.quiet c st crit) ∧ k.hard = k.direct.hard := by
  exact ⟨fail_direct c k s vs, fun st crit => by simp [Kind.drives, Kind.quiet, effect_direct], by cases k <;> rfl⟩

/-- **Critical task dead while the core was cut off ⇒ ERROR.** For every live system, every
    terminal state except TASK_FINISHED reported by the master's reconciliation answer
    (TASK_FAILED / LOST / KILLED / ERROR; a whole agent's tasks LOST) about any set of tasks of
    which one is critical, every valid run of internal steps (with
    the premise of `C03_critical_to_error_full` about a stale value in the watcher's channel):
    at most `budget` (≤ budget before + 3 per victim + 2) steps follow, and when none is
    enabled any more the environment is in ERROR; such a run exists. -/
theorem C03_reconciled_critical_to_error (s : Sys) (k : Kind) (vs : List (List Nat × Bool))
    (hrec : k.viaReconciliation = true) (hk : k.hard = true)
    (hlive : Live s) (hcrit : ∃ p r, (p, r) ∈ vs ∧ critLeafAt s.f p = true) :
    let s1 := fail codeCfg k s vs
    (∀ ls, validRun codeCfg s1 ls = true → ls.length ≤ budget s + 3 * vs.length + 2 ∧
      ((s.chan = none ∨ rootHolds codeCfg s1 ls = true) → quiescent (irun codeCfg s1 ls) = true →
        (irun codeCfg s1 ls).env.st = .ERROR)) ∧
    (∃ ls, validRun codeCfg s1 ls = true ∧ quiescent (irun codeCfg s1 ls) = true) :=
  C03_every_failure_to_error_bounded s k vs hlive (hard_not_exitZero k hk) hcrit

/-- The code AS IT WAS (finding internal_error_ignored_unless_running, fixed):
    TASK_INTERNAL_ERROR of a critical task while the environment is CONFIGURED was ignored —
    nothing was enabled afterwards, the environment stayed CONFIGURED. -/
theorem C03_finding_internal_error_ignored_unless_running : ¬ C03_every_failure_to_error_full deviceLegacyCfg := by
  intro h
  have := h wConfigured .INTERNAL [([0, 0], true)] [] wConfigured_live rfl ⟨[0, 0], true, by decide, by decide⟩
    (by decide) rfl (by decide)
  revert this; decide

/-- …and it is exactly the test of the environment's state around the role update that did it:
    with the STOP request already asking for the task's criticality, a role that is told only
    while RUNNING still refutes the statement. -/
theorem C03_role_must_be_told_in_every_state : ¬ C03_every_failure_to_error_full { codeCfg with roleAlways := false } := by
  intro h
  have := h wConfigured .INTERNAL [([0, 0], true)] [] wConfigured_live rfl ⟨[0, 0], true, by decide, by decide⟩
    (by decide) rfl (by decide)
  revert this; decide

/-- The code AS IT WAS (finding internal_error_noncritical_stops_run, fixed):
    TASK_INTERNAL_ERROR of a NON-critical task while RUNNING stopped the run
    (STOP_ACTIVITY was requested whatever the task's criticality). -/
theorem C03_finding_internal_error_noncritical_stops_run : ¬ C03_noncritical_inert_full deviceLegacyCfg := by
  intro h
  have := h wRunning .INTERNAL [0, 1] true [.devStop true true] wRunning_live (by decide) (by decide) (by decide)
  revert this; decide

/-- …and it is exactly the missing look at the task's criticality: with the role told in
    every state, a STOP request that does not ask still refutes the statement. -/
theorem C03_stop_must_ask_criticality : ¬ C03_noncritical_inert_full { codeCfg with stopAsksCritical := false } := by
  intro h
  have := h wRunning .INTERNAL [0, 1] true [.devStop true true] wRunning_live (by decide) (by decide) (by decide)
  revert this; decide

/-- What the four witnesses look like before and after the two repairs of the
    TASK_INTERNAL_ERROR case (the pictures the harness sees on the real core).
    (1) critical task, environment CONFIGURED and idle: was — nothing (role CONFIGURED,
        nothing enabled); is — role and root ERROR, status untouched, the watcher's timer runs,
        environment ERROR, no STOP (no task is RUNNING).
    (2) critical task, START_ACTIVITY in flight with the other task's reply outstanding
        (the environment still reports CONFIGURED): was — ignored, the environment becomes
        RUNNING with a task that has said it is in ERROR; is — START ends, then GO_ERROR: ERROR
        with both end-of-run stamps.
    (3) non-critical task, environment RUNNING: was — STOP_ACTIVITY, environment CONFIGURED; is —
        the task's own role ERROR, nothing enabled, environment RUNNING, root RUNNING.
    (4) unchanged (only the code as it is is evaluated): critical task, environment RUNNING — role
        ERROR, STOP_ACTIVITY requested, then the timer: ERROR with both stamps. -/
theorem C03_internal_error_witness :
    (let a := fail deviceLegacyCfg .INTERNAL wConfigured [([0, 0], true)]
     let b := settle codeCfg 12 (fail codeCfg .INTERNAL wConfigured [([0, 0], true)])
     quiescent a = true ∧ a.env.st = .CONFIGURED ∧ roleStateAt a.f [0, 0] = .CONFIGURED ∧
     quiescent b = true ∧ b.env.st = .ERROR ∧ roleStateAt b.f [0, 0] = .ERROR ∧ rootState b.f = .ERROR ∧
     rootStatus b.f = .ACTIVE ∧ b.stopped = []) ∧
    (let s : Sys := { wConfigured with inflight := some { ev := .START_ACTIVITY, api := true, pending := [([0, 1], .RUNNING)], ok := true } }
     let a := settle deviceLegacyCfg 12 (fail deviceLegacyCfg .INTERNAL s [([0, 0], true)])
     let b := settle codeCfg 16 (fail codeCfg .INTERNAL s [([0, 0], true)])
     Live s ∧ quiescent a = true ∧ a.env.st = .RUNNING ∧
     quiescent b = true ∧ b.env.st = .ERROR ∧ b.transRes = some (true, .RUNNING) ∧
     b.env.vars.soeor ≠ .empty ∧ b.env.vars.eoeor ≠ .empty) ∧
    (let a := settle deviceLegacyCfg 12 (failOne deviceLegacyCfg .INTERNAL wRunning [0, 1] true)
     let b := failOne codeCfg .INTERNAL wRunning [0, 1] true
     quiescent a = true ∧ a.env.st = .CONFIGURED ∧
     quiescent b = true ∧ b.env.st = .RUNNING ∧ roleStateAt b.f [0, 1] = .ERROR ∧ rootState b.f = .RUNNING ∧ b.stopReq = 0) ∧
    (let b := settle codeCfg 16 (fail codeCfg .INTERNAL wRunning [([0, 0], true)])
     (fail codeCfg .INTERNAL wRunning [([0, 0], true)]).stopReq = 1 ∧
     quiescent b = true ∧ b.env.st = .ERROR ∧ b.env.vars.soeor ≠ .empty ∧ b.env.vars.eoeor ≠ .empty) := by
  -- `+kernel`, here and below: closed terms, evaluated by the kernel alone (`decide` runs the elaborator's evaluator first, which is much slower on them)
  refine ⟨by decide, ⟨⟨Or.inl rfl, rfl, fun i hi => by cases hi; decide⟩, by decide +kernel⟩, by decide, by decide +kernel⟩

/-- The licence of the driver's variant "the failure's update of the role was overwritten before
    the root looked" (`failOneLost`; the code's non-atomic `updateTaskState`, open finding
    stale_update_overwrites_error, at instant burst): such a failure leaves the environment
    machine, the watcher and its channel exactly as they were — the system is still `Live`, the
    tree has the same critical leaves — and therefore ONE MORE failure of a critical task, of any
    kind but exit status 0, still takes the environment to ERROR (every valid run, if nothing was
    waiting in the watcher's channel). That
    is the evidence the harness collects (`(again ERROR)`, harness/props/c03/again.go): a core
    whose watcher received the ERROR and then did nothing fails it. -/
theorem C03_overwritten_update_keeps_watcher (k : Kind) (s : Sys) (p : List Nat) (hlive : Live s) :
    let s1 := failOneLost codeCfg k s p
    Live s1 ∧ s1.env = s.env ∧ s1.w = s.w ∧ s1.chan = s.chan ∧ s1.inflight = s.inflight ∧
    (∀ q, critLeafAt s1.f q = critLeafAt s.f q) ∧
    (∀ (k' : Kind) (vs : List (List Nat × Bool)) (ls : List Label), k'.exitZero = false →
      (∃ q r, (q, r) ∈ vs ∧ critLeafAt s.f q = true) → validRun codeCfg (fail codeCfg k' s1 vs) ls = true →
      s.chan = none → quiescent (irun codeCfg (fail codeCfg k' s1 vs) ls) = true →
      (irun codeCfg (fail codeCfg k' s1 vs) ls).env.st = .ERROR) := by
  have hl : Live (failOneLost codeCfg k s p) := hlive
  refine ⟨hl, rfl, rfl, rfl, rfl, failOneLost_critLeafAt codeCfg k s p, ?_⟩
  intro k' vs ls hk hc hv hch hq
  obtain ⟨q, r, hm, hq'⟩ := hc
  exact C03_every_failure_to_error_code _ k' vs ls hl hk ⟨q, r, hm, by rw [failOneLost_critLeafAt]; exact hq'⟩ hv hch hq

/-- LIMIT of `C03_critical_to_error_code`, machine-checked: its premise about the role tree
    cannot be dropped. START_ACTIVITY has ended, the critical task's own reply is still a
    queued `go updateTaskState(RUNNING)`, an older value is still waiting in the watcher's
    channel; the task FAILS (root ERROR, notification dropped: buffer full), then its stale
    reply is applied (leaf RUNNING, root RUNNING again — the unordered goroutines of C11 / C02),
    only then the watcher wakes up: it takes the old value, re-reads a root that no longer
    says ERROR, and stays in its loop. The environment keeps RUNNING. (Not reproduced on the
    real core: it needs the watcher goroutine to sleep through two notifications.) -/
theorem C03_limit_error_overwritten_while_channel_full :
    let s : Sys := { wRunning with chan := some .RUNNING, updq := [([0, 0], .RUNNING)] }
    let s1 := failOne codeCfg .FAILED s [0, 0] true
    let ls : List Label := [.apply 0 true, .take, .look]
    Live s ∧ critLeafAt s.f [0, 0] = true ∧ Kind.FAILED.drives codeCfg s.env.st = true ∧
    rootState s1.f = .ERROR ∧ s1.dropped = 1 ∧
    validRun codeCfg s1 ls = true ∧ quiescent (irun codeCfg s1 ls) = true ∧ (irun codeCfg s1 ls).env.st = .RUNNING ∧
    rootState (irun codeCfg s1 ls).f = .RUNNING ∧ rootHolds codeCfg s1 ls = false := by
  refine ⟨⟨Or.inr rfl, rfl, fun i hi => by cases hi⟩, ?_⟩
  decide

/-- An environment as `CreateEnvironment` / the last `ControlEnvironment` hands it over:
    CONFIGURED or RUNNING, nothing of RECOVER in flight, nothing in the watcher's channel, the
    watcher goroutine in its loop (`Watch.parked`) — or only just CREATED by `subscribeToWfState`
    (`Watch.starting`: `go func() { … }()` has been executed, the goroutine has not run yet).
    Command replies of the transition that has just ended may still be queued
    `go updateTaskState` goroutines: `updq` is ARBITRARY. -/
def Fresh (s : Sys) : Prop :=
  (s.env.st = .CONFIGURED ∨ s.env.st = .RUNNING) ∧ (s.w = .parked ∨ s.w = .starting) ∧ s.chan = none ∧ NoRecover s

/-- The watcher goroutine had subscribed before the task failed (excluded hypothesis of
    `C03_created_critical_to_error_partial`; the driver reports an observation that only a
    later subscription explains as `stale_update_overwrites_error`). -/
def watcherSubscribed (s : Sys) : Bool := decide (s.w = .parked)

/-- FULL-STRENGTH statement for an environment that has only just been handed over: every
    fresh system, every kind that drives, every set of victims with a critical one, EVERY
    valid run of internal steps (stale state updates of the creation applied at any moment,
    the watcher goroutine starting at any moment) — once nothing more can happen the
    environment is in ERROR. FALSE of the code: `C03_finding_stale_update_overwrites_error`. -/
def C03_created_critical_to_error_full (c : Cfg) : Prop :=
  ∀ (s : Sys) (k : Kind) (vs : List (List Nat × Bool)) (ls : List Label),
    Fresh s → k.drives c s.env.st = true → (∃ p r, (p, r) ∈ vs ∧ critLeafAt s.f p = true) →
    validRun c (fail c k s vs) ls = true →
    quiescent (irun c (fail c k s vs) ls) = true →
    (irun c (fail c k s vs) ls).env.st = .ERROR

/-- One critical task; NewEnvironment has returned CONFIGURED; the CONFIGURE reply's
    `go updateTaskState("CONFIGURED")` has not run yet (the role still says STANDBY), the
    watcher goroutine has been created and has not run yet. -/
def wFresh : Sys :=
  { f := .agg .STANDBY .ACTIVE (.leaf false true .STANDBY .ACTIVE .nil) .nil,
    env := { st := .CONFIGURED }, w := .starting, updq := [([0, 0], .CONFIGURED)] }

theorem wFresh_fresh : Fresh wFresh := ⟨Or.inl rfl, Or.inr rfl, rfl, fun i hi => by cases hi⟩

/-- **Finding stale_update_overwrites_error** (seen on the real core under load; schedule
    forced in a scratch copy gives the same picture): the executor of the only, critical, task
    is lost right after the creation. `HandleExecutorFailed`'s goroutine marks the role ERROR /
    INACTIVE — nobody is subscribed yet, the root's ERROR goes nowhere; the CONFIGURE reply's
    stale `go updateTaskState("CONFIGURED")` then overwrites the role (root CONFIGURED again);
    the watcher goroutine starts, reads a root that says CONFIGURED and waits for ever. The
    environment stays CONFIGURED with its critical task dead. -/
theorem C03_finding_stale_update_overwrites_error : ¬ C03_created_critical_to_error_full codeCfg := by
  intro h
  have := h wFresh .EXEC0 [([0, 0], true)] [.apply 0 true, .subscribe] wFresh_fresh (by decide)
    ⟨[0, 0], true, by decide, by decide⟩ (by decide) (by decide)
  revert this; decide

/-- What exactly the two orders leave behind, and what saves the environment when the watcher
    HAS subscribed: (1) failure, stale update, subscription: role and root CONFIGURED, status
    INACTIVE, watcher parked for ever, environment CONFIGURED; (2) failure, subscription, stale
    update: the watcher finds the root in ERROR and returns AT ONCE without touching the
    environment (`subscribeStep`), then the role is overwritten: same picture, watcher gone;
    (3) the same system with the watcher in its loop: the ERROR waits in its channel, the
    stale update overwrites the role all the same, and the environment still ends in ERROR
    (root and role saying CONFIGURED — observed on the real core under load, 8 of ~19300 one-task worlds). -/
theorem C03_stale_update_witness :
    (let s1 := fail codeCfg .EXEC0 wFresh [([0, 0], true)]
     let e := irun codeCfg s1 [.apply 0 true, .subscribe]
     roleStateAt s1.f [0, 0] = .ERROR ∧ rootState s1.f = .ERROR ∧ s1.chan = none ∧ s1.w = .starting ∧
     quiescent e = true ∧ e.env.st = .CONFIGURED ∧ roleStateAt e.f [0, 0] = .CONFIGURED ∧ rootState e.f = .CONFIGURED ∧
     rootStatus e.f = .INACTIVE ∧ e.w = .parked ∧ e.chan = none) ∧
    (let s1 := fail codeCfg .EXEC0 wFresh [([0, 0], true)]
     let e := irun codeCfg s1 [.subscribe, .apply 0 true]
     validRun codeCfg s1 [.subscribe, .apply 0 true] = true ∧
     quiescent e = true ∧ e.env.st = .CONFIGURED ∧ roleStateAt e.f [0, 0] = .CONFIGURED ∧ rootState e.f = .CONFIGURED ∧ e.w = .gone) ∧
    (let s1 := fail codeCfg .EXEC0 { wFresh with w := .parked } [([0, 0], true)]
     let ls : List Label := [.apply 0 true, .take, .look, .timer]
     s1.chan = some .ERROR ∧ validRun codeCfg s1 ls = true ∧ quiescent (irun codeCfg s1 ls) = true ∧
     (irun codeCfg s1 ls).env.st = .ERROR ∧ roleStateAt (irun codeCfg s1 ls).f [0, 0] = .CONFIGURED ∧
     rootState (irun codeCfg s1 ls).f = .CONFIGURED) := by
  decide

/-- What IS proved for a fresh environment: if the watcher goroutine had subscribed before the
    task failed (`watcherSubscribed`), then — WHATEVER stale state updates of the creation are
    still queued and whenever they are applied — every valid run has at most `budget` steps and,
    once nothing more can happen, the environment is in ERROR; such a run exists. (A stale
    update that overwrites the dead task's role after the ERROR was put into the watcher's
    channel is harmless for the environment: the watcher acts on the value it received.) -/
theorem C03_created_critical_to_error_partial (s : Sys) (k : Kind) (vs : List (List Nat × Bool))
    (hf : Fresh s) (hsub : watcherSubscribed s = true) (hk : k.drives codeCfg s.env.st = true)
    (hcrit : ∃ p r, (p, r) ∈ vs ∧ critLeafAt s.f p = true) :
    let s1 := fail codeCfg k s vs
    (∀ ls, validRun codeCfg s1 ls = true → ls.length ≤ budget s1 ∧
      (quiescent (irun codeCfg s1 ls) = true → (irun codeCfg s1 ls).env.st = .ERROR)) ∧
    (∃ ls, validRun codeCfg s1 ls = true ∧ quiescent (irun codeCfg s1 ls) = true) := by
  obtain ⟨hst, _, hch, hnr⟩ := hf
  have hw : s.w = .parked := by simpa [watcherSubscribed] using hsub
  obtain ⟨_, h2, h3⟩ := C03_critical_to_error_buffered codeCfg rfl rfl s k vs ⟨hst, hw, hnr⟩ hk hcrit
  refine ⟨fun ls hv => ?_, h3⟩
  obtain ⟨a, b⟩ := h2 ls hv
  exact ⟨a, b (Or.inl hch)⟩

/-- LIMIT, machine-checked; reproduced on the real core only with the schedule forced (a
    sleep at the head of the watcher goroutine in a scratch copy), never seen otherwise: the
    stale update is not needed. A critical task that fails between the end of the creation and
    the first run of the watcher goroutine leaves the root in ERROR; the goroutine then reads
    `wf.GetState() == ERROR`, skips its loop and returns: the environment stays CONFIGURED for
    ever, the root role saying ERROR. So "no stale update pending" is NOT a sufficient
    hypothesis for `C03_created_critical_to_error_full`; `watcherSubscribed` is. -/
theorem C03_limit_watcher_subscribes_after_failure :
    let s : Sys := { wConfigured with w := .starting }
    let s1 := failOne codeCfg .FAILED s [0, 0] true
    Fresh s ∧ s.updq = [] ∧ critLeafAt s.f [0, 0] = true ∧ Kind.FAILED.drives codeCfg s.env.st = true ∧
    validRun codeCfg s1 [.subscribe] = true ∧ quiescent (irun codeCfg s1 [.subscribe]) = true ∧
    (irun codeCfg s1 [.subscribe]).env.st = .CONFIGURED ∧ rootState (irun codeCfg s1 [.subscribe]).f = .ERROR ∧
    (irun codeCfg s1 [.subscribe]).w = .gone := by
  refine ⟨⟨Or.inl rfl, Or.inr rfl, rfl, fun i hi => by cases hi⟩, ?_⟩
  decide

/-- Non-vacuity of `C03_created_critical_to_error_partial`: the fresh one-task system with the
    watcher subscribed and the CONFIGURE reply's update still queued; the wall-clock schedule
    ends in ERROR. -/
example :
    let s : Sys := { wFresh with w := .parked }
    let e := settle codeCfg 12 (fail codeCfg .EXEC0 s [([0, 0], true)])
    Fresh s ∧ watcherSubscribed s = true ∧ s.updq ≠ [] ∧ Kind.EXEC0.drives codeCfg s.env.st = true ∧ critLeafAt s.f [0, 0] = true ∧
    quiescent e = true ∧ e.env.st = .ERROR := by
  refine ⟨⟨Or.inl rfl, Or.inl rfl, rfl, fun i hi => by cases hi⟩, ?_⟩
  decide

/-- Non-vacuity of the theorems on realistic systems: a critical task FAILS while
    STOP_ACTIVITY is in flight with one reply outstanding; the wall-clock schedule (`settle`)
    ends in ERROR with both stamps set — on the unbuffered channel with the watcher at its
    receive, and on the buffered one wherever the watcher is. -/
example :
    let s : Sys := { wRunning with inflight := some { ev := .STOP_ACTIVITY, api := true, pending := [([0, 1], .CONFIGURED)], ok := true } }
    let s1 := settle legacyCfg 10 (failOne legacyCfg .FAILED s [0, 0] true)
    let s2 := settle codeCfg 12 (failOne codeCfg .FAILED s [0, 0] false)
    Live s ∧ critLeafAt s.f [0, 0] = true ∧ Kind.FAILED.drives codeCfg s.env.st = true ∧
    quiescent s1 = true ∧ s1.env.st = .ERROR ∧ s1.env.vars.soeor ≠ .empty ∧ s1.env.vars.eoeor ≠ .empty ∧
    quiescent s2 = true ∧ s2.env.st = .ERROR ∧ s2.env.vars.soeor ≠ .empty ∧ s2.env.vars.eoeor ≠ .empty := by
  refine ⟨⟨Or.inr rfl, rfl, fun i hi => by cases hi; decide⟩, ?_⟩
  decide

/-- With a stale value waiting in the channel the ERROR notification is dropped, yet the re-read of the
    root arms the watcher (premise `rootHolds` satisfied). -/
example :
    let s : Sys := { wRunning with chan := some .RUNNING }
    let s1 := failOne codeCfg .FAILED s [0, 0] true
    let ls : List Label := [.take, .look, .timer]
    Live s ∧ s1.dropped = 1 ∧ s1.chan = some .RUNNING ∧ validRun codeCfg s1 ls = true ∧ rootHolds codeCfg s1 ls = true ∧
    quiescent (irun codeCfg s1 ls) = true ∧ (irun codeCfg s1 ls).env.st = .ERROR := by
  refine ⟨⟨Or.inr rfl, rfl, fun i hi => by cases hi⟩, ?_⟩
  decide

/-- Non-vacuity of `C03_reconciled_critical_to_error`: the critical task of a RUNNING
    environment is reported TASK_LOST by the reconciliation answer; a whole agent (the critical
    and the non-critical task) is; the wall-clock schedule ends in ERROR with both stamps
    set, the surviving RUNNING task is sent STOP. -/
example :
    let s1 := settle codeCfg 12 (fail codeCfg .RLOST wRunning [([0, 0], false)])
    let s2 := settle codeCfg 12 (fail codeCfg .RAGENT wRunning [([0, 1], true), ([0, 0], true)])
    Live wRunning ∧ Kind.RLOST.viaReconciliation = true ∧ Kind.RLOST.hard = true ∧ critLeafAt wRunning.f [0, 0] = true ∧
    quiescent s1 = true ∧ s1.env.st = .ERROR ∧ s1.env.vars.soeor ≠ .empty ∧ s1.env.vars.eoeor ≠ .empty ∧
    s1.stopped = [[0, 1]] ∧ roleStateAt s1.f [0, 0] = .ERROR ∧
    quiescent s2 = true ∧ s2.env.st = .ERROR ∧ s2.stopped = [] := by
  refine ⟨wRunning_live, ?_⟩
  decide

/-- `codeWalk` IS the shape of HandleExecutorFailed / HandleAgentFailed: `updateTaskState("ERROR")`
    and the parent's `UpdateStatus(INACTIVE)` sit unconditionally (the latter under one `!= nil`
    test of the parent) in the body of a `range` loop over the snapshot `m.roster.filtered(…)`,
    and no statement of that body (function literals — the per-task goroutine — not entered)
    can leave the iteration: every entry of the snapshot gets its body, whatever the other
    entries are. A walk whose body returns / breaks at some entry makes this theorem false. -/
theorem C03_lost_walk_is_code :
    Gen.C03.execWalkPerTask = codeWalk.perTask ∧ Gen.C03.agentWalkPerTask = codeWalk.perTask := by
  decide

/-- **Seen from one environment, the walk over the roster is `fail` on that environment's own
    victims** — for every world, kind, snapshot (in every order: the per-task goroutines are
    unordered) and environment; and entries that are not this environment's — tasks of OTHER
    environments, tasks WITHOUT a parent role — change nothing for it wherever they stand in the
    snapshot: before, between or after its own. Hence every theorem of this file about `fail`
    (they quantify over every victim list) is a theorem about every environment of a world. -/
theorem C03_roster_walk_is_fail (c : Cfg) (k : Kind) (W : World) (e : Nat) (ts : List (Nat × RTask × Bool)) :
    (hitAll codeWalk c k W ts).envs[e]? = (W.envs[e]?).map (fun s => fail c k s (victimsFor e ts)) ∧
    (∀ a x b, ts = a ++ x ++ b → (∀ y ∈ x, y.2.1.owner ≠ some e) →
      (hitAll codeWalk c k W ts).envs[e]? = (hitAll codeWalk c k W (a ++ b)).envs[e]?) := by
  refine ⟨hitAll_env c k e ts W, ?_⟩
  intro a x b hts hx
  subst hts
  rw [hitAll_env, hitAll_env]
  simp only [victimsFor_append, victimsFor_foreign e x hx, List.append_nil]

/-- FULL-STRENGTH statement per environment, parameterised by the walk: every world (any number
    of environments, any roster), every kind that drives, every snapshot, every environment `e`
    that is live and has a critical task among the entries of the snapshot, every valid run of
    internal steps of ALL environments interleaved in any way (premise about a stale value in
    `e`'s watcher channel as in `C03_critical_to_error_full`): once nothing is enabled in any
    environment, `e` is in ERROR. TRUE for the code (`C03_roster_critical_to_error_code`), FALSE
    for a walk that ends at an entry without a parent (`C03_walk_must_cover_every_task`). -/
def C03_roster_critical_to_error_full (wk : Walk) (c : Cfg) : Prop :=
  ∀ (W : World) (k : Kind) (ts : List (Nat × RTask × Bool)) (e : Nat) (s : Sys) (ls : List (Nat × Label)),
    W.envs[e]? = some s → Live s → k.drives c s.env.st = true →
    (∃ i t r, (i, t, r) ∈ ts ∧ t.owner = some e ∧ critLeafAt s.f t.path = true) →
    wvalid c (hitAll wk c k W ts) ls = true →
    (s.chan = none ∨ rootHolds c (fail c k s (victimsFor e ts)) (labelsOf e ls) = true) →
    wquiescent (wrun c (hitAll wk c k W ts) ls) = true →
    ∃ s', (wrun c (hitAll wk c k W ts) ls).envs[e]? = some s' ∧ s'.env.st = .ERROR

/-- The same for the code as it is, with the bounds: after the walk, environment `e` is `fail` on
    its own victims; in every valid run of the world `e` takes at most `budget` (≤ budget before + 3 per entry of
    the snapshot + 2) steps; a quiescent world has `e` in ERROR; and a run that brings `e` to
    rest exists (the other environments need not move) — in ERROR if nothing was waiting in its
    watcher's channel. -/
theorem C03_roster_critical_to_error (W : World) (k : Kind) (ts : List (Nat × RTask × Bool)) (e : Nat) (s : Sys)
    (hs : W.envs[e]? = some s) (hlive : Live s) (hk : k.drives codeCfg s.env.st = true)
    (hcrit : ∃ i t r, (i, t, r) ∈ ts ∧ t.owner = some e ∧ critLeafAt s.f t.path = true) :
    let W1 := hitAll codeWalk codeCfg k W ts
    W1.envs[e]? = some (fail codeCfg k s (victimsFor e ts)) ∧
    (∀ ls, wvalid codeCfg W1 ls = true → (labelsOf e ls).length ≤ budget s + 3 * ts.length + 2 ∧
      ((s.chan = none ∨ rootHolds codeCfg (fail codeCfg k s (victimsFor e ts)) (labelsOf e ls) = true) →
        wquiescent (wrun codeCfg W1 ls) = true →
        ∃ s', (wrun codeCfg W1 ls).envs[e]? = some s' ∧ s'.env.st = .ERROR)) ∧
    (∃ ls s', wvalid codeCfg W1 ls = true ∧ (wrun codeCfg W1 ls).envs[e]? = some s' ∧ quiescent s' = true ∧
      (s.chan = none → s'.env.st = .ERROR)) := by
  have h1 : (hitAll codeWalk codeCfg k W ts).envs[e]? = some (fail codeCfg k s (victimsFor e ts)) := by
    rw [hitAll_env, hs]; rfl
  obtain ⟨i, t, r, hm, ho, hc⟩ := hcrit
  obtain ⟨hb, hall, hex⟩ := C03_critical_to_error_buffered codeCfg rfl rfl s k (victimsFor e ts) hlive hk
    ⟨t.path, r, (mem_victimsFor e ts t.path r).mpr ⟨i, t, hm, ho, rfl⟩, hc⟩
  have hlen := victimsFor_length_le e ts
  refine ⟨h1, fun ls hv => ?_, ?_⟩
  · obtain ⟨hl, herr⟩ := hall (labelsOf e ls) (wvalid_env codeCfg e ls _ _ h1 hv)
    refine ⟨by omega, fun hprem hq => ?_⟩
    have hrun : (wrun codeCfg (hitAll codeWalk codeCfg k W ts) ls).envs[e]? =
        some (irun codeCfg (fail codeCfg k s (victimsFor e ts)) (labelsOf e ls)) := by
      rw [wrun_env, h1]; rfl
    exact ⟨_, hrun, herr hprem (wquiescent_env _ e _ hrun hq)⟩
  · obtain ⟨ls, hv, hq⟩ := hex
    have hrun : (wrun codeCfg (hitAll codeWalk codeCfg k W ts) (ls.map (fun l => (e, l)))).envs[e]? =
        some (irun codeCfg (fail codeCfg k s (victimsFor e ts)) ls) := by
      rw [wrun_env, h1, labelsOf_map]; rfl
    exact ⟨_, _, wvalid_lift codeCfg e ls _ _ h1 hv, hrun, hq, fun hch => ((hall ls hv).2) (Or.inl hch) hq⟩

/-- **Every live environment with a failed critical task goes to ERROR — whatever else is in
    the roster.** The full-strength statement holds for the walk of the code. -/
theorem C03_roster_critical_to_error_code : C03_roster_critical_to_error_full codeWalk codeCfg := by
  intro W k ts e s ls hs hlive hk hcrit hv hprem hq
  exact ((C03_roster_critical_to_error W k ts e s hs hlive hk hcrit).2.1 ls hv).2 hprem hq

/-- The roster statement with no hypothesis about the kind: in the code as it is, every kind of
    failure but exit status 0 — TASK_INTERNAL_ERROR in any environment state included — of a
    critical task of a live environment of the world (nothing waiting in its watcher's channel)
    brings THAT environment to ERROR, under every interleaving of the internal steps of all
    environments. -/
theorem C03_roster_every_failure_to_error_code (W : World) (k : Kind) (ts : List (Nat × RTask × Bool)) (e : Nat) (s : Sys)
    (ls : List (Nat × Label)) (hs : W.envs[e]? = some s) (hlive : Live s) (hk : k.exitZero = false)
    (hcrit : ∃ i t r, (i, t, r) ∈ ts ∧ t.owner = some e ∧ critLeafAt s.f t.path = true)
    (hv : wvalid codeCfg (hitAll codeWalk codeCfg k W ts) ls = true) (hch : s.chan = none)
    (hq : wquiescent (wrun codeCfg (hitAll codeWalk codeCfg k W ts) ls) = true) :
    ∃ s', (wrun codeCfg (hitAll codeWalk codeCfg k W ts) ls).envs[e]? = some s' ∧ s'.env.st = .ERROR :=
  C03_roster_critical_to_error_code W k ts e s ls hs hlive (drives_code k s.env.st hk) hcrit hv (Or.inl hch) hq

/-- An environment none of whose tasks is in the snapshot is not touched by the failure — under
    ANY walk — and its part of every later run of the world is what it would have been. -/
theorem C03_roster_untouched_env (wk : Walk) (c : Cfg) (k : Kind) (W : World) (ts : List (Nat × RTask × Bool)) (e : Nat)
    (h : ∀ x ∈ ts, x.2.1.owner ≠ some e) :
    (hitAll wk c k W ts).envs[e]? = W.envs[e]? ∧
    (∀ ls, (wrun c (hitAll wk c k W ts) ls).envs[e]? = (W.envs[e]?).map (fun s => irun c s (labelsOf e ls))) := by
  have h1 := hitAll_env_untouched wk c k e ts h W
  exact ⟨h1, fun ls => by rw [wrun_env, h1]⟩

/-- **An environment none of whose CRITICAL tasks failed stays where it is**: if the entries of
    the snapshot that belong to `e` are all non-critical (and the kind queues no STOP for a
    non-critical task — in the code as it is no kind does: `C03_roster_noncritical_inert_code`), then
    after the walk `e`'s environment machine, watcher, channel, mutex holder and queued requests
    are what they were, what its top-level role reports is unchanged, exactly the same internal
    steps are enabled, and `e` is at rest iff it was — whatever happened to the other environments and to the tasks of nobody. -/
theorem C03_roster_noncritical_inert (c : Cfg) (k : Kind) (W : World) (ts : List (Nat × RTask × Bool)) (e : Nat) (s : Sys)
    (hs : W.envs[e]? = some s)
    (hplain : ∀ i t r, (i, t, r) ∈ ts → t.owner = some e → plainLeafAt s.f t.path = true)
    (hq : k.quiet c s.env.st false = true) :
    ∃ s1, (hitAll codeWalk c k W ts).envs[e]? = some s1 ∧
      s1.env = s.env ∧ s1.w = s.w ∧ s1.chan = s.chan ∧ s1.inflight = s.inflight ∧ s1.stopReq = s.stopReq ∧
      S s1.f = S s.f ∧ (∀ l, enabled s1 l = enabled s l) ∧ quiescent s1 = quiescent s := by
  obtain ⟨f', ro, hS, _, h⟩ := fail_noncrit c k s (victimsFor e ts) (fun p r hm => by
    obtain ⟨i, t, h1, h2, h3⟩ := (mem_victimsFor e ts p r).mp hm
    rw [← h3]; exact plain_not_crit s.f t.path (hplain i t r h1 h2)) hq
  refine ⟨fail c k s (victimsFor e ts), by rw [hitAll_env, hs]; rfl, ?_⟩
  rw [h]
  exact ⟨rfl, rfl, rfl, rfl, rfl, hS, enabled_tree s f' ro, rfl⟩

/-- The same for the code as it is with NO hypothesis about the kind: whatever fails — also a
    non-critical task announcing TASK_INTERNAL_ERROR while its environment is RUNNING. -/
theorem C03_roster_noncritical_inert_code (k : Kind) (W : World) (ts : List (Nat × RTask × Bool)) (e : Nat) (s : Sys)
    (hs : W.envs[e]? = some s)
    (hplain : ∀ i t r, (i, t, r) ∈ ts → t.owner = some e → plainLeafAt s.f t.path = true) :
    ∃ s1, (hitAll codeWalk codeCfg k W ts).envs[e]? = some s1 ∧
      s1.env = s.env ∧ s1.w = s.w ∧ s1.chan = s.chan ∧ s1.inflight = s.inflight ∧ s1.stopReq = s.stopReq ∧
      S s1.f = S s.f ∧ (∀ l, enabled s1 l = enabled s l) ∧ quiescent s1 = quiescent s :=
  C03_roster_noncritical_inert codeCfg k W ts e s hs hplain (quiet_code k s.env.st)

/-- What the per-task body does to an entry WITHOUT a parent role: no environment is touched;
    the entry's own state/status change as `looseEffect` says (executor / agent lost: ERROR,
    INACTIVE), owner, parent path, agent and executor of the entry stay; every other entry of
    the roster is unchanged. -/
theorem C03_roster_loose_entry (c : Cfg) (k : Kind) (W : World) (i : Nat) (t : RTask) (r : Bool) (h : t.owner = none) :
    (hit c k W i t r).envs = W.envs ∧
    (hit c k W i t r).roster[i]? = (W.roster[i]?).map (fun t' => t'.hitLoose k) ∧
    (∀ j, j ≠ i → (hit c k W i t r).roster[j]? = W.roster[j]?) ∧
    (∀ t' : RTask, (t'.hitLoose k).owner = t'.owner ∧ (t'.hitLoose k).path = t'.path ∧
      (t'.hitLoose k).agent = t'.agent ∧ (t'.hitLoose k).exec = t'.exec) ∧
    (∀ t' : RTask, (k = .EXEC ∨ k = .EXEC0 ∨ k = .AGENT ∨ k = .AGENT0) →
      (t'.hitLoose k).st = .ERROR ∧ (t'.hitLoose k).su = .INACTIVE) := by
  refine ⟨by rw [hit_envs, h], ?_, fun j hj => ?_, fun t' => ⟨rfl, rfl, rfl, rfl⟩, ?_⟩
  · rw [hit_roster, h]; exact List.getElem?_modify_eq ..
  · rw [hit_roster, h]; exact List.getElem?_modify_ne _ _ (Ne.symm hj)
  · intro t' hk
    rcases hk with hk | hk | hk | hk <;> subst hk <;> exact ⟨rfl, rfl⟩

/-- Two environments on one agent (each: a critical and a non-critical task) and two tasks of
    nobody, one older than everything, one younger. -/
def wShared : World :=
  { envs := [wConfigured, wRunning],
    roster := [{ owner := none, agent := 1, exec := 1 },
               { owner := some 0, path := [0, 0], agent := 1, exec := 1 }, { owner := some 0, path := [0, 1], agent := 2, exec := 2 },
               { owner := some 1, path := [0, 0], agent := 1, exec := 1 }, { owner := some 1, path := [0, 1], agent := 1, exec := 1 },
               { owner := none, agent := 1, exec := 1 }] }

/-- **The walk must cover every entry**: with a walk that ends at the first entry without a
    parent role, the agent of a critical task is lost, the older task of nobody stands before
    it in the roster — and nothing ever happens: no internal step is enabled, the environment
    keeps reporting CONFIGURED with its critical task dead. (That entry itself was marked
    ERROR / INACTIVE; the walk of the code brings both environments to ERROR: example below.) -/
theorem C03_walk_must_cover_every_task : ¬ C03_roster_critical_to_error_full stoppingWalk codeCfg := by
  intro h
  obtain ⟨s', h1, h2⟩ := h wShared .AGENT0 ((affected (.agent 1) wShared.roster).map (fun x => (x.1, x.2, true))) 0 wConfigured []
    rfl wConfigured_live (by decide) ⟨1, { owner := some 0, path := [0, 0], agent := 1, exec := 1 }, true, by decide, rfl, by decide⟩
    (by decide) (Or.inl rfl) (by decide)
  have h0 : (wrun codeCfg (hitAll stoppingWalk codeCfg .AGENT0 wShared
      ((affected (.agent 1) wShared.roster).map (fun x => (x.1, x.2, true)))) []).envs[0]? = some wConfigured := rfl
  rw [h0] at h1
  cases h1
  revert h2; decide

/-- Non-vacuity of the roster theorems, and the picture the harness sees: agent 1 of `wShared` is
    lost. Snapshot = five entries (both tasks of nobody, the critical task of environment 0, both
    tasks of environment 1). Walk of the code, then every environment under the wall-clock
    schedule: both environments in ERROR (the RUNNING one with both stamps), environment 0's
    task on the other agent untouched, both tasks of nobody ERROR / INACTIVE. The stopping walk
    marks the first entry and leaves everything else as it was. -/
example :
    let ts := (affected (.agent 1) wShared.roster).map (fun x => (x.1, x.2, true))
    let W1 := wsettle codeCfg 16 (worldFail codeWalk codeCfg .AGENT0 wShared (.agent 1))
    let W2 := worldFail stoppingWalk codeCfg .AGENT0 wShared (.agent 1)
    ts.map (·.1) = [0, 1, 3, 4, 5] ∧
    victimsFor 0 ts = [([0, 0], true)] ∧ victimsFor 1 ts = [([0, 0], true), ([0, 1], true)] ∧
    wquiescent W1 = true ∧ W1.envs.map (·.env.st) = [.ERROR, .ERROR] ∧
    W1.envs.map (fun s => (leaves s.f).map (·.2.1)) = [[.ERROR, .CONFIGURED], [.ERROR, .ERROR]] ∧
    ((W1.envs.drop 1).map (fun s => decide (s.env.vars.soeor ≠ .empty) && decide (s.env.vars.eoeor ≠ .empty))) = [true] ∧
    W1.roster.map (fun t => (t.st, t.su)) = [(.ERROR, .INACTIVE), (.STANDBY, .ACTIVE), (.STANDBY, .ACTIVE), (.STANDBY, .ACTIVE),
      (.STANDBY, .ACTIVE), (.ERROR, .INACTIVE)] ∧
    wquiescent W2 = true ∧ W2.envs.map (·.env.st) = [.CONFIGURED, .RUNNING] ∧
    W2.roster.map (fun t => t.st) = [.ERROR, .STANDBY, .STANDBY, .STANDBY, .STANDBY, .STANDBY] := by
  decide +kernel

/-! ## C03: whatever the labels of the messages say — THAT environment goes to ERROR

  Every message about a task carries the label `environmentId` = the environment the executor
  launched the task FOR (stamped once). For a task that was released by that environment
  (destroyed with keepTasks) and belongs to a later one now (claimed: reuseUnlockedTasks), or
  whose executor sends no such label, the label names no environment of the world — or
  another live one. The property speaks about the environment the task belongs to. -/

/-- `codeCfg.envByTask` IS the TASK_INTERNAL_ERROR case of handleDeviceEvent: exactly one call
    `envs.environment(X)` in the case; X is `<t>.GetEnvironmentId()` with `<t>` the variable
    defined once by `….GetTask(…)` (the task's CURRENT environment: its parent role's) and is NOT
    derived from the event's labels (`GetEnvironmentIdFromLabelerType(evt)`, `GetLabels()`); the
    variable that lookup defines is the receiver of every `CurrentState()` and `TryTransition(…)`
    of the case; and the role that is told ERROR is `<t>.GetParent()` of the same `<t>`. Feeding
    the lookup with the id parsed from the labels makes this theorem false. -/
theorem C03_internal_env_is_code :
    Gen.C03.internalEnvLookups = 1 ∧ Gen.C03.internalEnvByTask = codeCfg.envByTask ∧
    Gen.C03.internalEnvByLabel = !codeCfg.envByTask ∧ Gen.C03.internalEnvIsTheOneUsed = true ∧
    Gen.C03.internalRoleOfSameTask = true := by
  decide

/-- **The labels are irrelevant for a core that finds the environment through the task** (every
    configuration with `envByTask`, the code as it is among them): for every world, kind, walk and
    labelled snapshot the result is the unlabelled walk's — so every theorem of this file about
    `hitAll` / `worldFail` holds whatever the messages' labels name; and two messages that differ
    only in their label have the same effect. -/
theorem C03_label_irrelevant (c : Cfg) (hc : c.envByTask = true) (wk : Walk) (k : Kind) (W : World)
    (ts : List (Nat × RTask × Bool × Option Nat)) :
    hitAllTagged wk c k W ts = hitAll wk c k W (untag ts) ∧
    (∀ i t r lab lab', hitTagged c k W i t r lab = hitTagged c k W i t r lab') ∧
    (∀ sc lab, worldFailTagged wk c k W sc lab = worldFail wk c k W sc) := by
  have hall : ∀ ts' : List (Nat × RTask × Bool × Option Nat), ∀ x ∈ ts', k ≠ .INTERNAL ∨ resolveEnv c x.2.1 x.2.2.2 = x.2.1.owner :=
    fun _ x _ => .inr (resolveEnv_byTask c _ _ hc)
  refine ⟨hitAllTagged_eq_hitAll wk c k ts (hall ts) W, fun i t r lab lab' => ?_, fun sc lab => ?_⟩
  · rw [hitTagged_eq_hit c k W i t r lab (.inr (resolveEnv_byTask c t lab hc)),
      hitTagged_eq_hit c k W i t r lab' (.inr (resolveEnv_byTask c t lab' hc))]
  · unfold worldFailTagged worldFail
    rw [hitAllTagged_eq_hitAll wk c k _ (hall _)]
    simp [untag, List.map_map, Function.comp_def]

/-- … in particular for the code as it is. -/
theorem C03_label_irrelevant_code (wk : Walk) (k : Kind) (W : World) (ts : List (Nat × RTask × Bool × Option Nat)) :
    hitAllTagged wk codeCfg k W ts = hitAll wk codeCfg k W (untag ts) :=
  (C03_label_irrelevant codeCfg rfl wk k W ts).1

/-- Why ordinary worlds cannot tell the two ways of resolving apart: as long as every task runs
    in the environment it was launched for (label = owner) — and for every kind but
    TASK_INTERNAL_ERROR whatever the labels — BOTH give the unlabelled walk. -/
theorem C03_own_label_is_harmless (c : Cfg) (wk : Walk) (k : Kind) (W : World) (ts : List (Nat × RTask × Bool × Option Nat))
    (h : k ≠ .INTERNAL ∨ ∀ x ∈ ts, x.2.2.2 = x.2.1.owner) :
    hitAllTagged wk c k W ts = hitAll wk c k W (untag ts) := by
  refine hitAllTagged_eq_hitAll wk c k ts (fun x hx => h.imp id (fun h => ?_)) W
  rw [h x hx, resolveEnv, ite_self]

/-- FULL-STRENGTH statement with labels: every world, every kind that drives, every snapshot whose
    entries carry ARBITRARY labels, every live environment `e` with a critical task among the
    entries (`t.owner = some e`: the task's environment NOW), every interleaving of the internal
    steps of all environments (premise about a stale value in `e`'s watcher channel as in
    `C03_critical_to_error_full`): once nothing is enabled, `e` is in ERROR. TRUE for the code
    (`C03_tagged_critical_to_error_code`), FALSE for a core that looks the environment up by
    the label (`C03_env_must_be_resolved_by_task`). -/
def C03_tagged_critical_to_error_full (c : Cfg) : Prop :=
  ∀ (W : World) (k : Kind) (ts : List (Nat × RTask × Bool × Option Nat)) (e : Nat) (s : Sys) (ls : List (Nat × Label)),
    W.envs[e]? = some s → Live s → k.drives c s.env.st = true →
    (∃ i t r lab, (i, t, r, lab) ∈ ts ∧ t.owner = some e ∧ critLeafAt s.f t.path = true) →
    wvalid c (hitAllTagged codeWalk c k W ts) ls = true →
    (s.chan = none ∨ rootHolds c (fail c k s (victimsFor e (untag ts))) (labelsOf e ls) = true) →
    wquiescent (wrun c (hitAllTagged codeWalk c k W ts) ls) = true →
    ∃ s', (wrun c (hitAllTagged codeWalk c k W ts) ls).envs[e]? = some s' ∧ s'.env.st = .ERROR

/-- **A failed critical task of a live environment drives THAT environment to ERROR, whatever
    the labels of the messages say** — the full-strength statement for the code as it is. -/
theorem C03_tagged_critical_to_error_code : C03_tagged_critical_to_error_full codeCfg := by
  intro W k ts e s ls hs hlive hk hcrit hv hprem hq
  rw [C03_label_irrelevant_code] at hv hq ⊢
  obtain ⟨i, t, r, lab, hm, ho, hc⟩ := hcrit
  exact C03_roster_critical_to_error_code W k (untag ts) e s ls hs hlive hk
    ⟨i, t, r, (mem_untag ts i t r).mpr ⟨lab, hm⟩, ho, hc⟩ hv hprem hq

/-- The same with no hypothesis about the kind (every failure but exit status 0,
    TASK_INTERNAL_ERROR in any environment state and under any label included; nothing waiting in
    `e`'s watcher channel) and the step bound: `e` takes at most budget + 3·|snapshot| + 2 internal
    steps. -/
theorem C03_tagged_every_failure_to_error_code (W : World) (k : Kind) (ts : List (Nat × RTask × Bool × Option Nat))
    (e : Nat) (s : Sys) (ls : List (Nat × Label)) (hs : W.envs[e]? = some s) (hlive : Live s) (hk : k.exitZero = false)
    (hcrit : ∃ i t r lab, (i, t, r, lab) ∈ ts ∧ t.owner = some e ∧ critLeafAt s.f t.path = true)
    (hv : wvalid codeCfg (hitAllTagged codeWalk codeCfg k W ts) ls = true) (hch : s.chan = none) :
    (labelsOf e ls).length ≤ budget s + 3 * ts.length + 2 ∧
    (wquiescent (wrun codeCfg (hitAllTagged codeWalk codeCfg k W ts) ls) = true →
      ∃ s', (wrun codeCfg (hitAllTagged codeWalk codeCfg k W ts) ls).envs[e]? = some s' ∧ s'.env.st = .ERROR) := by
  rw [C03_label_irrelevant_code] at hv ⊢
  obtain ⟨i, t, r, lab, hm, ho, hc⟩ := hcrit
  have h := (C03_roster_critical_to_error W k (untag ts) e s hs hlive (drives_code k s.env.st hk)
    ⟨i, t, r, (mem_untag ts i t r).mpr ⟨lab, hm⟩, ho, hc⟩).2.1 ls hv
  rw [untag_length] at h
  exact ⟨h.1, h.2 (Or.inl hch)⟩

/-- An environment none of whose CRITICAL tasks failed stays where it is — whatever the labels
    name, also the label of another environment's failing task that names THIS environment. -/
theorem C03_tagged_noncritical_inert_code (k : Kind) (W : World) (ts : List (Nat × RTask × Bool × Option Nat)) (e : Nat) (s : Sys)
    (hs : W.envs[e]? = some s)
    (hplain : ∀ i t r lab, (i, t, r, lab) ∈ ts → t.owner = some e → plainLeafAt s.f t.path = true) :
    ∃ s1, (hitAllTagged codeWalk codeCfg k W ts).envs[e]? = some s1 ∧
      s1.env = s.env ∧ s1.w = s.w ∧ s1.chan = s.chan ∧ s1.inflight = s.inflight ∧ s1.stopReq = s.stopReq ∧
      S s1.f = S s.f ∧ (∀ l, enabled s1 l = enabled s l) ∧ quiescent s1 = quiescent s := by
  rw [C03_label_irrelevant_code]
  refine C03_roster_noncritical_inert_code k W (untag ts) e s hs (fun i t r hm ho => ?_)
  obtain ⟨lab, hx⟩ := (mem_untag ts i t r).mp hm
  exact hplain i t r lab hx ho

/-- One CONFIGURED environment with a critical and a non-critical task; both in the roster. -/
def wReused : World :=
  { envs := [wConfigured],
    roster := [{ owner := some 0, path := [0, 0], agent := 1, exec := 1 }, { owner := some 0, path := [0, 1], agent := 1, exec := 1 }] }

/-- **The environment must be found through the task, not through the label**: for a core that
    looks the environment up by the event's label, a critical task whose label names no
    environment (launched for an earlier environment that is gone, or no label at all)
    announces TASK_INTERNAL_ERROR — the lookup fails, the event is dropped, no internal step is
    enabled: the environment keeps reporting CONFIGURED with its critical task in ERROR. -/
theorem C03_env_must_be_resolved_by_task : ¬ C03_tagged_critical_to_error_full { codeCfg with envByTask := false } := by
  intro h
  obtain ⟨s', h1, h2⟩ := h wReused .INTERNAL [(0, { owner := some 0, path := [0, 0], agent := 1, exec := 1 }, true, none)] 0 wConfigured []
    rfl wConfigured_live (by decide) ⟨0, _, true, none, List.mem_cons_self .., rfl, by decide⟩ (by decide) (Or.inl rfl) (by decide)
  have h0 : (wrun { codeCfg with envByTask := false } (hitAllTagged codeWalk { codeCfg with envByTask := false } .INTERNAL wReused
      [(0, { owner := some 0, path := [0, 0], agent := 1, exec := 1 }, true, none)]) []).envs[0]? = some wConfigured := rfl
  rw [h0] at h1
  cases h1
  revert h2; decide

/-- The pictures (non-vacuity of the labelled model). `wReused`, the critical task announces
    TASK_INTERNAL_ERROR with a label that names no environment: the code as it is ends in ERROR
    (role ERROR, status untouched); the label-resolving core does nothing at all. `wShared`
    (environment 0 CONFIGURED, environment 1 RUNNING), label-resolving core: the critical task of
    the RUNNING environment, labelled with the CONFIGURED one — its role is told, environment 1
    goes to ERROR, but the run is not stopped first (transition bodies run in environment 1: one,
    GO_ERROR; the code: two, STOP_ACTIVITY then GO_ERROR);
    the critical task of the CONFIGURED environment, labelled with the RUNNING one — environment 0
    goes to ERROR and the STOP request lands in environment 1: a healthy environment's run is
    stopped because of another environment's task. The code as it is: environment 1 untouched. -/
theorem C03_foreign_label_witness :
    let byLabel : Cfg := { codeCfg with envByTask := false }
    let a := wsettle codeCfg 16 (worldFailTagged codeWalk codeCfg .INTERNAL wReused (.task 0) none)
    let b := worldFailTagged codeWalk byLabel .INTERNAL wReused (.task 0) none
    let c1 := wsettle byLabel 16 (worldFailTagged codeWalk byLabel .INTERNAL wShared (.task 3) (some 0))
    let c0 := wsettle codeCfg 16 (worldFailTagged codeWalk codeCfg .INTERNAL wShared (.task 3) (some 0))
    let d1 := wsettle byLabel 16 (worldFailTagged codeWalk byLabel .INTERNAL wShared (.task 1) (some 1))
    let d0 := wsettle codeCfg 16 (worldFailTagged codeWalk codeCfg .INTERNAL wShared (.task 1) (some 1))
    (wquiescent a = true ∧ a.envs.map (·.env.st) = [.ERROR] ∧
      a.envs.map (fun s => (leaves s.f).map (·.2)) = [[(.ERROR, .ACTIVE), (.CONFIGURED, .ACTIVE)]]) ∧
    (wquiescent b = true ∧ b.envs.map (·.env.st) = [.CONFIGURED] ∧
      b.envs.map (fun s => (leaves s.f).map (·.2)) = [[(.CONFIGURED, .ACTIVE), (.CONFIGURED, .ACTIVE)]]) ∧
    (c1.envs.map (·.env.st) = [.CONFIGURED, .ERROR] ∧ c0.envs.map (·.env.st) = [.CONFIGURED, .ERROR] ∧
      (c1.envs.map (fun s => (s.log.filter isBody).length)) = [0, 1] ∧ (c0.envs.map (fun s => (s.log.filter isBody).length)) = [0, 2]) ∧
    (d1.envs.map (·.env.st) = [.ERROR, .CONFIGURED] ∧ d0.envs.map (·.env.st) = [.ERROR, .RUNNING] ∧
      d1.envs.map (·.stopped) = [[], [[0, 0], [0, 1]]] ∧ d0.envs.map (·.stopped) = [[], []]) := by
  decide +kernel
