/-
  Props/C04 — "A task or detector belongs to at most one environment".

  The property theorems (names `C04_*` are the proof obligations counted in the
  evidence file); the model is Model/Own.lean, the predicates Spec/C04.lean, the
  lemmas Proofs/OwnOps.lean (what each operation does), Proofs/OwnInvariant.lean (`Inv`) and Proofs/OwnInv.lean
  (what every state of a run satisfies); two creations whose DEPLOY sections overlap: Proofs/OwnOverlap.lean.

  The theorems quantify over ALL step sequences (`Own.Step`): creations cut into
  their atomic parts (detector snapshot · pre-deployment cleanup · load, detector
  check and insertion · [claim] · deployment, configuration and failure tail),
  control requests, destroys with every flag, cleanups, with arbitrary oracles
  for everything the code leaves to the scheduler or to the tasks. The model is
  tied to the real core by the correspondence run (harness/props/c04: the real
  core behind the whole-core simulator, monitor Driver/OwnCommon).

  A state carries the configuration it runs under (`Own.Cfg`): `codeCfg` is the code
  as it is, `legacyCfg` the code before the repairs notes/C04.fix-1, C06.fix-1 and C06.fix-2.
  Theorems that do not depend on it are stated for every configuration.

  Two statements do NOT hold of the code as it is; each is kept visible as
  `…_full`, proved under the hypothesis that excludes the offending schedules,
  and refuted on a schedule that the real core was seen to follow:
    * detector exclusivity needs the detector check and the insertion not to
      interleave with another creation's (finding create_race);
    * with reuseUnlockedTasks two creations whose DEPLOY sections overlap can both commit
      an unlocked task both had earmarked (acquireTasks' reuse loop and its final SetParent
      hold no lock): two live environments reference one task, and the loser of the commit
      stays listed in ERROR for ever (finding reuse_claim_race: `C04_overlapping_deploy_full`,
      `C04_overlapping_deploy_partial`, `C04_finding_reuse_claim_race`,
      `C04_claim_race_leaves_zombie`).
  A creation — failed or not — never changes the parent of a task of another live environment
  (`C04_create_spares_foreign_tasks`, `C04_failed_create_keeps_foreign_locked`; go/ast tie
  `C04_failed_create_unparents_only_own_is_code`: the failure branch of acquireTasks un-parents
  only the tasks it launched).
  One statement did not hold and does now (finding reuse_full_claim_crash, fixed):
    * with reuseUnlockedTasks a creation that claimed a task for every one of its
      roles killed the core process: acquireTasks called deployMu.Unlock() outside the
      block that takes the lock. `C04_no_crash_code` proves `C04_no_crash_full codeCfg`,
      `C04_finding_reuse_full_claim_crash` refutes `C04_no_crash_full legacyCfg`, and
      `C04_deployMu_is_code` ties `codeCfg.unlockUnpaired` to the go/ast fact read from
      core/task/manager.go.

  STATUS UPDATES WHOSE OPTIONAL FIELDS ARE ABSENT. A task belongs to its environment until it is released — whatever
  the master tells the core about it in between. `Own.Step.statusUpdate t u` is updateTaskStatus for a running task:
  TASK_RUNNING or a state the switch has no case for, with agent_id / executor_id present or not (an update built by the
  master, e.g. the answer to a reconciliation after a re-subscription, need not carry them; the AliECS executor's always
  do). It is a step like any other, so `C04_inv`, `C04_invariant`, `C04_kill_only_unlocked` quantify over histories that
  contain any number of them. That it changes nothing an observer of ownership can see rests on the two nil guards in
  front of the id copies of updateTaskStatus (Model/TaskIds.lean `Guards`; `C04_status_id_copy_is_code` ties
  `idGuardsInCode` to go/ast facts regenerated on every run, incl. the list of ALL writers of the two ids in package
  core/task); without them (NOT the code) one sparse update un-owns a task of a live environment
  (`C04_unguarded_id_copy_unlocks_owned`), which ordinary operation never shows, the executor's updates being complete.
-/
import ControlModel.Proofs.OwnOverlap
import ControlModel.Gen.C04Facts
import ControlModel.Gen.TaskIdFacts

open Own

/-- **Every task is referenced by at most one live environment, and a task an
    environment references is owned by it or by nobody** — after any sequence of
    steps (any interleaving of the atomic parts of creations with control
    requests, destroys and cleanups, any oracles), with or without
    reuseUnlockedTasks, as long as acquireTasks' claim and commit are not
    separated by other steps (see `C04_claim_race_schedule`). -/
theorem C04_inv (reuse : Bool) (hosts : List Host) (c : Cfg) (steps : List Step) (h : noClaimSteps steps = true) :
    exclusiveTasks (viewOf (run (init reuse hosts c) steps)) = true :=
  exclusiveTasks_of_inv _ (inv_run _ steps h (inv_init reuse hosts c))

/-- The structural invariant behind it (roster ids unique, task ids fresh, environment ids
    never reused, a live environment's tasks carry its id as parent, …). -/
theorem C04_invariant (reuse : Bool) (hosts : List Host) (c : Cfg) (steps : List Step) (h : noClaimSteps steps = true) :
    Inv (run (init reuse hosts c) steps) :=
  inv_run _ steps h (inv_init reuse hosts c)

/-- **Every KILL call names a task that has no owner at that instant**: whatever
    the schedule (claim steps included), every entry of the kill log carries owner `none`. -/
theorem C04_kill_only_unlocked (reuse : Bool) (hosts : List Host) (c : Cfg) (steps : List Step) :
    ∀ e ∈ (run (init reuse hosts c) steps).killLog, e.2 = none :=
  (frame0_run _ steps).killOk (by intro e he; simp [init] at he)

/-- Cleanup and KillTasks never pick a locked task: the tasks they hand to doKillTasks (the two filtered
    lists, written out here as they stand in `cleanup` and `killTasks`, which the first two conjuncts do not
    mention) are all unlocked, whatever the roster looks like. -/
theorem C04_cleanup_spares_owned (s : State) (ids : List TaskId) :
    (∀ t ∈ s.roster.filter (fun t => !t.isLocked), t.isLocked = false) ∧
    (∀ t ∈ s.roster.filter (fun t => !t.isLocked && decide (t.id ∈ ids)), t.isLocked = false) ∧
    (∀ t ∈ (cleanup s).roster, t ∈ s.roster) ∧
    (∀ t ∈ s.roster, t.isLocked = true → (s.roster.map (·.id)).Nodup → t ∈ (cleanup s).roster) :=
  ⟨cleanup_unlocked s, killTasks_unlocked s ids, fun _ ht => mem_doKill_roster List.filter_sublist ht,
    fun t ht hl hnd => (locked_survives_cleanupTasks s [] hnd t ht hl).1⟩

/-- **Release refuses a task locked by another environment** and leaves it exactly as it
    was; a task of the releasing environment (or of nobody) is released. -/
theorem C04_release_foreign_refused (e : EnvId) (t : Task) :
    (t.isLocked = true → t.parent ≠ some e → releaseTask e t = (t, false)) ∧
    ((t.parent = some e ∨ t.isLocked = false) → releaseTask e t = ({ t with parent := none }, true)) := by
  constructor
  · intro hl hp
    simp [releaseTask, releaseOk, hl, hp]
  · intro h
    rcases h with h | h
    · simp [releaseTask, releaseOk, h]
    · simp [releaseTask, releaseOk, h]

/-- At the level of a ReleaseTasks message: tasks locked by another environment are counted as
    release errors and stay untouched. -/
theorem C04_release_message_foreign (s : State) (e : EnvId) (ids : List TaskId) (t : Task) (ht : t ∈ s.roster)
    (hl : t.isLocked = true) (hp : t.parent ≠ some e) :
    t ∈ (releaseTasks s e ids).1.roster ∧ (t.id ∈ ids → (releaseTasks s e ids).2 > 0) := by
  constructor
  · rw [releaseTasks_roster]
    exact List.mem_map.mpr ⟨t, ht, relMap_foreign e ids t hl hp⟩
  · intro hi
    simp only [releaseTasks, gt_iff_lt, List.length_pos_iff_exists_mem]
    refine ⟨t, List.mem_filter.mpr ⟨ht, ?_⟩⟩
    simp [hi, releaseOk, hl, hp]

/-- **Creating an environment that needs a detector already in use fails at the detector
    check and disturbs nothing that is owned**: as one uninterrupted call, the creation
    answers "detector in use", the listing is what it was, every locked task is still in the
    roster unchanged and the master's table was touched only in rows of tasks that were
    unlocked (the pre-deployment cleanup). -/
theorem C04_create_conflict_inert (s : State) (k : EnvId) (spec : EnvSpec) (o : SettleOracle)
    (hinv : Inv s) (hfresh : k ∉ s.used) (hok : spec.bad = .ok)
    (hconf : ∃ d ∈ spec.dets, d ∈ s.activeDets) :
    (create s k spec o).2 = .errDetector ∧
    (create s k spec o).1.envs = s.envs ∧
    (∀ t ∈ s.roster, t.isLocked = true → t ∈ (create s k spec o).1.roster) ∧
    (∀ m ∈ s.master, (∀ t ∈ s.roster, t.id = m.id → t.isLocked = true) → m ∈ (create s k spec o).1.master) := by
  obtain ⟨h1, h2, h3, h4⟩ := create_conflict_fields s k spec o hfresh hok hconf
  refine ⟨h1, h2, ?_, ?_⟩
  · intro t ht hl
    rw [h3]
    exact (C04_cleanup_spares_owned s []).2.2.2 t ht hl hinv.rosterNodup
  · intro m hm hall
    rw [h4]
    refine doKill_master_mem s _ m hm (fun u hu _ _ hid => ?_)
    obtain ⟨hum, hul⟩ := List.mem_filter.mp hu
    rw [hall u hum hid] at hul
    exact Bool.noConfusion hul

/-- The full-strength detector claim: after any step sequence no detector is part of two listed environments. -/
def C04_det_excl_full (c : Cfg) : Prop :=
  ∀ (reuse : Bool) (hosts : List Host) (steps : List Step), exclusiveDets (viewOf (run (init reuse hosts c) steps)) = true

/-- **No detector is part of two listed environments** after any step sequence in which every
    detector check-and-insert happens while no other creation sits between its detector
    snapshot and its own check (`overlapFree`: what holding one lock from the snapshot to the
    insertion would guarantee). -/
theorem C04_det_excl_partial (reuse : Bool) (hosts : List Host) (c : Cfg) (steps : List Step)
    (h : overlapFree (init reuse hosts c) steps = true) :
    exclusiveDets (viewOf (run (init reuse hosts c) steps)) = true :=
  exclusiveDets_of_detOk _ (det_run _ steps h (by intro a ha; simp [init] at ha) (by intro p hp; simp [init] at hp))

/-- Two creations that need detector 0, on different hosts. -/
def raceSpec (cls : Cls) (host : Host) : EnvSpec :=
  { bad := .ok, dets := [0], roles := [{ kind := .task, cls := cls, host := host }] }

/-- Both read the active detectors before either is entered in the map (the schedule the real
    core follows when two NewEnvironment requests arrive together: witness of finding create_race). -/
def raceSchedule : List Step :=
  [.createBegin 0 (raceSpec 1 1), .createBegin 1 (raceSpec 2 2),
   .createCleanup 0, .createCleanup 1, .createInsert 0, .createInsert 1,
   .createSettle 0 {}, .createSettle 1 {}]

/-- **Finding create_race**: CreateEnvironment reads the active detectors at its very
    beginning and enters the environment in the map much later, holding no lock in between:
    on `raceSchedule` both creations succeed and detector 0 is part of two listed
    environments — in the code as it is. -/
theorem C04_finding_create_race : ¬ C04_det_excl_full codeCfg := by
  intro h
  have := h false [1, 2, 3, 4] raceSchedule
  revert this
  decide

/-- The schedule is excluded by the hypothesis of `C04_det_excl_partial`, as it must be. -/
theorem C04_race_schedule_overlaps : overlapFree (init false [1, 2, 3, 4]) raceSchedule = false := by decide

/-- The full-strength claim about the process: no step sequence kills the core. -/
def C04_no_crash_full (c : Cfg) : Prop :=
  ∀ (reuse : Bool) (hosts : List Host) (steps : List Step), (run (init reuse hosts c) steps).crashed = false

/-- **No step sequence kills the core** — the code as it is, with or without
    reuseUnlockedTasks: acquireTasks unlocks deployMu inside the block that locks it, so a
    deployment with nothing to run (every descriptor claimed) touches the mutex not at all. -/
theorem C04_no_crash_code : C04_no_crash_full codeCfg := by
  intro reuse hosts steps
  exact (frame0_run _ steps).crashed.resolve_right fun e => Bool.noConfusion e.2

/-- Without reuseUnlockedTasks no step sequence kills the core, whatever the configuration. -/
theorem C04_no_crash_partial (hosts : List Host) (c : Cfg) (steps : List Step) :
    (run (init false hosts c) steps).crashed = false :=
  ((frame0_run _ steps).crashFree rfl rfl).2

/-- The configuration and the flag never change in a run of the code as it is (`codeCfg`) that does not crash
    (and `run` does nothing after a crash): every state of a run is judged by the configuration it started in. -/
theorem C04_cfg_constant (reuse : Bool) (hosts : List Host) (steps : List Step) :
    (run (init reuse hosts codeCfg) steps).cfg = codeCfg ∧ (run (init reuse hosts codeCfg) steps).reuse = reuse :=
  ⟨(frame0_run _ steps).cfg, (frame0_run _ steps).reuse⟩

/-- **The model's acquireTasks is the code's**: go/ast of core/task/manager.go finds every
    `m.deployMu.Lock()` of acquireTasks followed by its `m.deployMu.Unlock()` in the same
    block, with no way out of the block in between, and no other Lock/Unlock of deployMu in
    the function (`Gen.lockUnlockPaired`). Reverting notes/C04.fix-1.patch breaks this theorem. -/
theorem C04_deployMu_is_code : codeCfg.unlockUnpaired = !Gen.lockUnlockPaired ∧
    Gen.deployMuLocks = 1 ∧ Gen.deployMuUnlocks = 1 := by decide

/-- **The settling of a creation — DEPLOY (acquireTasks: claim of unlocked tasks, launches), CONFIGURE and, if either
    fails, the failure tail (GO_ERROR, forced teardown, KillTasks) — never changes the parent of a task that another
    live environment references**: in every state of every run (`Inv`), for every oracle, with or without
    reuseUnlockedTasks, whether the creation of `k` succeeds or fails, a roster task referenced by a listed
    environment `E ≠ k` has `E` as parent before and after (`Task.owner` is the parent while the task is locked);
    `E`'s record is the very same afterwards. In particular a FAILED creation un-parents no task that another live
    environment references. -/
theorem C04_create_spares_foreign_tasks (s : State) (k : EnvId) (o : SettleOracle) (h : Inv s)
    (E : Env) (hE : E ∈ s.envs) (hne : E.id ≠ k) (hte : E.tearing = false) :
    E ∈ (createSettle s k o).1.envs ∧
    (∀ t ∈ s.roster, t.id ∈ E.tasks → t.parent = some E.id) ∧
    (∀ t' ∈ (createSettle s k o).1.roster, t'.id ∈ E.tasks → t'.parent = some E.id) :=
  -- the settling leaves `E`'s record as it is (`Frame.others`) and keeps the invariant, whose `owned` is the claim
  have hE' := ((frame_keeps k s).createSettle o (.refl k s)).others E hE hne
  ⟨hE', h.owned E hE hte, ((inv_keeps k).createSettle o h).owned E hE' hte⟩

/-- … and a task locked by a live environment is never taken out of the roster by it: the KillTasks of the failure
    tail (like every Cleanup / KillTasks, `C04_cleanup_spares_owned`) only picks unlocked tasks, and a creation claims
    only tasks that are claimable — unlocked — at that moment (`computeClaims_sound`). Stated for the failure tail:
    a task locked by an environment other than `k` is in the roster after `createFail`, exactly as it was. -/
theorem C04_failed_create_keeps_foreign_locked (s : State) (k : EnvId) (ids : List TaskId) (late : Bool) (res : Res)
    (hf : List TaskId) (hnd : (s.roster.map (·.id)).Nodup) (t : Task) (ht : t ∈ s.roster) (hl : t.isLocked = true)
    (hp : t.parent ≠ some k) : t ∈ (createFail s k ids late res hf).1.roster := by
  -- the forced teardown of k leaves t as it is; KillTasks picks unlocked tasks only
  obtain ⟨g, hg, hgp⟩ := teardown_roster (setEnv s k (fun X => { X with state := .ERROR })) k true late hf
  have h1 : t ∈ (teardown (setEnv s k (fun X => { X with state := .ERROR })) k true late hf).1.roster :=
    hg ▸ List.mem_map.mpr ⟨t, ht, (hgp t).2 hl hp⟩
  have hnd1 : ((teardown (setEnv s k (fun X => { X with state := .ERROR })) k true late hf).1.roster.map (·.id)).Nodup := by
    rw [hg, List.map_map, show ((·.id) ∘ g) = (·.id) from funext fun u => (hgp u).1]; exact hnd
  fun_cases createFail s k ids late res hf with
  | case1 => exact h1
  | case2 =>
    exact (locked_survives_doKill _ _ (fun u hu => ⟨(List.mem_filter.mp hu).1, killTasks_unlocked _ ids u hu⟩) hnd1 t h1 hl).1

/-- Environment 0 (one task on host 1) is live; environment 1 (same class, same host, reuseUnlockedTasks on) is
    inserted and about to deploy. -/
def foreignState : State :=
  run (init true [1, 2, 3, 4])
    [.createBegin 0 { bad := .ok, dets := [0], roles := [{ kind := .task, cls := 1, host := 1 }] },
     .createCleanup 0, .createInsert 0, .createSettle 0 {},
     .createBegin 1 { bad := .ok, dets := [1], roles := [{ kind := .task, cls := 1, host := 1 }, { kind := .task, cls := 2, host := 2 }] },
     .createCleanup 1, .createInsert 1]

/-- Non-vacuity of `C04_create_spares_foreign_tasks`: the second creation fails at deployment (its second task dies at
    launch); its failure tail releases and kills what it launched (tasks 2 and 3), and task 1 is environment 0's,
    locked, CONFIGURED, exactly as before. -/
example :
    (foreignState.envs.map (fun E => (E.id, E.tasks))) = [(0, [1]), (1, [])] ∧
    (createSettle foreignState 1 { launches := [(1, { mesos := .terminal, active := false })] }).2 = .errDeploy ∧
    (viewOf (createSettle foreignState 1 { launches := [(1, { mesos := .terminal, active := false })] }).1).roster =
      [{ task := 1, owner := some 0, locked := true, state := some .CONFIGURED }] ∧
    (viewOf (createSettle foreignState 1 { launches := [(1, { mesos := .terminal, active := false })] }).1).envs.map (·.env) = [0] := by
  decide

/-- **The model's failure branch of acquireTasks is the code's**: go/ast of core/task/manager.go finds every
    `SetParent(nil)` of acquireTasks applied to the key of a range over `deployedTasks` — which is only ever
    `make(DeploymentMap)` or `roOutcome.deployed`: the tasks this very call launched — and every SetParent on a key of
    `tasksAlreadyRunning` (the unlocked roster tasks the call had merely earmarked for reuse) carrying a role, under
    `if deploymentSuccess`. A failed acquisition therefore touches the parent of no task it did not launch — in
    particular not of a reuse candidate that another environment has taken over since it was earmarked (the model:
    `C04_create_spares_foreign_tasks`; through the API the window cannot be held open in this code base: a creation that
    claims a task never gets past DEPLOY — so `createSettle` is written; on one schedule, `C04_full_claim_times_out`). -/
theorem C04_failed_create_unparents_only_own_is_code :
    Gen.failedAcquireUnparentsOnlyDeployed = true ∧ Gen.acquireSetParentCounts = (1, 1, 1, 1) := by decide

/-- An environment is destroyed with keepTasks while a second one, with the same task class on
    the same host, is between its pre-deployment cleanup and its acquireTasks. -/
def crashSchedule : List Step :=
  [.createBegin 0 { bad := .ok, dets := [0], roles := [{ kind := .task, cls := 1, host := 1 }] },
   .createCleanup 0, .createInsert 0, .createSettle 0 {},
   .control 0 .RESET [] false,
   .createBegin 1 { bad := .ok, dets := [1], roles := [{ kind := .task, cls := 1, host := 1 }] },
   .createCleanup 1,
   .destroy 0 false false true {},
   .createInsert 1, .createSettle 1 {}]

/-- **Finding reuse_full_claim_crash** (fixed; a statement about the code as it was): with
    reuseUnlockedTasks, acquireTasks skipped `deployMu.Lock()` when every descriptor was
    satisfied by a claimed task, but not the `deployMu.Unlock()` that followed: "fatal error:
    sync: unlock of unlocked mutex" ended the core, and with it every environment. -/
theorem C04_finding_reuse_full_claim_crash : ¬ C04_no_crash_full legacyCfg := by
  intro h
  have := h true [1, 2, 3, 4] crashSchedule
  revert this
  decide

/-- On the same schedule the code as it is survives — and gives the creation up: the claimed
    task got the new environment's role as parent, but the role never learns that its task is
    ACTIVE (no status update comes for a task that is already running), DEPLOY times out, and the
    failure tail releases and kills the task. Seen on the real core (scenario tag
    `fixed-reuse-claim`): with reuseUnlockedTasks a creation that claims anything fails. -/
theorem C04_full_claim_times_out :
    (step (run (init true [1, 2, 3, 4]) (crashSchedule.take 9)) (.createSettle 1 {})).2 = .errDeploy ∧
    (run (init true [1, 2, 3, 4]) crashSchedule).crashed = false ∧
    (viewOf (run (init true [1, 2, 3, 4]) crashSchedule)).envs = [] ∧
    (viewOf (run (init true [1, 2, 3, 4]) crashSchedule)).roster = [] ∧
    (viewOf (run (init true [1, 2, 3, 4]) crashSchedule)).master =
      [{ task := 1, label := 0, mesos := .terminal, killed := true }] := by decide

/-- With the claim of acquireTasks run as a step of its own (it holds no lock), two creations
    can claim the same unlocked task: after both claim steps both pending creations hold task 1.
    Both commit (the second SetParent overwrites the first); in the model — where the wait for
    the workflow to become ACTIVE is part of the settling step — each then times out at DEPLOY
    and is torn down, so no snapshot shows the task under two environments; on the real core
    the two environments are alive side by side, both referencing the task, for the length of
    the deploy timeout. With the settling cut at the DEPLOY sections (`settleOverlapStates`) the model shows that window
    too: `C04_finding_reuse_claim_race`. -/
def claimRaceSchedule : List Step :=
  [.createBegin 0 { bad := .ok, dets := [0], roles := [{ kind := .task, cls := 1, host := 1 }] },
   .createCleanup 0, .createInsert 0, .createSettle 0 {},
   .control 0 .RESET [] false,
   .createBegin 1 { bad := .ok, dets := [1], roles := [{ kind := .task, cls := 1, host := 1 }, { kind := .task, cls := 2, host := 2 }] },
   .createBegin 2 { bad := .ok, dets := [2], roles := [{ kind := .task, cls := 1, host := 1 }, { kind := .task, cls := 3, host := 3 }] },
   .createCleanup 1, .createCleanup 2,
   .destroy 0 false false true {},
   .createInsert 1, .createInsert 2,
   .createClaim 1, .createClaim 2,
   .createSettle 1 {}, .createSettle 2 {}]

theorem C04_claim_race_schedule :
    (run (init true [1, 2, 3, 4]) (claimRaceSchedule.take 14)).creating.map (fun p => (p.id, p.claims)) =
      [(2, some [(0, 1)]), (1, some [(0, 1)])] ∧
    (step (run (init true [1, 2, 3, 4]) (claimRaceSchedule.take 14)) (.createSettle 1 {})).2 = .errDeploy ∧
    (step (run (init true [1, 2, 3, 4]) (claimRaceSchedule.take 15)) (.createSettle 2 {})).2 = .errDeploy ∧
    (viewOf (run (init true [1, 2, 3, 4]) claimRaceSchedule)).envs = [] := by decide

/-- The full-strength claim for creations that overlap in their DEPLOY sections (each environment has its own
    transition mutex; acquireTasks' reuse loop and its final `SetParent` hold no lock): in every state such a pair of
    creations passes through — after the first DEPLOY, after the second, after what follows DEPLOY for either, in either
    order —, from any state of any run of the code as it is with reuseUnlockedTasks, every task is referenced by at most
    one live environment and owned by it or by nobody. -/
def C04_overlapping_deploy_full : Prop :=
  ∀ (hosts : List Host) (steps : List Step) (k1 k2 : EnvId) (o1 o2 : SettleOracle) (firstRest : Bool),
    ∀ st ∈ settleOverlapStates (run (init true hosts codeCfg) steps) k1 k2 o1 o2 firstRest, exclusiveTasks (viewOf st) = true

/-- **It holds when the claims are made inside the DEPLOY sections** (no free-standing claim step before: the reuse loop
    and the commit of one acquireTasks are not separated by the commit of another): the second DEPLOY finds the task the
    first one took locked and does not claim it — every state passed through satisfies the invariant. With or without
    reuseUnlockedTasks, every configuration. -/
theorem C04_overlapping_deploy_partial (reuse : Bool) (hosts : List Host) (c : Cfg) (steps : List Step)
    (h : noClaimSteps steps = true) (k1 k2 : EnvId) (o1 o2 : SettleOracle) (firstRest : Bool) :
    ∀ st ∈ settleOverlapStates (run (init reuse hosts c) steps) k1 k2 o1 o2 firstRest, exclusiveTasks (viewOf st) = true :=
  fun st hst => exclusiveTasks_of_inv st
    (inv_settleOverlapStates _ k1 k2 o1 o2 firstRest (inv_run _ steps h (inv_init reuse hosts c)) st hst)

/-- **Finding reuse_claim_race**: with reuseUnlockedTasks, two creations that both earmarked the unlocked task 1
    (`claimRaceSchedule` up to the two claim steps: acquireTasks' reuse loop holds no lock) both commit it in their
    DEPLOY — the second `SetParent` overwrites the first: environments 1 and 2 are listed side by side, both
    referencing task 1, which is locked by environment 2. Seen on the real core (scenario tag
    `fixed-reuse-claim-overlap`). -/
theorem C04_finding_reuse_claim_race : ¬ C04_overlapping_deploy_full := by
  intro h
  have := h [1, 2, 3, 4] (claimRaceSchedule.take 14) 1 2 {} {} true
  revert this
  decide

/-- … and what it leaves behind for good. Both creations time out at DEPLOY (a claimed role never becomes ACTIVE).
    The failure tail of environment 1, the loser of the commit, runs first: its forced teardown asks for the release of
    task 1, which is locked by environment 2 — a release error; TeardownEnvironment gives up, CreateEnvironment drops the
    error, and environment 1 stays listed, in ERROR, for ever, still referencing task 1. Then the failure tail of
    environment 2 releases task 1 and kills it. End state: one environment left that nobody can use, referencing a task
    that was killed under it; every detector it includes stays taken. (What the real core showed, three runs in four.) -/
theorem C04_claim_race_leaves_zombie :
    (settleOverlapStates (run (init true [1, 2, 3, 4]) (claimRaceSchedule.take 14)) 1 2 {} {} true).map
      (fun st => (viewOf st).envs.map (fun E => (E.env, E.tasks))) =
      [[(1, [1, 2]), (2, [])], [(1, [1, 2]), (2, [1, 3])], [(1, [1, 2]), (2, [1, 3])], [(1, [1, 2])]] ∧
    (settleOverlapStates (run (init true [1, 2, 3, 4]) (claimRaceSchedule.take 14)) 1 2 {} {} true).map
      (fun st => (viewOf st).roster.map (fun r => (r.task, r.owner))) =
      [[(1, some 1), (2, some 1)], [(1, some 2), (2, some 1), (3, some 2)], [(1, some 2), (3, some 2)], []] ∧
    (settleOverlapStates (run (init true [1, 2, 3, 4]) (claimRaceSchedule.take 14)) 1 2 {} {} true).map
      (fun st => (viewOf st).master.map (fun m => m.killed)) =
      [[false, false], [false, false, false], [false, true, false], [true, true, true]] ∧
    (settleOverlapStates (run (init true [1, 2, 3, 4]) (claimRaceSchedule.take 14)) 1 2 {} {} true).map
      (fun st => (viewOf st).envs.map (fun E => E.state)) =
      [[.STANDBY, .STANDBY], [.STANDBY, .STANDBY], [.ERROR, .STANDBY], [.ERROR]] := by decide

/-- The witness violates exactly the hypothesis of `C04_overlapping_deploy_partial`. -/
theorem C04_claim_race_has_claim_steps : noClaimSteps (claimRaceSchedule.take 14) = false := by decide

/-- **The guards of the model are the guards of the code.** In updateTaskStatus both id copies stand in the
    TASK_RUNNING clause, each under `if status.Get…ID() != nil` (go/ast, regenerated on every run), and nothing else in
    package core/task writes `agentId` / `executorId` of a task but HandleAgentFailed / HandleExecutorFailed, which blank
    one of them for the tasks of a lost agent / executor (the model's `Task.lose`). -/
theorem C04_status_id_copy_is_code :
    idGuardsInCode = { agent := Gen.TaskIds.agentIdCopy == "guarded", executor := Gen.TaskIds.executorIdCopy == "guarded" } ∧
    Gen.TaskIds.copiesUnderRunningOnly = true ∧
    Gen.TaskIds.idWriteSites = ["HandleAgentFailed:agentId:blank", "HandleExecutorFailed:executorId:blank",
                                "updateTaskStatus:agentId:status", "updateTaskStatus:executorId:status"] := ⟨rfl, rfl, rfl⟩

/-- **A status update is invisible to ownership.** Whatever it omits (agent_id, executor_id, both, nothing), whatever
    task it names, in ANY state: the listing, every roster row (owner, lock, role state), the active detectors, the
    master's table — the whole observable view — and the KILL log are what they were. -/
theorem C04_status_update_invisible (s : State) (t : TaskId) (u : StatusUpd) :
    viewOf (step s (.statusUpdate t u)).1 = viewOf s ∧ (step s (.statusUpdate t u)).1.killLog = s.killLog := by
  unfold step
  split
  · exact ⟨rfl, rfl⟩
  · exact ⟨view_statusUpdate s t u, rfl⟩

/-- Entry by entry: the roster after the update is the old one with, per entry, the same id, parent, owner and lock;
    an entry that was locked is locked and NOT claimable, an ACTIVE one stays ACTIVE. -/
theorem C04_status_update_keeps_lock (s : State) (x : TaskId) (u : StatusUpd) :
    ∃ g : Task → Task, (statusUpdate idGuardsInCode s x u).roster = s.roster.map g ∧
      ∀ t, (g t).id = t.id ∧ (g t).parent = t.parent ∧ (g t).owner = t.owner ∧ (g t).isLocked = t.isLocked ∧
           (t.isLocked = true → (g t).claimable = false) ∧ (t.active = true → (g t).active = true) := by
  refine ⟨fun t => if decide (t.id = x) && t.agent && t.executor then t.onStatus TaskIds.codeGuards u else t, rfl, ?_⟩
  intro t
  obtain ⟨hid, hpar, _, hlk, hown, _, _, _, _, hact⟩ := statusUpdate_code_entry x u t
  refine ⟨hid, hpar, hown, hlk, fun hl => ?_, hact⟩
  simp only [Task.claimable, hlk, hl, Bool.not_true, Bool.false_and]

/-- **After any status update, sparse or not, Cleanup and KillTasks from elsewhere do not touch an owned task.** In a
    state of a run (`Inv`): a task locked before the update is, after the update AND a following sweep of unowned tasks
    (`ids = []`: Cleanup — the start of every CreateEnvironment, the CleanupTasks RPC) or KillTasks request naming any
    ids, still in the roster, with the same owner, locked, not claimable; its row at the master is untouched and no
    KILL was logged for it. -/
theorem C04_status_then_sweep_spares_owned (s : State) (h : Inv s) (x : TaskId) (u : StatusUpd) (ids : List TaskId)
    (t : Task) (ht : t ∈ s.roster) (hl : t.isLocked = true) :
    (∃ t' ∈ (cleanupTasks (statusUpdate idGuardsInCode s x u) ids).roster,
        t'.id = t.id ∧ t'.owner = t.owner ∧ t'.isLocked = true ∧ t'.claimable = false) ∧
    (∀ m ∈ s.master, m.id = t.id → m ∈ (cleanupTasks (statusUpdate idGuardsInCode s x u) ids).master) ∧
    (∀ e ∈ (cleanupTasks (statusUpdate idGuardsInCode s x u) ids).killLog, e ∈ s.killLog ∨ e.1 ≠ t.id) := by
  obtain ⟨hid, _, _, hlk, hown, _⟩ := statusUpdate_code_entry x u t
  have h1 : Inv (statusUpdate idGuardsInCode s x u) := inv_statusUpdate s x u h
  have hm : (if decide (t.id = x) && t.agent && t.executor then t.onStatus TaskIds.codeGuards u else t)
      ∈ (statusUpdate idGuardsInCode s x u).roster := List.mem_map.mpr ⟨t, ht, rfl⟩
  have hl' := hlk.trans hl
  obtain ⟨a, b, c⟩ := locked_survives_cleanupTasks _ ids h1.rosterNodup _ hm hl'
  refine ⟨⟨_, a, hid, hown, hl', ?_⟩, ?_, ?_⟩
  · simp only [Task.claimable, hl', Bool.not_true, Bool.false_and]
  · intro m hmm hm'; exact b m hmm (hm'.trans hid.symm)
  · exact fun k hk => (c k hk).imp_right fun c2 hh => c2 (hh.trans hid.symm)

/-- **Both guards are needed**: a guard configuration keeps every locked roster entry locked under every status update
    iff it is the code's. -/
theorem C04_id_guards_needed (g : TaskIds.Guards) :
    (∀ (t : Task) (u : StatusUpd), t.isLocked = true → (t.onStatus g u).isLocked = true) ↔ g = idGuardsInCode := by
  rw [show idGuardsInCode = TaskIds.codeGuards from rfl, ← TaskIds.unlocks_none_iff]
  constructor
  · intro h k u
    -- whether an update unlocks does not depend on the locked task (`isLocked_onStatus`): ask a roster entry that has
    -- every field, with TASK_RUNNING for `.running` and any other state for the rest
    have := h { id := 1, cls := 0, host := 1, agent := true, offer := true, executor := true, parent := some 0,
                active := true, state := .CONFIGURED }
      { running := decide (k = .running), agent := u.agent, executor := u.executor } rfl
    rw [isLocked_onStatus _ _ _ rfl, Bool.not_eq_true'] at this
    cases k <;> exact this
  · intro h t u hl
    rw [isLocked_onStatus g u t hl, h]; rfl

/-- A complete update — both optional fields present, what the AliECS executor always sends — is handled alike with
    and without the guards: deployments, transitions and teardowns driven by executor updates cannot tell the
    configurations apart. -/
theorem C04_complete_updates_hide_the_difference (g : TaskIds.Guards) (s : State) (x : TaskId) (r : Bool) :
    statusUpdate g s x (StatusUpd.complete r) = statusUpdate idGuardsInCode s x (StatusUpd.complete r) := by
  have h : ∀ t : Task, t.onStatus g (StatusUpd.complete r) = t.onStatus idGuardsInCode (StatusUpd.complete r) :=
    fun t => onStatus_complete g r t
  simp only [statusUpdate, h]

/-- Environment 0 with one task (task 1, class 1 on host 1), CONFIGURED. -/
def sparseVictim : State :=
  run (init true [1, 2, 3, 4])
    [.createBegin 0 { bad := .ok, dets := [0], roles := [{ kind := .task, cls := 1, host := 1 }] },
     .createCleanup 0, .createInsert 0, .createSettle 0 {}]

/-- A TASK_RUNNING update for task 1 without executor_id (a master-built reconciliation answer). -/
def sparseRunning : StatusUpd := { running := true, agent := true, executor := false }

/-- **Without the guards (NOT the code) one sparse update un-owns a task of a live environment.** On `sparseVictim`:
    with the code's guards nothing moves. With the copies unguarded the task keeps its parent (environment 0 still
    references it, GetTask still names environment 0) but is no longer locked: Spec.C04's frame clause rejects the
    round although nothing was asked of environment 0; the next sweep of unowned tasks — the pre-deployment Cleanup of
    ANY creation, the CleanupTasks RPC — kills it and drops it from the roster while environment 0 is listed and
    references it (`killsUnowned`, the whole round predicate: false); and after a RESET (task in STANDBY) it is
    claimable by another environment's acquireTasks (reuseUnlockedTasks). -/
theorem C04_unguarded_id_copy_unlocks_owned :
    (viewOf sparseVictim).roster = [{ task := 1, owner := some 0, locked := true, state := some .CONFIGURED }] ∧
    viewOf (statusUpdate idGuardsInCode sparseVictim 1 sparseRunning) = viewOf sparseVictim ∧
    viewOf (cleanup (statusUpdate idGuardsInCode sparseVictim 1 sparseRunning)) = viewOf sparseVictim ∧
    (viewOf (statusUpdate TaskIds.noGuards sparseVictim 1 sparseRunning)).roster =
      [{ task := 1, owner := some 0, locked := false, state := none }] ∧
    (viewOf (statusUpdate TaskIds.noGuards sparseVictim 1 sparseRunning)).envs.map (fun E => (E.env, E.tasks)) = [(0, [1])] ∧
    frameOk [] (viewOf sparseVictim) (viewOf (statusUpdate TaskIds.noGuards sparseVictim 1 sparseRunning)) = false ∧
    (viewOf (cleanup (statusUpdate TaskIds.noGuards sparseVictim 1 sparseRunning))).roster = [] ∧
    (viewOf (cleanup (statusUpdate TaskIds.noGuards sparseVictim 1 sparseRunning))).master =
      [{ task := 1, label := 0, mesos := .terminal, killed := true }] ∧
    (cleanup (statusUpdate TaskIds.noGuards sparseVictim 1 sparseRunning)).killLog = [(1, none)] ∧
    killsUnowned (viewOf (statusUpdate TaskIds.noGuards sparseVictim 1 sparseRunning))
      (viewOf (cleanup (statusUpdate TaskIds.noGuards sparseVictim 1 sparseRunning))) = false ∧
    specC04Round [] (viewOf (statusUpdate TaskIds.noGuards sparseVictim 1 sparseRunning))
      (viewOf (cleanup (statusUpdate TaskIds.noGuards sparseVictim 1 sparseRunning))) = false ∧
    (statusUpdate TaskIds.noGuards (step sparseVictim (.control 0 .RESET [] false)).1 1 sparseRunning).roster.map (·.claimable) = [true] ∧
    (statusUpdate idGuardsInCode (step sparseVictim (.control 0 .RESET [] false)).1 1 sparseRunning).roster.map (·.claimable) = [false] := by
  decide

/-- Non-vacuity: the hypotheses of `C04_status_then_sweep_spares_owned` hold of a realistic state (two live
    environments, the update names a task of the first, the sweep is the pre-deployment Cleanup of a third creation),
    the update is sparse, and the step is taken (task 1 is in the roster with both ids). -/
example :
    let s := run (init false [1, 2, 3, 4])
      [.createBegin 0 { bad := .ok, dets := [0], roles := [{ kind := .task, cls := 1, host := 1 }, { kind := .task, cls := 2, host := 2 }] },
       .createCleanup 0, .createInsert 0, .createSettle 0 {},
       .createBegin 1 { bad := .ok, dets := [1], roles := [{ kind := .task, cls := 3, host := 3 }] },
       .createCleanup 1, .createInsert 1, .createSettle 1 {}, .control 0 .START [] false]
    (viewOf s).roster.map (fun r => (r.task, r.owner, r.locked)) = [(1, some 0, true), (2, some 0, true), (3, some 1, true)] ∧
    (viewOf (run s [.statusUpdate 1 { running := true, agent := false, executor := false },
                    .createBegin 2 { bad := .ok, dets := [2], roles := [{ kind := .task, cls := 4, host := 4 }] }, .createCleanup 2, .cleanup,
                    .killIds [1, 2, 3]])).roster = (viewOf s).roster ∧
    (run s [.statusUpdate 1 { running := true, agent := false, executor := false }, .cleanup, .killIds [1, 2, 3]]).killLog = [] := by
  decide
