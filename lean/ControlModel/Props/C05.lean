/-
  Props/C05 — "Tasks are placed only where constraints and resources allow".

  The property theorems (`C05_*` = the proof obligations counted in the evidence
  file); lemmas live in Proofs/PlacementPorts (ranges, draws, resources),
  Proofs/Placement (constraints, one offer, the round), Proofs/PlacementParse
  and Proofs/PlacementStore. The model (Model/Placement.lean)
  follows constraint/attributes.go, constraints.go, rolebase.go getConstraints,
  match.go, taskclass/port/range.go and the OFFERS handler of scheduler.go, and is
  tied to /repo by the correspondence run (harness/props/c05).

  Two functions exist in two behaviours (as coded at the pin / with the fix
  patches notes/C05.fix-satisfy|ranges.patch): `satisfyAsCoded` vs `satisfy`, and
  `parseRanges false` vs `parseRanges true`; a `Mode` says which one the round
  uses (probed from the linked code). The resource bookkeeping of
  makeTaskForMesosResources is a `Cfg` inside the `Mode`: `codeCfg` = the code as
  it is (notes/C05.fix-3/4/5.patch: emptiness test in front of `Min()`, static
  ranges claimed before the draws, cpus and mem subtracted), `legacyCfg` = the
  code as it was; `C05_bookkeeping_is_code` ties `codeCfg` to the source.
  Full-strength clauses are `def …_full (k : Cfg) : Prop`: proved for `codeCfg`
  (`…_code`), refuted for `legacyCfg` on a witness (`C05_finding_*`; the store's clause
  for `keepIfEqualCfg`, `C05_keep_if_equal_goes_stale`), and proved for every configuration
  under the excluded hypothesis (`…_partial`; `C05_port_draw_partial` for the configurations
  without the static claim).
-/
import ControlModel.Gen.PlacementFacts
import ControlModel.Proofs.PlacementParse
import ControlModel.Proofs.Placement
import ControlModel.Proofs.PlacementStore

open Placement

/-- The port floors of the model are the literals in makeTaskForMesosResources
    (re-read from the source on every run): data ports above 8999, control
    ports above 29999. -/
theorem C05_port_floors_are_code : [dataBelow, ctrlBelow] = Gen.Placement.removeEnds := by decide

/-- The bookkeeping configuration of the model is what makeTaskForMesosResources
    does (go/ast facts re-read from scheduler.go on every run): BOTH `X.Min()` calls
    stand behind an `if len(X) == 0 { …; return nil, nil }`; the static ranges
    are subtracted from `remainingResourcesInOffer` before the first draw; cpus
    and mem of the request are subtracted from it as soon as they are in the
    request. Reverting any of the three repairs makes this false. -/
theorem C05_bookkeeping_is_code :
    Gen.Placement.minGuards = [codeCfg.drawChecked, codeCfg.drawChecked] ∧
    Gen.Placement.staticClaimedFirst = codeCfg.staticReserved ∧
    Gen.Placement.scalarsSubtracted = codeCfg.scalarsSubtracted := by decide

/-- Satisfy (intended behaviour) answers yes exactly when there are no constraints, or all hold and
    at least one uses a supported operator. -/
theorem C05_satisfy_iff (as : Attrs) (cts : Constraints) :
    satisfy as cts = true ↔ cts = [] ∨ ((∀ c ∈ cts, holds as c = true) ∧ ∃ c ∈ cts, c.op = 0) := by
  cases cts <;> simp [satisfy]

/-- A positive answer means EVERY constraint holds on the agent. -/
theorem C05_constraints (as : Attrs) (cts : Constraints) (h : satisfy as cts = true) :
    ∀ c ∈ cts, holds as c = true := by
  rcases (C05_satisfy_iff as cts).1 h with rfl | h
  · exact nofun
  · exact h.1

/-- FULL-STRENGTH statement for the loop as it stands in attributes.go — FALSE. -/
def C05_constraints_asCoded_full : Prop :=
  ∀ (as : Attrs) (cts : Constraints), satisfyAsCoded as cts = true → ∀ c ∈ cts, holds as c = true

/-- What the loop as coded computes: on a list that ends with an Equals constraint, that constraint alone decides. -/
theorem C05_asCoded_last_decides (as : Attrs) (xs : Constraints) (c : Constraint) (hc : c.op = 0) :
    satisfyAsCoded as (xs ++ [c]) = holds as c := by
  rw [satisfyAsCoded, satLoop_append, if_pos hc]
  simp

/-- Finding `satisfy_last_constraint_decides`: [machine_id=A, role=flp] is "satisfied" by {machine_id=B, role=flp}. -/
theorem C05_finding_satisfy_last_constraint_decides : ¬ C05_constraints_asCoded_full := by
  intro h
  have := h [("machine_id", "B"), ("role", "flp")] [⟨"machine_id", "A", 0⟩, ⟨"role", "flp", 0⟩] (by decide)
    ⟨"machine_id", "A", 0⟩ (by simp)
  revert this
  decide

/-- The loop as coded is right on every input on which it answers like the intended one. -/
theorem C05_constraints_asCoded_partial (as : Attrs) (cts : Constraints)
    (hyp : satisfyAsCoded as cts = satisfy as cts) (h : satisfyAsCoded as cts = true) :
    ∀ c ∈ cts, holds as c = true :=
  C05_constraints as cts (hyp ▸ h)

/-- One MergeParent: for every attribute the child's (last) definition decides, else the parent's. -/
theorem C05_merge_child_overrides (child parent : Constraints) (a : String) :
    lookupC (mergeParent child parent) a =
      (match lastDef child a with | some c => some c | none => lookupC parent a) :=
  lookupC_mergeParent child parent a

/-- Along a chain of roles of ANY depth (nearest first) the constraint that
    decides an attribute is the nearest definition of it; and when no role lists
    an attribute twice, that is the ONLY constraint on the attribute that survives. -/
theorem C05_nearest_overrides (chain : List Constraints) :
    (∀ a, lookupC (effective chain) a = nearestDef chain a) ∧
    ((∀ l ∈ chain, noDupAttr l = true) →
      ∀ c ∈ effective chain, nearestDef chain c.attr = some c) := by
  refine ⟨lookupC_effective chain, ?_⟩
  intro hnd c hc
  rw [← lookupC_effective]
  exact noDup_unique _ (noDupAttr_effective chain hnd) c hc

/-- BuildDescriptorConstraints: the role's constraints override the task class's. -/
theorem C05_role_overrides_class (role cls : Constraints) (a : String) :
    lookupC (descriptorConstraints role (some cls)) a =
      (match lastDef role a with | some c => some c | none => lookupC cls a) :=
  lookupC_mergeParent role cls a

/-- Resources.Satisfy is sound: a positive answer means the resources cover the wants. -/
theorem C05_resources (r : Res) (w : Wants) (hvs : Valid w.static = true) (hvp : OValid r.ports = true)
    (h : resSatisfy r w = true) : covers r w = true :=
  resSatisfy_covers r w hvs hvp h

/-- The intended parser reads back every list of ranges a template can write. -/
theorem C05_static_as_written (rs : Ranges) (h : ∀ x ∈ rs, x.1 < 2 ^ 64 ∧ x.2 < 2 ^ 64) :
    parseRanges true (printRanges rs) = some rs :=
  parseRanges_printRanges true rs (Or.inl rfl) h

/-- FULL-STRENGTH statement for RangesFromExpression as it stands — FALSE. -/
def C05_static_asCoded_full : Prop :=
  ∀ (rs : Ranges), (∀ x ∈ rs, x.1 < 2 ^ 64 ∧ x.2 < 2 ^ 64) → parseRanges false (printRanges rs) = some rs

/-- Finding `range_end_from_start`: "8000-8010" is read as {8000,8000}. -/
theorem C05_finding_range_end_from_start : ¬ C05_static_asCoded_full := by
  intro h
  have := h [(8000, 8010)] (by decide)
  revert this
  decide

/-- As coded, lists of single ports survive. -/
theorem C05_static_asCoded_partial (rs : Ranges) (hyp : ∀ x ∈ rs, x.1 = x.2)
    (h : ∀ x ∈ rs, x.1 < 2 ^ 64 ∧ x.2 < 2 ^ 64) : parseRanges false (printRanges rs) = some rs :=
  parseRanges_printRanges false rs (Or.inr hyp) h

/-- makeTaskForMesosResources (any bookkeeping configuration): the dynamic ports
    (one per inbound TCP channel, ≥ 9000) and the control port (≥ 30000) come from
    the ports it was given, are pairwise distinct, and what is missing afterwards
    is exactly what the task claimed: the drawn ports and — when the static ranges
    are claimed first, as the code does — the static ports, none of which was drawn. -/
theorem C05_ports_from_offer_distinct (k : Cfg) (w : Wants) (ports : Option Ranges)
    (hvs : Valid w.static = true) (hv : OValid ports = true)
    (t : Task) (rest : Option Ranges) (h : makeTask k w ports = .ok t rest) :
    (∀ p ∈ t.drawn, omem p ports = true) ∧ t.drawn.Nodup ∧
    (∀ p ∈ t.dyn, 9000 ≤ p) ∧ 30000 ≤ t.ctrl ∧ t.dyn.length = tcpCount w.inbound ∧
    (∀ q, omem q rest = (omem q ports && !(t.drawn.contains q) && !(k.staticReserved && mem q w.static))) ∧
    (k.staticReserved = true → ∀ p ∈ t.drawn, mem p w.static = false) := by
  have hm := makeTask_spec k w ports
  rw [h] at hm
  obtain ⟨tw, _, hmem, hnd, hrest, hstatic⟩ := hm hvs hv
  exact ⟨hmem, hnd, tw.dyn_floor, tw.ctrl_floor, tw.dyn_length, hrest, hstatic⟩

/-- FULL-STRENGTH: a port draw never finds the list empty (Resources.Satisfy
    counts ports but not where they lie, so makeTaskForMesosResources must look). -/
def C05_port_draw_full (k : Cfg) : Prop :=
  ∀ (r : Res) (w : Wants), OValid r.ports = true → resSatisfy r w = true →
    (makeTask k w r.ports).isPanic = false

/-- The code as it is never indexes an empty list, whatever offer and template have passed
    Satisfy (the lemma under it, `makeTask_no_panic`, does without the preceding Satisfy). -/
theorem C05_port_draw_code : C05_port_draw_full codeCfg :=
  fun r w _ _ => makeTask_no_panic codeCfg rfl w r.ports

/-- The emptiness tests are what it takes: a configuration without them panics on ports
    9000-9003 with one TCP channel: accepted, then `Ranges.Min()` of an empty list for the control port. -/
theorem C05_port_draw_needs_check (k : Cfg) (hk : k.drawChecked = false) : ¬ C05_port_draw_full k := by
  intro h
  have := h { cpu := some 4, mem := some 4, ports := some [(9000, 9003)] }
    { cpu := 1, mem := 0, static := [], inbound := [true] } (by decide) (by decide)
  revert this
  obtain ⟨a, b, c, d⟩ := k
  cases hk
  cases b <;> cases c <;> cases d <;> decide

/-- Finding `port_draw_panics`: the code as it WAS had no such test. -/
theorem C05_finding_port_draw_panics : ¬ C05_port_draw_full legacyCfg :=
  C05_port_draw_needs_check legacyCfg rfl

/-- Without the static claim (as the code was): no panic for a task without inbound
    TCP channels on resources that still hold a port above 29999. -/
theorem C05_port_draw_partial (k : Cfg) (hk : k.staticReserved = false)
    (w : Wants) (ports : Option Ranges) (hv : OValid ports = true)
    (hyp1 : tcpCount w.inbound = 0) (hyp2 : ∃ q, ctrlBelow < q ∧ omem q ports = true) :
    (makeTask k w ports).isPanic = false := by
  obtain ⟨q, hq1, hq2⟩ := hyp2
  obtain ⟨c, rest, e⟩ := drawPort_of_mem k.drawChecked ctrlBelow ports hv hq1 hq2
  -- no channel draws a port, and the draw of the control port finds one
  rw [makeTask, hk, if_neg Bool.false_ne_true, makeDraws, drawDyn_no_tcp _ _ _ hyp1]
  dsimp only
  rw [e]
  rfl

/-- One whole round on the code as it is cannot crash: no offer goroutine indexes
    an empty list, whatever the offers, descriptors and lock order. -/
theorem C05_round_never_crashes_code (m : Mode) (hm : m.cfg = codeCfg)
    (offers : List Offer) (descs : List Desc) (order : List Offer) :
    (round m offers descs order).crashed = false :=
  round_no_crash m (by rw [hm]; rfl) offers descs order

/-! `validInputs m descs order` (decidable, Spec/C05): every port range of every
offer and of every template has begin ≤ end. -/

/-- Launched ⇒ constraints and resources: in every round (any offers, any
    descriptors, any order in which the per-offer goroutines take the lock), every
    task of every ACCEPT passed `Satisfy` on the agent it goes to, and the offer
    covers what its template asks for (each task on its own). -/
theorem C05_round_launched_where_allowed (m : Mode) (offers : List Offer) (descs : List Desc) (order : List Offer)
    (hv : validInputs m descs order = true) :
    ∀ a ∈ (round m offers descs order).accepts, ∃ o ∈ order, a.oid = o.oid ∧
      ∀ l ∈ a.launches, m.sat o.attrs l.desc.cts = true ∧
        ∃ c, l.desc.cls = some c ∧ covers o.res (c.wants m) = true ∧
          l.task.cpu = c.cpu ∧ l.task.mem = c.mem ∧ l.task.static = (c.wants m).static := by
  intro a ha
  obtain ⟨o, ho, hoid, hg, _⟩ := round_accepts m offers descs order hv a ha
  refine ⟨o, ho, hoid, fun l hl => ?_⟩
  obtain ⟨c, hcls, _, hcov, tw⟩ := (hg l hl).out
  exact ⟨(hg l hl).1, c, hcls, hcov, tw.cpu, tw.mem, tw.static⟩

/-- With the intended Satisfy: launched ⇒ every effective constraint (role chain
    merged over the task class) holds on the agent. -/
theorem C05_round_constraints (m : Mode) (hm : m.satFixed = true)
    (offers : List Offer) (descs : List Desc) (order : List Offer)
    (hv : validInputs m descs order = true) :
    ∀ a ∈ (round m offers descs order).accepts, ∃ o ∈ order, a.oid = o.oid ∧
      ∀ l ∈ a.launches, ∀ c ∈ l.desc.cts, holds o.attrs c = true := by
  intro a ha
  obtain ⟨o, ho, hoid, hl⟩ := C05_round_launched_where_allowed m offers descs order hv a ha
  refine ⟨o, ho, hoid, fun l hlm => C05_constraints _ _ ?_⟩
  have := (hl l hlm).1
  rwa [Mode.sat, if_pos hm] at this

/-- With the intended parser: the static ranges of a launched task are the
    template's expression read with the intended grammar. -/
theorem C05_round_static_as_written (m : Mode) (hm : m.rngFixed = true)
    (offers : List Offer) (descs : List Desc) (order : List Offer)
    (hv : validInputs m descs order = true) :
    ∀ a ∈ (round m offers descs order).accepts, ∀ l ∈ a.launches,
      ∃ c, l.desc.cls = some c ∧ l.task.static = (parseRanges true c.portsExpr).getD [] := by
  intro a ha l hl
  obtain ⟨o, _, _, h⟩ := C05_round_launched_where_allowed m offers descs order hv a ha
  obtain ⟨_, c, hc, _, _, _, hs⟩ := h l hl
  exact ⟨c, hc, by rw [hs]; simp [Class.wants, hm]⟩

/-- Dynamic and control ports handed out on one offer come from that offer and
    are pairwise distinct ACROSS all tasks launched on it; one dynamic port
    (≥ 9000) per inbound TCP channel, one control port (≥ 30000) per task. -/
theorem C05_round_ports_from_offer_distinct (m : Mode) (offers : List Offer) (descs : List Desc) (order : List Offer)
    (hv : validInputs m descs order = true) :
    ∀ a ∈ (round m offers descs order).accepts, ∃ o ∈ order, a.oid = o.oid ∧
      (drawnOf a.launches).Nodup ∧ (∀ p ∈ drawnOf a.launches, omem p o.res.ports = true) ∧
      ∀ l ∈ a.launches, (∀ p ∈ l.task.dyn, 9000 ≤ p) ∧ 30000 ≤ l.task.ctrl ∧
        ∃ c, l.desc.cls = some c ∧ l.task.dyn.length = tcpCount c.inbound := by
  intro a ha
  obtain ⟨o, ho, hoid, hg, hnd, hfrom, _⟩ := round_accepts m offers descs order hv a ha
  refine ⟨o, ho, hoid, hnd, hfrom, fun l hl => ?_⟩
  obtain ⟨c, hcls, _, _, tw⟩ := (hg l hl).out
  exact ⟨tw.dyn_floor, tw.ctrl_floor, c, hcls, tw.dyn_length⟩

/-- Unused offers are declined: every offer is either in the DECLINE call or
    answered by an ACCEPT call (Mesos treats an ACCEPT without operations as a
    decline), and an offer on which something is launched is not declined. -/
theorem C05_round_unused_declined (m : Mode) (offers : List Offer) (descs : List Desc) (order : List Offer)
    (hv : validInputs m descs order = true) :
    (∀ o ∈ offers, o.oid ∈ (round m offers descs order).declined ∨
        ∃ a ∈ (round m offers descs order).accepts, a.oid = o.oid) ∧
    (∀ a ∈ (round m offers descs order).accepts, a.launches ≠ [] → a.oid ∉ (round m offers descs order).declined) :=
  round_declines m offers descs order hv

/-- FULL-STRENGTH: what is requested on one offer stays within it (CPU and
    memory of every task launched on an offer must be taken out of what remains
    of it before the next descriptor is matched against it). -/
def C05_sum_within_offer_full (k : Cfg) : Prop :=
  ∀ (m : Mode), m.cfg = k →
    ∀ (offers : List Offer) (descs : List Desc) (order : List Offer), validInputs m descs order = true →
    ∀ a ∈ (round m offers descs order).accepts, ∃ o ∈ order, a.oid = o.oid ∧
      sumOk o.res (a.launches.map (·.task)) = true

/-- Whenever the scalars are subtracted, the sum stays within the offer: all
    offers, descriptors, lock orders, and whatever the other switches say. -/
theorem C05_sum_within_offer_when_subtracted (m : Mode) (hk : m.cfg.scalarsSubtracted = true)
    (offers : List Offer) (descs : List Desc) (order : List Offer) (hv : validInputs m descs order = true) :
    ∀ a ∈ (round m offers descs order).accepts, ∃ o ∈ order, a.oid = o.oid ∧
      sumOk o.res (a.launches.map (·.task)) = true := by
  intro a ha
  obtain ⟨o, ho, hoid, hg, _, _, hsum, _⟩ := round_accepts m offers descs order hv a ha
  exact ⟨o, ho, hoid, sumOk_of_good m o _ hg (hsum hk)⟩

/-- The code as it is keeps the sum of what it requests on an offer within that offer. -/
theorem C05_sum_within_offer_code : C05_sum_within_offer_full codeCfg :=
  fun m hm offers descs order hv => C05_sum_within_offer_when_subtracted m (by rw [hm]; rfl) offers descs order hv

def C05_witnessClass (cpu : Nat) (expr : String) (inb : List Bool) : Class :=
  { cts := [], cpu := cpu, mem := 0, portsExpr := expr.toList, inbound := inb }

def C05_witnessOffer : Offer :=
  { oid := 0, attrs := [("machine_id", "m0")], res := { cpu := some 4, mem := some 4096, ports := some [(9000, 9100), (30000, 30100)] } }

/-- Finding `cpu_mem_not_subtracted` (the code as it WAS): an offer of 1 cpu takes two tasks of 0.75 cpu each. -/
theorem C05_finding_cpu_mem_not_subtracted : ¬ C05_sum_within_offer_full legacyCfg := by
  intro h
  have := h { satFixed := true, rngFixed := true, cfg := legacyCfg } rfl [C05_witnessOffer]
    [⟨0, [], some (C05_witnessClass 3 "" [])⟩, ⟨1, [], some (C05_witnessClass 3 "" [])⟩] [C05_witnessOffer] (by decide)
  revert this
  decide

/-- On the code as it is the second of those two tasks stays undeployed. -/
theorem C05_second_task_waits_code :
    let out := round { satFixed := true, rngFixed := true, cfg := codeCfg } [C05_witnessOffer]
      [⟨0, [], some (C05_witnessClass 3 "" [])⟩, ⟨1, [], some (C05_witnessClass 3 "" [])⟩] [C05_witnessOffer]
    out.accepts.map (fun a => a.launches.map (·.desc.id)) = [[1]] ∧ out.undeployed.map (·.id) = [0] ∧
    out.crashed = false := by decide

/-- Whatever the configuration: when at most one task is launched per offer, the sum stays within the offer. -/
theorem C05_sum_within_offer_partial (m : Mode) (offers : List Offer) (descs : List Desc) (order : List Offer)
    (hv : validInputs m descs order = true)
    (hyp : ∀ a ∈ (round m offers descs order).accepts, a.launches.length ≤ 1) :
    ∀ a ∈ (round m offers descs order).accepts, ∃ o ∈ order, a.oid = o.oid ∧
      sumOk o.res (a.launches.map (·.task)) = true := by
  intro a ha
  obtain ⟨o, ho, hoid, hg, _⟩ := round_accepts m offers descs order hv a ha
  exact ⟨o, ho, hoid, sumOk_of_good m o _ hg (sums_of_length_le_one hg (hyp a ha))⟩

/-- FULL-STRENGTH: ALL ports claimed on one offer — static ranges included — are
    from the offer and pairwise distinct (the static ranges must be taken out of
    the offer before dynamic ports are drawn, and stay out for later tasks). -/
def C05_all_claims_distinct_full (k : Cfg) : Prop :=
  ∀ (m : Mode), m.cfg = k →
    ∀ (offers : List Offer) (descs : List Desc) (order : List Offer), validInputs m descs order = true →
    ∀ a ∈ (round m offers descs order).accepts, ∃ o ∈ order, a.oid = o.oid ∧
      claimsOk (o.res.ports.getD []) (a.launches.map (·.task)) = true

/-- Whenever the static ranges are claimed first, every port claimed on an offer
    is from that offer and is claimed once: all offers, descriptors, lock orders. -/
theorem C05_all_claims_distinct_when_reserved (m : Mode) (hk : m.cfg.staticReserved = true)
    (offers : List Offer) (descs : List Desc) (order : List Offer) (hv : validInputs m descs order = true) :
    ∀ a ∈ (round m offers descs order).accepts, ∃ o ∈ order, a.oid = o.oid ∧
      claimsOk (o.res.ports.getD []) (a.launches.map (·.task)) = true := by
  intro a ha
  obtain ⟨o, ho, hoid, _, _, _, _, hcl⟩ := round_accepts m offers descs order hv a ha
  exact ⟨o, ho, hoid, (claimsOk_iff _ _).2 ⟨(hcl hk).2, (hcl hk).1⟩⟩

/-- The code as it is hands out every port of an offer at most once, static ranges included. -/
theorem C05_all_claims_distinct_code : C05_all_claims_distinct_full codeCfg :=
  fun m hm offers descs order hv => C05_all_claims_distinct_when_reserved m (by rw [hm]; rfl) offers descs order hv

/-- Finding `static_ports_not_reserved` (the code as it WAS): a template with static
    port 9000 and one inbound TCP channel is given 9000 again as its dynamic port. -/
theorem C05_finding_static_ports_not_reserved : ¬ C05_all_claims_distinct_full legacyCfg := by
  intro h
  have := h { satFixed := true, rngFixed := true, cfg := legacyCfg } rfl
    [C05_witnessOffer] [⟨0, [], some (C05_witnessClass 1 "9000" [true])⟩] [C05_witnessOffer] (by decide)
  revert this
  decide

/-- On the code as it is that task gets 9001, and a second task with the same
    static port is not put on the same offer. -/
theorem C05_static_port_kept_out_code :
    let m : Mode := { satFixed := true, rngFixed := true, cfg := codeCfg }
    let c := C05_witnessClass 1 "9000" [true]
    (round m [C05_witnessOffer] [⟨0, [], some c⟩] [C05_witnessOffer]).accepts.map
        (fun a => a.launches.map (·.task.dyn)) = [[[9001]]] ∧
    let out := round m [C05_witnessOffer] [⟨0, [], some c⟩, ⟨1, [], some c⟩] [C05_witnessOffer]
    out.accepts.map (fun a => a.launches.map (·.desc.id)) = [[1]] ∧ out.undeployed.map (·.id) = [0] := by decide

/-- Whatever the configuration: with one task per offer whose static ranges all end below the
    data-port floor, every claimed port is from the offer and no port is claimed twice. -/
theorem C05_all_claims_distinct_partial (m : Mode) (offers : List Offer) (descs : List Desc) (order : List Offer)
    (hv : validInputs m descs order = true)
    (hyp1 : ∀ a ∈ (round m offers descs order).accepts, a.launches.length ≤ 1)
    (hyp2 : ∀ a ∈ (round m offers descs order).accepts, ∀ l ∈ a.launches, ∀ r ∈ l.task.static, r.2 ≤ dataBelow) :
    ∀ a ∈ (round m offers descs order).accepts, ∃ o ∈ order, a.oid = o.oid ∧
      claimsOk (o.res.ports.getD []) (a.launches.map (·.task)) = true := by
  intro a ha
  obtain ⟨o, ho, hoid, hp⟩ := round_accepts m offers descs order hv a ha
  have h := claims_of_length_le_one hp (hyp1 a ha) (hyp2 a ha)
  exact ⟨o, ho, hoid, (claimsOk_iff _ _).2 ⟨h.2, h.1⟩⟩

/-! `roundVerdict` (Spec/C05) is what the driver computes on what the IMPLEMENTATION
did in a round. For the model of the code as it is (both functions behaving as
intended, bookkeeping `codeCfg`) EVERY clause is a theorem — there is no excluded
class left in a round whose offers have distinct ids and in which the port expression of
every launched template parses (`hparse`): -/

theorem C05_round_spec (m : Mode) (hs : m.satFixed = true) (hr : m.rngFixed = true) (hc : m.cfg = codeCfg)
    (offers : List Offer) (descs : List Desc) (order : List Offer)
    (hv : validInputs m descs order = true)
    (huniq : (offers.map (·.oid)).Nodup) (hsub : ∀ o ∈ order, o ∈ offers)
    (hparse : ∀ a ∈ (round m offers descs order).accepts, ∀ l ∈ a.launches, ∀ c, l.desc.cls = some c →
      (parseRanges true c.portsExpr).isSome = true) :
    (roundVerdict offers (round m offers descs order)).all = true := by
  have hdec := round_declines m offers descs order hv
  have hk : m.cfg.scalarsSubtracted = true ∧ m.cfg.staticReserved = true := by rw [hc]; exact ⟨rfl, rfl⟩
  -- every ACCEPT answers an offer of the event, which `findOffer` finds again
  have perOffer : ∀ g : Accept → Bool,
      (∀ a ∈ (round m offers descs order).accepts, ∀ o, findOffer offers a.oid = some o → PerOffer m o a.launches →
        g a = true) →
      (round m offers descs order).accepts.all g = true := fun g hg => List.all_eq_true.2 fun a ha =>
    have ⟨o, ho, hoid, hp⟩ := round_accepts m offers descs order hv a ha
    hg a ha o (hoid ▸ findOffer_unique offers o (hsub o ho) huniq) hp
  simp only [RoundVerdict.all, roundVerdict, Bool.and_eq_true]
  refine ⟨⟨⟨⟨⟨⟨?_, ?_⟩, ?_⟩, ?_⟩, ?_⟩, ?_⟩, ?_⟩
  · rw [C05_round_never_crashes_code m hc]; rfl
  · refine perOffer _ fun a ha o hf hp => ?_
    simp only [hf, List.all_eq_true]
    intro l hl
    have := (hp.1 l hl).1
    rw [Mode.sat, if_pos hs] at this
    exact C05_constraints _ _ this
  · refine perOffer _ fun a ha o hf hp => ?_
    simp only [hf, List.all_eq_true]
    intro l hl
    obtain ⟨c, hcls, _, hcov, tw⟩ := (hp.1 l hl).out
    have hstatic := tw.static
    have hw : c.wants m = ⟨c.cpu, c.mem, (parseRanges true c.portsExpr).getD [], c.inbound⟩ := by
      rw [Class.wants, hr]
    rw [hw] at hcov hstatic
    obtain ⟨x, hx⟩ := Option.isSome_iff_exists.1 (hparse a ha l hl c hcls)
    simp only [hcls, asTemplate, hcov, Bool.and_eq_true, decide_eq_true_eq, and_true]
    exact ⟨⟨⟨tw.cpu, tw.mem⟩, by rw [hstatic, hx]; rfl⟩, tw.dyn_length⟩
  · refine perOffer _ fun a ha o hf hp => ?_
    rw [hf]
    exact (drawnOk_iff _ _).2 ⟨⟨hp.2.2.1, hp.2.1⟩, fun l hl =>
      have ⟨_, _, _, _, tw⟩ := (hp.1 l hl).out
      ⟨tw.dyn_floor, tw.ctrl_floor⟩⟩
  · refine perOffer _ fun a ha o hf hp => ?_
    rw [hf]
    exact (claimsOk_iff _ _).2 ⟨(hp.2.2.2.2 hk.2).2, (hp.2.2.2.2 hk.2).1⟩
  · refine perOffer _ fun a ha o hf hp => ?_
    rw [hf]
    exact sumOk_of_good m o _ hp.1 (hp.2.2.2.1 hk.1)
  · simp only [Bool.or_eq_true, Bool.and_eq_true, List.all_eq_true, List.any_eq_true, decide_eq_true_eq,
      Bool.not_eq_true', List.contains_eq_mem, List.isEmpty_iff, decide_eq_false_iff_not]
    exact .inr ⟨hdec.1, fun a ha => Classical.or_iff_not_imp_left.2 (hdec.2 a ha)⟩

/-- Non-vacuity: the two-task witness round satisfies the hypotheses of `C05_round_spec`
    and its verdict is evaluated to true by the kernel. -/
example :
    let m : Mode := { satFixed := true, rngFixed := true, cfg := codeCfg }
    let ds : List Desc := [⟨0, [], some (C05_witnessClass 3 "9000" [true])⟩, ⟨1, [], some (C05_witnessClass 3 "9000" [true])⟩]
    validInputs m ds [C05_witnessOffer] = true ∧
    (roundVerdict [C05_witnessOffer] (round m [C05_witnessOffer] ds [C05_witnessOffer])).all = true := by decide

/-! "The constraints that apply to it (those of the task template …)" and "what the
task template asks for" mean the template AS LAST LOADED. `Manager.RefreshClasses`
hands every class a workflow needs to `Classes.UpdateClass`; `history` is a
sequence `load; place; reload (classes edited under the same key); place; …` on
one store. `latest steps n k` (Spec/C05) is the last definition of class `k`
among the loads of rounds `0..n` — defined without any reference to the store. -/

/-- The template on whose one-place edits `Class.Equals` is tabulated. -/
def C05_equalsBase : Class :=
  { cts := [⟨"role", "flp", 0⟩], cpu := 4, mem := 512, portsExpr := "8000-8002".toList, inbound := [true, false], cmd := "sleep 1" }

/-- What the MODEL's `Class.equalsCW` notices of a one-place edit. -/
def C05_equalsNoticesModel (rngFixed : Bool) : List (String × Bool) :=
  let b := C05_equalsBase
  [("command", !b.equalsCW rngFixed { b with cmd := "sleep 2" }),
   ("cpu", !b.equalsCW rngFixed { b with cpu := 8 }),
   ("memory", !b.equalsCW rngFixed { b with mem := 1024 }),
   ("ports", !b.equalsCW rngFixed { b with portsExpr := "8100-8102".toList }),
   ("constraints", !b.equalsCW rngFixed { b with cts := [⟨"role", "epn", 0⟩] }),
   ("bind", !b.equalsCW rngFixed { b with inbound := [true, false, true] }),
   ("nothing", !b.equalsCW rngFixed b)]

/-- The store of the model is the code's (facts re-read on every run): `UpdateClass`
    has one branch, `if held { *entry = *class } else { map[key] = class }`, no return
    and no assignment to its parameters — a held key is overwritten unconditionally
    (`codeCfg.storeOverwrites`); the loop of `RefreshClasses` hands every loaded class
    to it; and the linked `Class.Equals`, evaluated on a template and its one-place
    edits, notices exactly what `Class.equalsCW` notices: command, cpu, memory, ports —
    NOT constraints, NOT bind. (So a store that kept a held entry on `Equals` would
    be the store of `keepIfEqualCfg`, refuted below.) -/
theorem C05_class_store_is_code :
    Gen.Placement.updateOverwrites = codeCfg.storeOverwrites ∧
    Gen.Placement.refreshUpdatesEvery = true ∧
    ∀ rngFixed, Gen.Placement.equalsNotices = C05_equalsNoticesModel rngFixed := by
  decide +kernel

/-- One workflow load on a store that overwrites: afterwards every class reads as
    its LAST definition in the load, and a class the load does not mention reads as before. -/
theorem C05_store_get_is_last_loaded (m : Mode) (hk : m.cfg.storeOverwrites = true)
    (s : Store) (defs : List (Key × Class)) (k : Key) :
    storeGet (storeLoad m s defs) k =
      (match lastLoaded defs k with | some c => some c | none => storeGet s k) :=
  (storeLoad_spec m defs defs s (.inl hk) fun _ h => h).1 k

/-- FULL-STRENGTH: in every history, round `n` answers exactly what the OFFERS
    handler answers for the round's descriptors with, for each class, its LAST
    definition among the loads of rounds `0..n` — whatever was loaded before under
    that key and whatever the edit touched. -/
def C05_history_follows_latest_full (k : Cfg) : Prop :=
  ∀ (m : Mode), m.cfg = k → ∀ (steps : List Step) (n : Nat),
    (history m [] steps)[n]? =
      steps[n]?.map fun st => round m st.offers (st.descs.map (resolveBy (latest steps n))) st.order

/-- Any store that overwrites follows the latest template: all histories, all rounds. -/
theorem C05_history_follows_latest (m : Mode) (hk : m.cfg.storeOverwrites = true) (steps : List Step) (n : Nat) :
    (history m [] steps)[n]? =
      steps[n]?.map fun st => round m st.offers (st.descs.map (resolveBy (latest steps n))) st.order :=
  history_getElem? m steps (.inl hk) n

/-- The code as it is follows the latest template. -/
theorem C05_history_follows_latest_code : C05_history_follows_latest_full codeCfg :=
  fun m hm steps n => C05_history_follows_latest m (by rw [hm]; rfl) steps n

/-- Placement in round `n` depends on the loads ONLY through the last definition of
    each class before `n`: two histories whose round `n` has the same offers,
    descriptors and lock order, and in which every class has the same latest
    definition at `n`, answer the same in round `n` — however they got there. -/
theorem C05_history_depends_only_on_latest (m : Mode) (hk : m.cfg.storeOverwrites = true)
    (steps₁ steps₂ : List Step) (n : Nat) (st₁ st₂ : Step)
    (h1 : steps₁[n]? = some st₁) (h2 : steps₂[n]? = some st₂)
    (ho : st₁.offers = st₂.offers) (hd : st₁.descs = st₂.descs) (hord : st₁.order = st₂.order)
    (hl : ∀ k, latest steps₁ n k = latest steps₂ n k) :
    (history m [] steps₁)[n]? = (history m [] steps₂)[n]? := by
  rw [C05_history_follows_latest m hk steps₁ n, C05_history_follows_latest m hk steps₂ n, h1, h2]
  have : latest steps₁ n = latest steps₂ n := funext hl
  simp [ho, hd, hord, this]

/-- Reloading classes exactly as they are held changes nothing — for ANY store
    configuration: the store is the same afterwards, so every later round of
    every continuation answers the same. -/
theorem C05_reload_identical_changes_nothing (m : Mode) (s : Store) (defs : List (Key × Class))
    (h : ∀ d ∈ defs, storeGet s d.1 = some d.2) (offers : List Offer) (descs : List DescRef) (order : List Offer)
    (rest : List Step) :
    storeLoad m s defs = s ∧
    history m s (⟨defs, offers, descs, order⟩ :: rest) = history m s (⟨[], offers, descs, order⟩ :: rest) := by
  have hs := storeLoad_held m defs s h
  refine ⟨hs, ?_⟩
  simp only [history, hs]
  rfl

/-- Two agents and a class whose reloaded copy differs in its constraints only. -/
def C05_flpOffer : Offer := { C05_witnessOffer with oid := 0, attrs := [("machine_id", "m0"), ("role", "flp")] }
def C05_epnOffer : Offer := { C05_witnessOffer with oid := 1, attrs := [("machine_id", "m1"), ("role", "epn")] }

def C05_reloadWitness (second : Class) : List Step :=
  let first : Class := { cts := [⟨"role", "flp", 0⟩], cpu := 1, mem := 0, portsExpr := [], inbound := [true], cmd := "run" }
  let os := [C05_flpOffer, C05_epnOffer]
  [⟨[(0, first)], os, [⟨0, [], some 0⟩], os⟩, ⟨[(0, second)], os, [⟨0, [], some 0⟩], os⟩]

/-- A store that keeps the held entry when `Class.Equals` finds command and wants
    unchanged does NOT follow the latest template: the class is loaded with
    `role = flp`, edited to `role = epn` (nothing else), loaded again — and the
    second deployment still goes to the flp agent. -/
theorem C05_keep_if_equal_goes_stale : ¬ C05_history_follows_latest_full keepIfEqualCfg := by
  intro h
  have := h { satFixed := true, rngFixed := true, cfg := keepIfEqualCfg } rfl
    (C05_reloadWitness { cts := [⟨"role", "epn", 0⟩], cpu := 1, mem := 0, portsExpr := [], inbound := [true], cmd := "run" }) 1
  have := congrArg (Option.map fun out => out.accepts.map fun a => (a.oid, a.launches.map (·.desc.id))) this
  revert this
  decide

/-- On the code as it is: after that reload the task goes to the epn agent; and
    after a reload that only adds an inbound TCP channel the task gets two dynamic ports. -/
theorem C05_reloaded_template_followed_code :
    let m : Mode := { satFixed := true, rngFixed := true, cfg := codeCfg }
    ((history m [] (C05_reloadWitness
        { cts := [⟨"role", "epn", 0⟩], cpu := 1, mem := 0, portsExpr := [], inbound := [true], cmd := "run" })).map
      fun out => out.accepts.map fun a => (a.oid, a.launches.map (·.desc.id))) = [[(0, [0]), (1, [])], [(0, []), (1, [0])]] ∧
    ((history m [] (C05_reloadWitness
        { cts := [⟨"role", "flp", 0⟩], cpu := 1, mem := 0, portsExpr := [], inbound := [true, true], cmd := "run" })).map
      fun out => out.accepts.map fun a => a.launches.map (·.task.dyn)) = [[[[9000]], []], [[[9000, 9001]], []]] := by
  decide +kernel

/-- Whatever the store does with classes `Class.Equals` finds equal: on every
    history in which `Class.Equals` tells apart any two different definitions of
    one class (no reload edits ONLY constraints, bind, … ), the latest template is followed. -/
theorem C05_history_follows_latest_partial (m : Mode) (steps : List Step)
    (hyp : ∀ a ∈ steps.flatMap (·.loads), ∀ b ∈ steps.flatMap (·.loads),
      a.1 = b.1 → a.2.equalsCW m.rngFixed b.2 = true → a.2 = b.2) (n : Nat) :
    (history m [] steps)[n]? =
      steps[n]?.map fun st => round m st.offers (st.descs.map (resolveBy (latest steps n))) st.order :=
  history_getElem? m steps (.inr ⟨hyp, nofun⟩) n

/-- The predicate the correspondence run evaluates on a history (`histVerdict`:
    every clause of `roundVerdict` in every round, each task judged against the
    template as last loaded) is a theorem for the model of the code as it is, on histories
    every round of which meets the hypotheses of `C05_round_spec`. -/
theorem C05_history_spec (m : Mode) (hs : m.satFixed = true) (hr : m.rngFixed = true) (hc : m.cfg = codeCfg)
    (steps : List Step)
    (hsteps : ∀ x ∈ steps.zip (resolvedDescs [] steps),
      validInputs m x.2 x.1.order = true ∧ (x.1.offers.map (·.oid)).Nodup ∧ (∀ o ∈ x.1.order, o ∈ x.1.offers) ∧
      ∀ a ∈ (round m x.1.offers x.2 x.1.order).accepts, ∀ l ∈ a.launches, ∀ c, l.desc.cls = some c →
        (parseRanges true c.portsExpr).isSome = true) :
    histVerdict steps (history m [] steps) = true := by
  rw [histVerdict, Bool.and_eq_true, decide_eq_true_eq, history_length,
    history_nil_eq_resolved m steps (.inl (by rw [hc]; rfl)), all_zip_zipWith_left, List.all_eq_true]
  refine ⟨rfl, fun x hx => ?_⟩
  obtain ⟨v1, v2, v3, v4⟩ := hsteps x hx
  exact C05_round_spec m hs hr hc x.1.offers x.2 x.1.order v1 v2 v3 v4

/-- Non-vacuity: the reload witness satisfies the hypotheses of `C05_history_spec`
    (evaluated), and its verdict is true. -/
example :
    let m : Mode := { satFixed := true, rngFixed := true, cfg := codeCfg }
    let steps := C05_reloadWitness { cts := [⟨"role", "epn", 0⟩], cpu := 1, mem := 0, portsExpr := [], inbound := [true, true], cmd := "run" }
    ((steps.zip (resolvedDescs [] steps)).all fun x => validInputs m x.2 x.1.order) = true ∧
    histVerdict steps (history m [] steps) = true := by decide +kernel
