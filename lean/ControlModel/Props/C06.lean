/-
  Props/C06 — "Destroying or failing to create an environment leaves nothing behind".

  Property theorems (names `C06_*` are the proof obligations counted in the
  evidence file), their `…_full` statements, witnesses and examples; the model is Model/Own.lean, the predicates Spec/C06.lean, the
  lemmas Proofs/Own.lean (on top of Proofs/OwnInv.lean) and, for a destroy that overlaps the creation, a failed lock
  loop and whole runs, Proofs/OwnOverlap.lean, OwnLock.lean and OwnListed.lean. The model is tied to the real core by the
  correspondence run (harness/props/c06: the real core behind the whole-core
  simulator, monitor Driver/OwnCommon).

  `cleanAfter k keep v` (Spec/C06) is the predicate both sides are judged by: k is
  gone from the listing; no roster task is still owned by it; unless tasks were
  to be kept, every task launched for it was sent a KILL, or has ended, or sits
  unowned in the roster; every active detector belongs to a listed environment;
  the calls it had pending were cancelled. It is what a creation that FAILED obliges.
  A destroy request that answered SUCCESS obliges `destroyedClean k keep v`: `cleanAfter`
  and — unless tasks were to be kept — `allKilled`: every task launched for k was sent a
  KILL (one the master accepted) or has ended. A KILL call may fail (`State.refusing`,
  fault step `killFault`): doKillTasks puts the task back into the roster, unowned and
  still running, and reports an error that no later kill of the same loop resets; a
  destroy whose clean-up met such a failure answers an error — "a destroy request that
  cannot be honoured returns an error rather than success" (tie `C06_kill_error_is_code`).

  Executors and agents may be lost at any time (steps `execLost`, `agentLost`; the
  environment's watcher then reacts: `watchError`): the tasks they ran are unlocked
  (ids blanked) but keep their parent role. The clean-up theorems cover the states
  this leaves (`C06_loss_keeps_hypotheses`, `C06_destroyed_after_loss_clean_partial`,
  `C06_failed_create_after_loss_clean_partial`).

  A state carries the configuration it runs under (`Own.Cfg`): `codeCfg` is the code
  as it is, `legacyCfg` the code before the repairs notes/C06.fix-1 and C06.fix-2
  (and C04.fix-1). `…_code` theorems are about `codeCfg` (`C06_lock_failure_detaches_all_code`: every configuration
  with `detachOnSpot = false`), the refutations of two of the three
  fixed findings about `legacyCfg`, `…_partial` theorems about every configuration.

  One statement does NOT hold of the code as it is. It is kept visible as `…_full`,
  proved under the hypothesis that excludes the offending inputs, and refuted on a
  witness the real core was seen to follow:
    * launch_pending_leak — doKillTasks only KILLs tasks whose status is ACTIVE;
      a task that was launched but has not yet reported TASK_RUNNING when its
      deployment is given up is dropped from the roster and keeps running
      (hypothesis `statusFaithful` of the clean-up theorems).
  Three statements did not hold and do now (findings fixed):
    * teardown_recursive_rlock — TeardownEnvironment read-locked the environment manager's
      mutex and called `envs.environment()`, which read-locks it again; a writer whose Lock()
      fell between the two (another teardown, a creation entering its environment in the map,
      the event loop) deadlocked the mutex: the requests involved, and every later one, never
      returned. Now the look-up locks for itself only (`C06_lookup_returns_full`,
      `C06_finding_teardown_recursive_rlock`, `C06_lookup_returns_partial`, `C06_lookup_returns_repaired`,
      `C06_lookup_returns_code`, tie `C06_lookup_is_code`). It was seen on the real core when a destroy
      waited for a creation that then failed: the destroy's teardown and the creation's own teardown
      started at the same instant (about one run in 150).
    * destroy_hooks_unreleased — TeardownEnvironment overwrote its second
      ReleaseTasks message in every iteration of the loop over the DESTROY
      weights, and only named hook tasks whose role was ACTIVE. Now the hook tasks of
      all weights are released together: `C06_destroyed_clean_code`,
      `C06_failed_create_clean_code` (+ the two `…_after_loss_clean_code`) need no
      hook hypothesis; tie `C06_hook_release_is_code`;
    * teardown_registration_race — the event loop deleted the pending-teardown
      entry after handing the event over, possibly after TeardownEnvironment had
      registered the entry for its second release: the call then waited for ever. Now
      the entry is removed in the critical section that looks it up:
      `C06_teardown_returns_code`, `C06_teardown_never_hangs_code`; tie
      `C06_rendezvous_is_code`.

  A destroy may arrive WHILE the environment is being created (it is addressable from the moment
  CreateEnvironment entered it in the map; DEPLOY, CONFIGURE and the failure tail's GO_ERROR and
  teardown each take the environment's transition mutex for themselves). Such a destroy goes
  straight to doTeardownAndCleanup and its TeardownEnvironment waits for the mutex: it is served
  at a later section boundary and must work on the environment as it is THEN. The creation cut at its
  critical sections is `createSettle` (`C06_settle_pieces`) and doTeardownAndCleanup is an attempt and a
  forced retry (`C06_teardown_and_cleanup_is_attempts`), so whichever attempt answers success — in whatever
  well-formed, `statusFaithful` state it is served — leaves the environment clean
  (`C06_overlapping_destroy_clean_code`; with no hypothesis about the state the destroy finds: `C06_created_then_destroyed_clean_code`,
  `C06_destroyed_after_deploy_clean_code`). The model's own `destroy` / `control` step is not served while
  the creation is pending (`C06_destroy_waits_for_creation`). Tie `C06_teardown_reads_under_mutex_is_code`.

  A creation may fail in acquireTasks' OWN TAIL, after every requested task was launched: its lock loop meets a new task
  that cannot be locked because its placement data is incomplete (the offer carried no hostname: `SettleOracle.blank`;
  "cannot be locked" = Model/TaskIds `Fields.locked` on the record with its parent set). The block `if !deploymentSuccess`
  then un-parents EVERY deployed task — the siblings that did lock included —, all of them go into the roster, no role gets
  its task, and the failure tail of CreateEnvironment finds no task of the environment to release or kill. The environment
  is clean all the same (`C06_failed_in_lock_loop_clean_code`): the tasks sit unowned in the roster, where the next Cleanup
  reaches every one of them. The variant `Cfg.detachOnSpot` (NOT the code) — detach only the task that cannot be locked, on
  the spot — is refuted (`C06_detach_on_spot_leaves_owned`): the siblings stay locked to an environment that does not exist
  any more, out of reach of Cleanup and KillTasks. Tie `C06_lock_failure_unparents_all_is_code`. Over whole runs (without
  reuseUnlockedTasks and free-standing claim steps) no roster task is ever parented by an environment that is not listed
  (`C06_owner_always_listed`).
-/
import ControlModel.Proofs.OwnOverlap
import ControlModel.Proofs.OwnLock
import ControlModel.Proofs.OwnListed
import ControlModel.Gen.C06Facts
import ControlModel.Gen.C06LockFacts

open Own

/-- **A destroy that answers success has taken the environment out of the listing** —
    equivalently: a destroy after which the environment is still listed did not answer
    success (it answered an error, "not found", or did not return). No hypothesis. -/
theorem C06_unhonoured_is_error (s : State) (k : EnvId) (force allow keep : Bool) (o : DOracle) :
    (destroy s k force allow keep o).2.1 = .ok → ∀ E ∈ (destroy s k force allow keep o).1.envs, E.id ≠ k :=
  destroy_ok_unlisted s k force allow keep o

/-- … and a request on an environment that is not listed (and has no creation pending) answers "not found". -/
theorem C06_destroy_unknown_is_error (s : State) (k : EnvId) (force allow keep : Bool) (o : DOracle)
    (h1 : ∀ p ∈ s.creating, p.id ≠ k) (h : s.env? k = none) :
    (destroy s k force allow keep o).2.1 = .notfound ∧ (destroy s k force allow keep o).1 = s := by
  simp [destroy, anyPending_false h1, h]

/-- The full-strength claim: whenever DestroyEnvironment answers success the environment is clean
    (configuration `c`). It still fails for the code as it is, for the reason of finding
    launch_pending_leak alone (`C06_destroyed_clean_needs_faithful`). -/
def C06_destroyed_clean_full (c : Cfg) : Prop :=
  ∀ (s : State) (k : EnvId) (force allow keep : Bool) (o : DOracle) (E : Env), s.cfg = c →
    s.env? k = some E → envWf s k E.tasks = true → (∀ h ∈ E.hooks, h.task ∈ E.tasks) →
    (destroy s k force allow keep o).2.1 = .ok →
    destroyedClean k keep (viewOf (destroy s k force allow keep o).1) = true

/-- The same claim for the states in which a task the core believes inactive has really ended
    (`statusFaithful`, the hypothesis of the open finding launch_pending_leak) — with NO
    hypothesis about the DESTROY hooks: the part of the full claim that finding
    destroy_hooks_unreleased refuted. -/
def C06_destroyed_clean_hooks_full (c : Cfg) : Prop :=
  ∀ (s : State) (k : EnvId) (force allow keep : Bool) (o : DOracle) (E : Env), s.cfg = c →
    s.env? k = some E → envWf s k E.tasks = true → (∀ h ∈ E.hooks, h.task ∈ E.tasks) →
    statusFaithful s E.tasks = true →
    (destroy s k force allow keep o).2.1 = .ok →
    destroyedClean k keep (viewOf (destroy s k force allow keep o).1) = true

/-- **After a destroy that answered success the environment is clean** (`destroyedClean` =
    `cleanAfter` and, unless tasks were kept, `allKilled`: whatever KILL calls fail — `s.refusing`
    is arbitrary — a destroy that answers success met no such failure): not
    listed, none of its tasks still owned by it — DESTROY / after_DESTROY hook tasks at any
    number of weights, ACTIVE or not, included —, every task launched for it sent a KILL or
    ended (unless the caller asked to keep tasks), every active detector held by a listed
    environment, its pending calls cancelled — the code as it is, in every state (force or
    not, from any environment state, whichever of STOP / RESET / the first teardown attempt
    failed, with any oracle) whose bookkeeping is well-formed (`envWf`, its hooks among its tasks), provided
      * `statusFaithful`  : a task of it that the core believes inactive has really ended. -/
theorem C06_destroyed_clean_code : C06_destroyed_clean_hooks_full codeCfg := by
  intro s k force allow keep o E hc hE hwf hhk hfaith hok
  exact Tidy.destroy_clean ⟨hE, hwf, hhk, hfaith⟩ (hooksOk_code hc _) force allow keep o hok

/-- The same in every configuration (the code as it was included), provided also
      * `hooksReleasable` : its DESTROY hooks sit at one weight at most and are ACTIVE. -/
theorem C06_destroyed_clean_partial (s : State) (k : EnvId) (force allow keep : Bool) (o : DOracle) (E : Env)
    (hE : s.env? k = some E) (hwf : envWf s k E.tasks = true) (hhk : ∀ h ∈ E.hooks, h.task ∈ E.tasks)
    (hrel : hooksReleasable s E.hooks = true) (hfaith : statusFaithful s E.tasks = true)
    (hok : (destroy s k force allow keep o).2.1 = .ok) :
    destroyedClean k keep (viewOf (destroy s k force allow keep o).1) = true :=
  Tidy.destroy_clean ⟨hE, hwf, hhk, hfaith⟩ (hooksOk_of_releasable hrel) force allow keep o hok

/-- One task and two DESTROY hook tasks, at weights 10 and 20. -/
def hooks2Spec : EnvSpec :=
  { bad := .ok, dets := [0], roles := [{ kind := .task, cls := 1, host := 1 },
      { kind := .hook, cls := 2, host := 1, weight := 10 }, { kind := .hook, cls := 3, host := 2, weight := 20 }] }

def hooks2State (c : Cfg := codeCfg) : State :=
  run (init false [1, 2, 3, 4] c) [.createBegin 0 hooks2Spec, .createCleanup 0, .createInsert 0, .createSettle 0 {}]

/-- The environment as listed in `hooks2State`. -/
def hooks2Env : Env :=
  { id := 0, state := .CONFIGURED, dets := [0], tasks := [1, 2, 3],
    hooks := [{ task := 2, weight := 10, after := false }, { task := 3, weight := 20, after := false }],
    calls := 0, pending := 0, started := 0, cancelled := 0, tearing := false }

/-- **Finding destroy_hooks_unreleased** (fixed; a statement about the code as it was): a plain
    destroy of a freshly created environment with DESTROY hooks at two weights answered success
    and left the weight-10 hook task locked by the deleted environment (never released, hence
    never killed: KillTasks and Cleanup skip locked tasks). -/
theorem C06_finding_destroy_hooks_unreleased : ¬ C06_destroyed_clean_hooks_full legacyCfg := by
  intro h
  have := h (hooks2State legacyCfg) 0 false false false {} hooks2Env (by decide) (by decide) (by decide) (by decide) (by decide) (by decide)
  revert this
  decide

/-- The witness violates exactly the hook hypothesis (its status is faithful). -/
theorem C06_hooks_witness_hypotheses :
    hooksReleasable (hooks2State legacyCfg) [{ task := 2, weight := 10, after := false }, { task := 3, weight := 20, after := false }] = false ∧
    statusFaithful (hooks2State legacyCfg) [1, 2, 3] = true := by decide

/-- On the same input the code as it is releases both hook tasks: the destroy answers success,
    its second ReleaseTasks message names tasks 2 and 3, and the roster holds nothing any more. -/
theorem C06_hooks_witness_repaired :
    (hooks2State).env? 0 = some hooks2Env ∧
    (destroy hooks2State 0 false false false {}).2.1 = .ok ∧
    (destroy hooks2State 0 false false false {}).2.2.getLast? = some (.release [2, 3]) ∧
    (viewOf (destroy hooks2State 0 false false false {}).1).roster = [] ∧
    cleanAfter 0 false (viewOf (destroy hooks2State 0 false false false {}).1) = true := by decide

/-- A listed environment whose task the core believes inactive while it is running. -/
def unfaithfulState : State :=
  { reuse := false, hosts := [1],
    roster := [{ id := 1, cls := 1, host := 1, agent := true, offer := true, executor := true, parent := some 0,
                 active := false, state := .STANDBY }],
    envs := [{ id := 0, state := .DEPLOYED, dets := [0], tasks := [1], hooks := [], pending := 0, tearing := false }],
    master := [{ id := 1, label := 0, role := 0, host := 1, mesos := .running, killed := false }],
    used := [0], nextTask := 2 }

/-- `statusFaithful` cannot be dropped from `C06_destroyed_clean_code`: in a (constructed) state
    that violates it the destroy answers success, drops the task from the roster without a KILL
    (doKillTasks only KILLs ACTIVE tasks) and leaves it running. This is the mechanism of the
    open finding launch_pending_leak, whose reachable witness is `leakSchedule` below. -/
theorem C06_destroyed_clean_needs_faithful : ¬ C06_destroyed_clean_full codeCfg := by
  intro h
  have := h unfaithfulState 0 false false false {}
    { id := 0, state := .DEPLOYED, dets := [0], tasks := [1], hooks := [], pending := 0, tearing := false }
    (by decide) (by decide) (by decide) (by decide) (by decide)
  revert this
  decide

/-- The first stage at which a creation can fail before the environment is entered in the map (`spec.bad = .nowf`):
    nothing of it exists. -/
theorem C06_failed_create_early (s : State) (k : EnvId) (spec : EnvSpec) (o : SettleOracle)
    (hfresh : k ∉ s.used) (hbad : spec.bad = .nowf) :
    (create s k spec o).2 = .errLoad ∧ (create s k spec o).1.envs = s.envs ∧
    (create s k spec o).1.roster = s.roster ∧ (create s k spec o).1.master = s.master := by
  simp [create, createBegin, hfresh, hbad]

/-- A creation refused at the detector check has only run the pre-deployment cleanup: the listing is
    unchanged and nothing was launched for it. -/
theorem C06_failed_create_detector (s : State) (k : EnvId) (spec : EnvSpec) (o : SettleOracle)
    (hfresh : k ∉ s.used) (hok : spec.bad = .ok) (hconf : ∃ d ∈ spec.dets, d ∈ s.activeDets) :
    (create s k spec o).2 = .errDetector ∧ (create s k spec o).1.envs = s.envs ∧
    (create s k spec o).1.roster = (cleanup s).roster ∧ (create s k spec o).1.master = (cleanup s).master :=
  create_conflict_fields s k spec o hfresh hok hconf

/-- The full-strength claim for the failure tail of CreateEnvironment (deployment or
    configuration failed: GO_ERROR, forced teardown, KillTasks): it returns and leaves the
    environment clean. `res`: the error the creation answers with. -/
def C06_failed_create_clean_full (c : Cfg) : Prop :=
  ∀ (s : State) (k : EnvId) (late : Bool) (res : Res) (hf : List TaskId) (E : Env), s.cfg = c →
    s.env? k = some E → E.tearing = false → envWf s k E.tasks = true → (∀ h ∈ E.hooks, h.task ∈ E.tasks) →
    res ≠ .hang →
    (createFail s k E.tasks late res hf).2 ≠ .hang ∧
    cleanAfter k false (viewOf (createFail s k E.tasks late res hf).1) = true

/-- The same for the states satisfying `statusFaithful` (hypothesis of the open finding
    launch_pending_leak), with no hypothesis about hooks or the rendezvous: the part of the full
    claim that the findings destroy_hooks_unreleased and teardown_registration_race refuted. -/
def C06_failed_create_clean_hooks_full (c : Cfg) : Prop :=
  ∀ (s : State) (k : EnvId) (late : Bool) (res : Res) (hf : List TaskId) (E : Env), s.cfg = c →
    s.env? k = some E → E.tearing = false → envWf s k E.tasks = true → (∀ h ∈ E.hooks, h.task ∈ E.tasks) →
    statusFaithful s E.tasks = true → res ≠ .hang →
    (createFail s k E.tasks late res hf).2 ≠ .hang ∧
    cleanAfter k false (viewOf (createFail s k E.tasks late res hf).1) = true

/-- **The failure tail of a creation (deployment or configuration failed) returns and leaves
    the environment clean** — the code as it is, whatever the DESTROY hooks and whatever the
    oracle of the rendezvous says, under `envWf`, hooks among its tasks, and `statusFaithful`. -/
theorem C06_failed_create_clean_code : C06_failed_create_clean_hooks_full codeCfg := by
  intro s k late res hf E hc hE hte hwf hhk hfaith hres
  exact Tidy.createFail_code ⟨hE, hwf, hhk, hfaith⟩ hte hc late res hf hres

/-- In every configuration: the failure tail leaves the environment clean unless it hangs,
    under the two hypotheses of `C06_destroyed_clean_partial`. -/
theorem C06_failed_create_clean_partial (s : State) (k : EnvId) (late : Bool) (res : Res) (hf : List TaskId) (E : Env)
    (hE : s.env? k = some E) (hte : E.tearing = false) (hwf : envWf s k E.tasks = true)
    (hhk : ∀ h ∈ E.hooks, h.task ∈ E.tasks)
    (hrel : hooksReleasable s E.hooks = true) (hfaith : statusFaithful s E.tasks = true)
    (hnh : (createFail s k E.tasks late res hf).2 ≠ .hang) :
    cleanAfter k false (viewOf (createFail s k E.tasks late res hf).1) = true :=
  Tidy.createFail_clean ⟨hE, hwf, hhk, hfaith⟩ hte (hooksOk_of_releasable hrel) late res hf hnh

def leakSpec : EnvSpec :=
  { bad := .ok, dets := [0], roles := [{ kind := .task, cls := 1, host := 1 }, { kind := .task, cls := 2, host := 2 }] }

/-- Task 1 dies at launch while task 2 is still starting; later task 2 comes up. -/
def leakSchedule : List Step :=
  [.createBegin 0 leakSpec, .createCleanup 0, .createInsert 0,
   .createSettle 0 { launches := [(0, { mesos := .terminal, active := false }), (1, { mesos := .staging, active := false })] },
   .mesosStart 0]

/-- The full-strength claim over whole runs of the code as it is (from `init false [1, 2, 3, 4]`): after any step sequence, an
    environment that is no longer listed and not being created has left no task running unknown
    to the core. -/
def C06_no_leak_full : Prop :=
  ∀ (steps : List Step) (k : EnvId), k ∈ (run (init false [1, 2, 3, 4]) steps).used →
    (∀ E ∈ (run (init false [1, 2, 3, 4]) steps).envs, E.id ≠ k) →
    (∀ p ∈ (run (init false [1, 2, 3, 4]) steps).creating, p.id ≠ k) →
    cleanAfter k false (viewOf (run (init false [1, 2, 3, 4]) steps)) = true

/-- **Finding launch_pending_leak**: the creation fails, the environment is gone, and task 2 —
    launched for it, locked by it until the failure tail released it — is neither killed nor
    ended nor in the roster: it runs on, unknown to the core, out of reach of every cleanup. -/
theorem C06_finding_launch_pending_leak : ¬ C06_no_leak_full := by
  intro h
  have := h leakSchedule 0 (by decide) (by decide) (by decide)
  revert this
  decide

/-- **A lost executor / agent unlocks the task without taking it from its environment**
    (HandleExecutorFailed / HandleAgentFailed blank executorId / agentId and leave the parent
    role): every roster entry the failure names is afterwards not locked, INACTIVE, and has
    the parent it had. This is the state a later destroy has to clean up. -/
theorem C06_lost_task_unlocked_still_owned (s : State) (h : Host) (agent : Bool) (t : Task) (ht : t ∈ s.roster)
    (hhit : t.hitBy agent h = true) :
    ∃ t' ∈ (hostLost s h agent).roster, t'.id = t.id ∧ t'.isLocked = false ∧ t'.active = false ∧ t'.parent = t.parent := by
  refine ⟨t.lose agent, ?_, lose_id agent t, lose_isLocked agent t, lose_active agent t, lose_parent agent t⟩
  rw [hostLost_roster]
  exact List.mem_map.mpr ⟨t, ht, by simp [hhit]⟩

/-- … and releaseTask releases such a task all the same: a task whose parent role belongs to
    the releasing environment (or to nobody) is released whether or not it is locked. -/
theorem C06_release_unlocked_own (e : EnvId) (t : Task) (h : t.parent = some e ∨ t.parent = none) :
    releaseTask e t = ({ t with parent := none }, true) := by
  simp [releaseTask, releaseOk_of_parent e t h]

/-- **Lost executors / agents and the watcher's reactions keep the hypotheses of the
    clean-destroy theorem** (any number of them, on any hosts, with any STOP failures): the
    environment stays listed with the same task and hook references, its bookkeeping stays
    well-formed (`envWf`), roster and master still agree on the hosts, and a task of it that
    the core believes inactive has really ended (`statusFaithful`: the lost tasks have). -/
theorem C06_loss_keeps_hypotheses (s : State) (steps : List Step) (hl : steps.all Step.isLoss = true)
    (k : EnvId) (tasks : List TaskId) (hooks : List HookRef) (h : LossKeeps s k tasks hooks) :
    LossKeeps (run s steps) k tasks hooks :=
  lossKeeps_run steps hl s k tasks hooks h

/-- **After a destroy that answered success the environment is clean, also when executors or
    agents of its tasks were lost before** (and its watcher took it to ERROR or not) — the code
    as it is: same statement as `C06_destroyed_clean_code`, hypotheses stated on the state
    before the losses, plus `hostsAgree`. A lost DESTROY hook task is no longer ACTIVE and is
    released all the same. -/
theorem C06_destroyed_after_loss_clean_code (s : State) (hc : s.cfg = codeCfg) (steps : List Step)
    (hl : steps.all Step.isLoss = true)
    (k : EnvId) (force allow keep : Bool) (o : DOracle) (E : Env)
    (hE : s.env? k = some E) (hte : E.tearing = false) (hwf : envWf s k E.tasks = true) (hag : hostsAgree s E.tasks = true)
    (hfaith : statusFaithful s E.tasks = true) (hhk : ∀ h ∈ E.hooks, h.task ∈ E.tasks)
    (hok : (destroy (run s steps) k force allow keep o).2.1 = .ok) :
    destroyedClean k keep (viewOf (destroy (run s steps) k force allow keep o).1) = true :=
  have ⟨_, R', _, _, _⟩ := Tidy.afterLoss ⟨hE, hwf, hhk, hfaith⟩ hte hag steps hl
  R'.destroy_clean (hooksOk_code ((frame0_run s steps).cfg.trans hc) _) force allow keep o hok

/-- The same for the failure tail of a creation, which also returns. -/
theorem C06_failed_create_after_loss_clean_code (s : State) (hc : s.cfg = codeCfg) (steps : List Step)
    (hl : steps.all Step.isLoss = true)
    (k : EnvId) (late : Bool) (res : Res) (hf : List TaskId) (E : Env)
    (hE : s.env? k = some E) (hte : E.tearing = false) (hwf : envWf s k E.tasks = true) (hag : hostsAgree s E.tasks = true)
    (hfaith : statusFaithful s E.tasks = true) (hhk : ∀ h ∈ E.hooks, h.task ∈ E.tasks) (hres : res ≠ .hang) :
    (createFail (run s steps) k E.tasks late res hf).2 ≠ .hang ∧
    cleanAfter k false (viewOf (createFail (run s steps) k E.tasks late res hf).1) = true := by
  obtain ⟨E', R', a, _, c⟩ := Tidy.afterLoss ⟨hE, hwf, hhk, hfaith⟩ hte hag steps hl
  exact a ▸ R'.createFail_code c ((frame0_run s steps).cfg.trans hc) late res hf hres

/-- In every configuration, with the hook hypothesis at the destroy (a lost DESTROY hook task
    is no longer ACTIVE: in the legacy configuration that was finding destroy_hooks_unreleased again). -/
theorem C06_destroyed_after_loss_clean_partial (s : State) (steps : List Step) (hl : steps.all Step.isLoss = true)
    (k : EnvId) (force allow keep : Bool) (o : DOracle) (E : Env)
    (hE : s.env? k = some E) (hte : E.tearing = false) (hwf : envWf s k E.tasks = true) (hag : hostsAgree s E.tasks = true)
    (hfaith : statusFaithful s E.tasks = true) (hhk : ∀ h ∈ E.hooks, h.task ∈ E.tasks)
    (hrel : hooksReleasable (run s steps) E.hooks = true)
    (hok : (destroy (run s steps) k force allow keep o).2.1 = .ok) :
    destroyedClean k keep (viewOf (destroy (run s steps) k force allow keep o).1) = true :=
  have ⟨_, R', _, b, _⟩ := Tidy.afterLoss ⟨hE, hwf, hhk, hfaith⟩ hte hag steps hl
  R'.destroy_clean (b ▸ hooksOk_of_releasable hrel) force allow keep o hok

/-- The same for the failure tail of a creation, unless it hangs. -/
theorem C06_failed_create_after_loss_clean_partial (s : State) (steps : List Step) (hl : steps.all Step.isLoss = true)
    (k : EnvId) (late : Bool) (res : Res) (hf : List TaskId) (E : Env)
    (hE : s.env? k = some E) (hte : E.tearing = false) (hwf : envWf s k E.tasks = true) (hag : hostsAgree s E.tasks = true)
    (hfaith : statusFaithful s E.tasks = true) (hhk : ∀ h ∈ E.hooks, h.task ∈ E.tasks)
    (hrel : hooksReleasable (run s steps) E.hooks = true)
    (hnh : (createFail (run s steps) k E.tasks late res hf).2 ≠ .hang) :
    cleanAfter k false (viewOf (createFail (run s steps) k E.tasks late res hf).1) = true := by
  obtain ⟨E', R', a, b, c⟩ := Tidy.afterLoss ⟨hE, hwf, hhk, hfaith⟩ hte hag steps hl
  rw [← a] at hnh ⊢
  exact R'.createFail_clean c (b ▸ hooksOk_of_releasable hrel) late res hf hnh

/-- Two tasks on hosts 1 and 2, created and configured. -/
def lossSpec : EnvSpec :=
  { bad := .ok, dets := [0], roles := [{ kind := .task, cls := 1, host := 1 }, { kind := .task, cls := 2, host := 2 }] }

def lossState : State :=
  run (init false [1, 2, 3, 4]) [.createBegin 0 lossSpec, .createCleanup 0, .createInsert 0, .createSettle 0 {}]

def lossEnv : Env :=
  { id := 0, state := .CONFIGURED, dets := [0], tasks := [1, 2], hooks := [],
    calls := 0, pending := 0, started := 0, cancelled := 0, tearing := false }

/-- The hypotheses are satisfiable and the loss is not a no-op: the executor on host 1 is
    lost, the watcher takes the environment to ERROR; task 1 is then unlocked but still
    parented by environment 0; a forced destroy that keeps the tasks answers success and
    leaves no roster entry with environment 0 as owner. -/
example :
    lossState.env? 0 = some lossEnv ∧ envWf lossState 0 [1, 2] = true ∧ hostsAgree lossState [1, 2] = true ∧
    statusFaithful lossState [1, 2] = true ∧
    (viewOf (run lossState [.execLost 1, .watchError 0 []])).roster =
      [{ task := 1, owner := some 0, locked := false, state := none },
       { task := 2, owner := some 0, locked := true, state := some .CONFIGURED }] ∧
    (destroy (run lossState [.execLost 1, .watchError 0 []]) 0 true false true {}).2.1 = .ok ∧
    (viewOf (destroy (run lossState [.execLost 1, .watchError 0 []]) 0 true false true {}).1).roster =
      [{ task := 1, owner := none, locked := false, state := none },
       { task := 2, owner := none, locked := false, state := none }] := by decide

/-- `cleanAfter` rejects what a release that skips unlocked tasks would leave: the same view
    with task 1 still owned by the destroyed environment. -/
example : cleanAfter 0 true
    { roster := [{ task := 1, owner := some 0, locked := false, state := none },
                 { task := 2, owner := none, locked := false, state := none }] } = false := by decide

/-- **A failing KILL call is reported, whatever comes after it in the loop**: the error of
    doKillTasks over a list is the disjunction of the errors over its parts — a failed kill
    followed by any number of successful ones still makes the call fail (and so does one
    preceded by successful ones). No hypothesis. -/
theorem C06_kill_error_not_reset (s : State) (a b : List Task) :
    killErr s (a ++ b) = (killErr s a || killErr s b) := by
  simp [killErr, List.any_append]

/-- … and it is reported exactly when some ACTIVE task of the list has its KILL call failing. -/
theorem C06_kill_error_iff (s : State) (tk : List Task) :
    killErr s tk = true ↔ ∃ t ∈ tk, t.active = true ∧ t.id ∈ s.refusing := by
  simp [killErr, List.any_eq_true]

/-- **A task whose KILL call failed is put back**: it is in the roster afterwards exactly as it
    was handed to doKillTasks (unlocked: Cleanup / KillTasks pick unlocked tasks only), the
    master's row for it is untouched (it keeps running, no KILL is counted), and the call
    reports the error. -/
theorem C06_failed_kill_put_back (s : State) (tk : List Task) (t : Task) (ht : t ∈ tk) (ha : t.active = true)
    (hr : t.id ∈ s.refusing) :
    t ∈ (doKill s tk).roster ∧ (∀ m ∈ s.master, m.id = t.id → m ∈ (doKill s tk).master) ∧ killErr s tk = true := by
  refine ⟨?_, ?_, (C06_kill_error_iff s tk).mpr ⟨t, ht, ha, hr⟩⟩
  · rw [doKill_roster]
    exact List.mem_append.mpr (Or.inr (List.mem_filter.mpr ⟨List.mem_filter.mpr ⟨ht, ha⟩, by simpa using hr⟩))
  · exact fun m hm hid => doKill_master_mem s tk m hm (fun u _ _ hnr hue => hnr ((hue.trans hid) ▸ hr))

/-- **A clean-up that met a failing KILL call makes doTeardownAndCleanup answer an error** — after a
    teardown that completed, with tasks not to be kept; the environment is gone all the same
    (the state is the cleaned-up one). With keepTasks nothing is killed and nothing can fail. -/
theorem C06_failed_kill_is_error (s' : State) (ids : List TaskId) (tr : List TEv) :
    (cleanupTasksErr s' ids = true → (tcFin false ids s' .ok tr).2.1 = .err) ∧
    (cleanupTasksErr s' ids = false → (tcFin false ids s' .ok tr).2.1 = .ok) ∧
    (tcFin false ids s' .ok tr).1 = cleanupTasks s' ids ∧
    (tcFin true ids s' .ok tr) = (s', .ok, tr) := by
  refine ⟨fun h => by simp [tcFin, h], fun h => by simp [tcFin, h], by simp [tcFin], by simp [tcFin]⟩

/-- **A destroy that answers success killed every task of the environment** (unless asked to
    keep them) — the code as it is, hypotheses of `C06_destroyed_clean_code`, whatever KILL calls fail: none of
    the environment's tasks is left running without a KILL, not even unowned in the roster. Contrapositive: a
    destroy that could not have one of the environment's tasks killed does not answer success. -/
theorem C06_success_means_all_killed (s : State) (hc : s.cfg = codeCfg) (k : EnvId) (force allow : Bool) (o : DOracle) (E : Env)
    (hE : s.env? k = some E) (hwf : envWf s k E.tasks = true) (hhk : ∀ h ∈ E.hooks, h.task ∈ E.tasks)
    (hfaith : statusFaithful s E.tasks = true)
    (hok : (destroy s k force allow false o).2.1 = .ok) :
    allKilled k (viewOf (destroy s k force allow false o).1) = true :=
  destroyedClean_killed (Tidy.destroy_clean ⟨hE, hwf, hhk, hfaith⟩ (hooksOk_code hc _) force allow false o hok)

/-- The environment of `lossState` when the KILL call for task 1 fails (and the one for task 2 does not). -/
def refusingState : State := (step lossState (.killFault [1])).1

/-- Non-vacuity, and the clause at work: the plain destroy completes its teardown (the environment
    is gone, both tasks released), task 2 is killed, the KILL call for task 1 fails: the task sits
    in the roster again, unowned, still running — and the request answers an error although a
    later kill of the same loop succeeded. `cleanAfter` accepts that view (it is what a failed
    creation may leave), `destroyedClean` — what a destroy that answered success would have to
    satisfy — rejects it. Without the fault the same destroy answers success and kills both. -/
example :
    (destroy refusingState 0 false false false {}).2.1 = .err ∧
    (viewOf (destroy refusingState 0 false false false {}).1).envs = [] ∧
    (viewOf (destroy refusingState 0 false false false {}).1).roster = [{ task := 1, owner := none, locked := false, state := none }] ∧
    (viewOf (destroy refusingState 0 false false false {}).1).master =
      [{ task := 1, label := 0, mesos := .running, killed := false }, { task := 2, label := 0, mesos := .terminal, killed := true }] ∧
    cleanAfter 0 false (viewOf (destroy refusingState 0 false false false {}).1) = true ∧
    destroyedClean 0 false (viewOf (destroy refusingState 0 false false false {}).1) = false ∧
    (destroy lossState 0 false false false {}).2.1 = .ok ∧
    destroyedClean 0 false (viewOf (destroy lossState 0 false false false {}).1) = true ∧
    -- the next cleanup, once the fault is over, finds the task
    (step (step (destroy refusingState 0 false false false {}).1 (.killFault [])).1 .cleanup).2 = .ok ∧
    (viewOf (step (step (destroy refusingState 0 false false false {}).1 (.killFault [])).1 .cleanup).1).roster = [] := by decide

/-- **The failure tail of a creation only logs a failing KILL call**: the creation answers its own
    error, and the task is back in the roster, unowned — `cleanAfter` holds (it falls to the next
    cleanup), which is all a failed creation obliges (`C06_failed_create_clean_code` is proved for
    every `s.refusing`). -/
example :
    (createFail refusingState 0 [1, 2] false .errConfigure).2 = .errConfigure ∧
    (viewOf (createFail refusingState 0 [1, 2] false .errConfigure).1).roster = [{ task := 1, owner := none, locked := false, state := none }] ∧
    cleanAfter 0 false (viewOf (createFail refusingState 0 [1, 2] false .errConfigure).1) = true ∧
    allKilled 0 (viewOf (createFail refusingState 0 [1, 2] false .errConfigure).1) = false := by decide

/-- **The model's doKillTasks error is the code's**: go/ast of core/task/manager.go finds, in
    doKillTasks, the result of every `m.doKillTask(task)` bound to a variable of the loop body (never to
    the function's result `err`), the result `err` assigned only inside the branch taken when
    that variable is not nil, only from a constructor call (`errors.New` / `fmt.Errorf`), with
    `m.roster.append(task)` in the same branch, every `return` of the function bare; Cleanup and
    KillTasks assign `err` from doKillTasks once and never again, doCleanupTasks assigns its `err`
    only from Cleanup / KillTasks, and doTeardownAndCleanup returns an error status in the branch
    `err != nil` after doCleanupTasks. An error that a later kill can reset breaks this theorem. -/
theorem C06_kill_error_is_code :
    Gen.killErrorSticky = true ∧ Gen.killErrorHandedOn = true ∧ Gen.killErrorCounts = (1, 1, 1, 0) := by decide

/-- **DESTROY hooks run only after the other tasks were released**: if a teardown triggers a
    DESTROY hook at all, then the first thing it did was the ReleaseTasks message naming every
    task of the environment that is not a DESTROY hook, that message met no release error, and in
    the state the hooks run in none of those tasks is locked any more. -/
theorem C06_destroy_hooks_after_release (s : State) (k : EnvId) (force late : Bool) (hf : List TaskId) (E : Env)
    (hE : s.env? k = some E) (hs : List TaskId) (hh : TEv.hooks hs ∈ (teardown s k force late hf).2.2) :
    (teardown s k force late hf).2.2.head? = some (.release (tdPlain E)) ∧
    (releaseTasks s k (tdPlain E)).2 = 0 ∧
    (∀ t ∈ (releaseTasks s k (tdPlain E)).1.roster, t.id ∈ tdPlain E → t.isLocked = false) ∧
    (∀ x ∈ E.tasks, x ∉ effHooks E.hooks → x ∈ tdPlain E) :=
  teardown_hooks_after_release s k force late hf E hE hs hh

/-- The full-strength liveness claim: every maximal schedule of the rendezvous, as configuration
    `c` runs it, ends with TeardownEnvironment returned. -/
def C06_teardown_returns_full (c : Cfg) : Prop :=
  ∀ st ∈ Rdv.reach (Rdv.atomicOf c) 12 [{}], Rdv.stuck (Rdv.atomicOf c) st = true → Rdv.done st = true

/-- **Every maximal schedule of the rendezvous ends with TeardownEnvironment returned** — the
    code as it is: the event loop takes the entry out of the map in the critical section that
    looked it up, so the only entry it ever removes is the one it hands the event to (all
    reachable states of the protocol, enumerated in the kernel). -/
theorem C06_teardown_returns_code : C06_teardown_returns_full codeCfg := by
  unfold C06_teardown_returns_full
  decide

/-- **Finding teardown_registration_race** (fixed; a statement about the code as it was): the
    schedule register · send · recv · handoff · *register* · delete · send · recv was a run of
    the code (the loop's `delete` fell after TeardownEnvironment's second `register`); it ended
    with the second event dropped and TeardownEnvironment waiting for ever at its second
    `<-pendingCh`. -/
theorem C06_finding_teardown_registration_race : ¬ C06_teardown_returns_full legacyCfg := by
  intro h
  have hrun : Rdv.run false {} [.register, .send, .recv, .handoff, .register, .delete, .send, .recv] =
      some { entry := none, nextCh := 3, queue := 0, loop := .idle, td := 5, waitCh := 2 } := by decide
  have hmem : ({ entry := none, nextCh := 3, queue := 0, loop := .idle, td := 5, waitCh := 2 } : Rdv.St) ∈
      Rdv.reach (Rdv.atomicOf legacyCfg) 12 [{}] := by decide
  have := h _ hmem (by decide)
  revert this
  decide

/-- **The model's event loop is the code's**: go/ast of core/environment/manager.go, `case
    *event.TasksReleasedEvent`, finds the one lookup of pendingTeardownsCh between `mu.Lock()`
    and the next `mu.Unlock()`, the one `delete(pendingTeardownsCh, …)` of the clause inside that
    section, and no channel send inside it. Reverting notes/C06.fix-1.patch breaks this theorem. -/
theorem C06_rendezvous_is_code : codeCfg.lateDelete = !Gen.entryRemovedInLookupSection ∧
    Rdv.atomicOf codeCfg = Gen.entryRemovedInLookupSection ∧ Gen.rendezvousCounts = (1, 1, 1, 0, true) := by decide

/-- **The model's second ReleaseTasks message is the code's**: go/ast of TeardownEnvironment
    finds `taskmanMessage` re-assigned once, outside every loop, from a list that is only ever
    appended to with the unfiltered `FilterTasks()` of a weight. Reverting notes/C06.fix-2.patch
    breaks this theorem. -/
theorem C06_hook_release_is_code : codeCfg.lastWeightOnly = !Gen.hookReleaseAllWeights ∧
    Gen.hookReleaseCounts = (1, 0) := by decide

/-- **In the main model a teardown of the code as it is never answers "hang"**, whatever the
    oracle `late` says, unless an earlier one already hung in some environment. -/
theorem C06_teardown_never_hangs_code (s : State) (hc : s.cfg = codeCfg) (k : EnvId) (force late : Bool) (hf : List TaskId)
    (h : ∀ E ∈ s.envs, E.tearing = false) : (teardown s k force late hf).2.1 ≠ .hang :=
  teardown_not_hang s k force late hf (fun E hE => h E (env?_some hE).1) (by simp [hc, codeCfg])

/-- In every configuration the race is the oracle `late`: without it a teardown never answers
    "hang" unless an earlier one already hung in some environment. -/
theorem C06_teardown_returns_partial (s : State) (k : EnvId) (force : Bool) (hf : List TaskId)
    (h : ∀ E ∈ s.envs, E.tearing = false) : (teardown s k force false hf).2.1 ≠ .hang :=
  teardown_not_hang s k force false hf (fun E hE => h E (env?_some hE).1) (by simp)

/-- **The creation cut at the critical sections of the transition mutex is `createSettle`**: DEPLOY,
    then CONFIGURE or — after a failed section — GO_ERROR, the forced teardown and KillTasks, run one
    after the other with nothing in between, are the one-step settle of the model, in every state
    of every run without free-standing claim steps (`Inv`: an inserted pending creation's environment is
    listed). The monitor places the attempts of a waiting destroy between these sections. -/
theorem C06_settle_pieces (s : State) (k : EnvId) (o : SettleOracle) (h : Inv s) :
    settleSeq s k o = createSettle s k o :=
  settle_pieces_inv s k o h

/-- **doTeardownAndCleanup is a first TeardownEnvironment attempt and, if that one answered an
    error without being forced, a forced retry** on the state the first attempt left (state and answer). -/
theorem C06_teardown_and_cleanup_is_attempts (s : State) (k : EnvId) (ids : List TaskId) (force keep : Bool) (o : DOracle) :
    ((teardownAndCleanup s k ids force keep o).1, (teardownAndCleanup s k ids force keep o).2.1) =
      match lateAttempt s k ids force keep o with
      | some r => (r.1, r.2.1)
      | none => ((lateRetry (teardown s k force o.late1 o.hookFails).1 k ids keep o).1,
                 (lateRetry (teardown s k force o.late1 o.hookFails).1 k ids keep o).2.1) :=
  tac_attempts s k ids force keep o

/-- **A destroy that had to wait for the creation and answers success leaves the environment
    clean** — the code as it is. `s` is the state in which the attempt (the first one, or the forced
    retry) is SERVED, i.e. gets the transition mutex: right after DEPLOY, after CONFIGURE, after a
    failed section, after GO_ERROR; `E` is the environment as listed then — in particular with the
    task list it has then (the tasks acquireTasks handed to the roles at the very end of DEPLOY), not
    the one it had when the request arrived. Hypotheses as in `C06_destroyed_clean_code`, on `s`. -/
theorem C06_overlapping_destroy_clean_code (s : State) (hc : s.cfg = codeCfg) (k : EnvId) (force keep : Bool)
    (o : DOracle) (E : Env)
    (hE : s.env? k = some E) (hwf : envWf s k E.tasks = true) (hhk : ∀ h ∈ E.hooks, h.task ∈ E.tasks)
    (hfaith : statusFaithful s E.tasks = true) :
    (∀ r, lateAttempt s k (envTaskIds s k) force keep o = some r → r.2.1 = .ok → destroyedClean k keep (viewOf r.1) = true) ∧
    ((lateRetry s k (envTaskIds s k) keep o).2.1 = .ok →
      destroyedClean k keep (viewOf (lateRetry s k (envTaskIds s k) keep o).1) = true) :=
  waiting_destroy_clean s k force keep o E ⟨hE, hwf, hhk, hfaith⟩ (hooksOk_code hc _)

/-- The same in every configuration, with the hook hypothesis. -/
theorem C06_overlapping_destroy_clean_partial (s : State) (k : EnvId) (force keep : Bool)
    (o : DOracle) (E : Env)
    (hE : s.env? k = some E) (hwf : envWf s k E.tasks = true) (hhk : ∀ h ∈ E.hooks, h.task ∈ E.tasks)
    (hrel : hooksReleasable s E.hooks = true) (hfaith : statusFaithful s E.tasks = true) :
    (∀ r, lateAttempt s k (envTaskIds s k) force keep o = some r → r.2.1 = .ok → destroyedClean k keep (viewOf r.1) = true) ∧
    ((lateRetry s k (envTaskIds s k) keep o).2.1 = .ok →
      destroyedClean k keep (viewOf (lateRetry s k (envTaskIds s k) keep o).1) = true) :=
  waiting_destroy_clean s k force keep o E ⟨hE, hwf, hhk, hfaith⟩ (hooksOk_of_releasable hrel)

/-- **An attempt served after the environment was taken away** (by the failing creation's own
    teardown) **answers "not found" and changes nothing**: the destroy does not answer success for
    something it did not do. -/
theorem C06_overlapping_destroy_gone (s : State) (k : EnvId) (ids : List TaskId) (force keep : Bool) (o : DOracle)
    (h : s.env? k = none) :
    (lateRetry s k ids keep o).2.1 = .notfound ∧ (lateRetry s k ids keep o).1 = s ∧
    (∀ r, lateAttempt s k ids force keep o = some r → r.2.1 = .notfound ∧ r.1 = s) :=
  lateAttempt_gone s k ids force keep o h

/-- **The coarse rule**: a destroy or a control request on an environment whose creation is
    pending (begun, not yet settled) is not served — the model's `destroy` / `control` step leaves
    the state as it is and answers nothing (DEPLOY / CONFIGURE hold the transition mutex). -/
theorem C06_destroy_waits_for_creation (s : State) (k : EnvId) (h : ∃ p ∈ s.creating, p.id = k) :
    (∀ force allow keep o, destroy s k force allow keep o = (s, .noop, [])) ∧
    (∀ ev fails pre, control s k ev fails pre = (s, .noop)) :=
  ⟨fun f a kp o => destroy_pending_noop s k f a kp o h, fun ev fl pre => control_pending_noop s k ev fl pre h⟩

/-- … hence, in the coarse model, **a destroy issued between the insertion and the settling of a
    creation makes no difference**: the run with it is the run without it, whatever follows — the
    destroy that follows the settling is the one that counts. -/
theorem C06_overlap_is_sequential (s : State) (k : EnvId) (force allow keep : Bool) (o : DOracle) (rest : List Step)
    (hs : s.crashed = false) (h : ∃ p ∈ s.creating, p.id = k) :
    run s (.destroy k force allow keep o :: rest) = run s rest := by
  simp only [run, step, hs, Bool.false_eq_true, if_false]
  rw [destroy_pending_noop s k force allow keep o h]

/-- **A forced destroy that waited for the creation and is served once it has settled is the
    sequential forced destroy**: same state, same answer, same trace (a forced DestroyEnvironment
    goes straight to doTeardownAndCleanup whether or not it had to wait). For a destroy that is not
    forced the two differ in the way they take (the sequential one RESETs a CONFIGURED environment
    first, the waiting one evaluated its decision tree on STANDBY / DEPLOYED and retries forced);
    both leave the environment clean (`C06_destroyed_clean_code`, `C06_overlapping_destroy_clean_code`). -/
theorem C06_forced_overlap_is_sequential_destroy (s : State) (k : EnvId) (allow keep : Bool) (o : DOracle) (E : Env)
    (hp : ∀ p ∈ s.creating, p.id ≠ k) (hE : s.env? k = some E) (hte : E.tearing = false) :
    lateAttempt s k (envTaskIds s k) true keep o = some (destroy s k true allow keep o) := by
  simp [destroy, lateAttempt, teardownAndCleanup, envTaskIds, anyPending_false hp, hE, hte]

/-- **Created, then destroyed: nothing is left — from the state before the creation, with no
    hypothesis about the state the destroy finds.** `s0` is any state of any run without free-standing claim
    steps (`Inv`) in which nothing refers to `k` yet (`freshEnv`: environment ids are fresh), without reuse of unlocked
    tasks; the creation of `k` (any workflow, any oracle that loses no executor while the tasks
    are configured) runs and succeeds. Then, the code as it is,
      * the destroy that follows it (any flags, any oracle) and answers success,
      * the destroy that was issued DURING the creation, waited for the transition mutex and is
        served once the creation has settled — its first attempt or its forced retry — and answers
        success
    leave the environment clean. The hypotheses `envWf` / `statusFaithful` of
    `C06_destroyed_clean_code` are established by the creation itself (`settle_tidy`). -/
theorem C06_created_then_destroyed_clean_code (s0 : State) (h : Inv s0) (hc : s0.cfg = codeCfg) (hr : s0.reuse = false)
    (k : EnvId) (hfr : freshEnv s0 k = true) (spec : EnvSpec) (o : SettleOracle) (hl : o.lost = [])
    (hok : (createSettle (run s0 [.createBegin k spec, .createCleanup k, .createInsert k]) k o).2 = .okState .CONFIGURED)
    (force allow keep : Bool) (od : DOracle) :
    let s4 := (createSettle (run s0 [.createBegin k spec, .createCleanup k, .createInsert k]) k o).1
    ((destroy s4 k force allow keep od).2.1 = .ok → destroyedClean k keep (viewOf (destroy s4 k force allow keep od).1) = true) ∧
    (∀ r, lateAttempt s4 k (envTaskIds s4 k) force keep od = some r → r.2.1 = .ok → destroyedClean k keep (viewOf r.1) = true) ∧
    ((lateRetry s4 k (envTaskIds s4 k) keep od).2.1 = .ok →
      destroyedClean k keep (viewOf (lateRetry s4 k (envTaskIds s4 k) keep od).1) = true) := by
  intro s4
  have h3 : Inv (run s0 [.createBegin k spec, .createCleanup k, .createInsert k]) := inv_run s0 _ (by simp [noClaimSteps, Step.isClaim]) h
  have rc := frame0_run s0 [.createBegin k spec, .createCleanup k, .createInsert k]
  obtain ⟨E, R⟩ := settle_tidy _ k o h3 (rc.reuse.trans hr) (freshEnv_prefix s0 k spec hfr) hl hok
  have hc4 : s4.cfg = codeCfg := (((frame_keeps k _).createSettle o (.refl k _)).cfg.trans rc.cfg).trans hc
  have ov := C06_overlapping_destroy_clean_code s4 hc4 k force keep od E R.listed R.wf R.hooks R.faithful
  exact ⟨fun hd => C06_destroyed_clean_code s4 k force allow keep od E hc4 R.listed R.wf R.hooks R.faithful hd, ov.1, ov.2⟩

/-- **… and the destroy that is served right after DEPLOY** — before the creation's CONFIGURE,
    which then finds the environment gone — **leaves it clean as well**: `s` is the state in which
    the creation of `k` has been inserted (nothing refers to `k` yet), `s1` / `m` what a successful
    DEPLOY leaves; the waiting destroy's attempt (or forced retry) served in `s1` that answers
    success has released and (unless asked to keep them) killed every task DEPLOY acquired. -/
theorem C06_destroyed_after_deploy_clean_code (s : State) (h : Inv s) (hc : s.cfg = codeCfg) (hr : s.reuse = false)
    (k : EnvId) (hfr : freshEnv s k = true) (o : SettleOracle) (s1 : State) (m : Mid) (r : Res)
    (hd : settleDeploy s k o = (s1, some m, r)) (hm : m.res = .noop) (force keep : Bool) (od : DOracle) :
    (∀ r', lateAttempt s1 k (envTaskIds s1 k) force keep od = some r' → r'.2.1 = .ok → destroyedClean k keep (viewOf r'.1) = true) ∧
    ((lateRetry s1 k (envTaskIds s1 k) keep od).2.1 = .ok →
      destroyedClean k keep (viewOf (lateRetry s1 k (envTaskIds s1 k) keep od).1) = true) := by
  obtain ⟨E, R⟩ := deploy_tidy s k o h hr hfr hd hm
  have hcfg : s1.cfg = s.cfg := by
    have := ((frame_keeps k s).settleDeploy o (.refl k s)).cfg
    rwa [hd] at this
  exact C06_overlapping_destroy_clean_code s1 (hcfg.trans hc) k force keep od E R.listed R.wf R.hooks R.faithful

/-- **The model's teardown reads the environment under the transition mutex, as the code does**:
    go/ast of TeardownEnvironment finds the lookup, then `if !env.transitionMutex.TryLock() { …
    env.transitionMutex.Lock() … }` directly followed by `defer env.transitionMutex.Unlock()`, no use of
    `env.…` before that statement, and reads of `env.Workflow()` after it — whatever the teardown
    learns about the environment (state, task list, hooks) it learns about the environment as it
    is when the teardown is served, which is what `teardown s k` applied to the serve state `s`
    says. A read moved in front of the wait breaks this theorem. -/
theorem C06_teardown_reads_under_mutex_is_code :
    Gen.teardownReadsUnderMutex = true ∧ Gen.teardownMutexCounts.1 = 0 ∧ 0 < Gen.teardownMutexCounts.2 := by decide

/-- Non-vacuity of `C06_created_then_destroyed_clean_code`: its hypotheses hold of the initial
    state, the creation of `lossSpec` succeeds, and both a sequential plain destroy and a waiting
    destroy that is not forced (first attempt refused in CONFIGURED, forced retry) answer success. -/
example :
    freshEnv (init false [1, 2, 3, 4]) 0 = true ∧
    (createSettle (run (init false [1, 2, 3, 4]) [.createBegin 0 lossSpec, .createCleanup 0, .createInsert 0]) 0 {}).2 = .okState .CONFIGURED ∧
    (destroy lossState 0 false false false {}).2.1 = .ok ∧
    lateAttempt lossState 0 (envTaskIds lossState 0) false false {} = none ∧
    (lateRetry lossState 0 (envTaskIds lossState 0) false {}).2.1 = .ok := by decide

/-- Two tasks on hosts 1 and 2; the creation is past DEPLOY (both tasks acquired, handed to
    their roles) and has not entered CONFIGURE. -/
def overlapMid : State × Option Mid × Res :=
  settleDeploy (run (init false [1, 2, 3, 4]) [.createBegin 0 lossSpec, .createCleanup 0, .createInsert 0]) 0 {}

/-- Non-vacuity, on the schedule the real core was seen to follow least often and that matters
    most: the waiting destroy is served right after DEPLOY. The hypotheses hold of that state; the
    first attempt answers success, has released tasks 1 and 2 (the list the environment has THEN;
    when the request arrived it was empty) and killed them; CONFIGURE then finds the environment
    gone and the creation answers an error after a failure tail that has nothing left to do. -/
example :
    (∃ m, overlapMid.2.1 = some m ∧ m.res = .noop ∧ m.ids = [1, 2]) ∧
    (overlapMid.1.env? 0).map (·.tasks) = some [1, 2] ∧
    envWf overlapMid.1 0 [1, 2] = true ∧ statusFaithful overlapMid.1 [1, 2] = true ∧
    (∃ r, lateAttempt overlapMid.1 0 (envTaskIds overlapMid.1 0) false false {} = some r ∧ r.2.1 = .ok ∧
      r.2.2.head? = some (.release [1, 2]) ∧
      (viewOf r.1).envs = [] ∧ (viewOf r.1).roster = [] ∧
      (viewOf r.1).master = [{ task := 1, label := 0, mesos := .terminal, killed := true },
                             { task := 2, label := 0, mesos := .terminal, killed := true }] ∧
      cleanAfter 0 false (viewOf r.1) = true ∧
      (∀ m, overlapMid.2.1 = some m → (settleConfigure r.1 m).2.res = .errConfigure ∧
        (settleTail (settleConfigure r.1 m).1 (settleConfigure r.1 m).2).2 = .errConfigure ∧
        viewOf (settleTail (settleConfigure r.1 m).1 (settleConfigure r.1 m).2).1 = viewOf r.1)) := by
  refine ⟨⟨_, rfl, by decide, by decide⟩, by decide, by decide, by decide, ⟨_, rfl, by decide, by decide, by decide, by decide, by decide, by decide, ?_⟩⟩
  intro m hm
  have : m = (overlapMid.2.1).get (by decide) := by simp [hm]
  subst this
  decide

/-- `cleanAfter` rejects what a teardown working on the task list of the moment the request
    arrived (empty: DEPLOY had not handed the tasks over yet) leaves: the destroy answered success,
    the environment is gone, and both tasks are still locked by it. -/
example : cleanAfter 0 false
    { roster := [{ task := 1, owner := some 0, locked := true, state := some .CONFIGURED },
                 { task := 2, owner := some 0, locked := true, state := some .CONFIGURED }],
      master := [{ task := 1, label := 0, mesos := .running, killed := false },
                 { task := 2, label := 0, mesos := .running, killed := false }] } = false := by decide

/-- The full-strength liveness claim for the lookup: every maximal schedule of a
    TeardownEnvironment's lookup (goroutine T) and a writer of `envs.mu` (goroutine W) ends with
    both through. `nested`: T takes the read lock twice, as the code did before the `fix:` commit that removed the
    outer pair. -/
def C06_lookup_returns_full (nested : Bool) : Prop :=
  ∀ st ∈ Rw.reach nested 7 [{}], Rw.stuck nested st = true → Rw.done nested st = true

/-- **Finding teardown_recursive_rlock** (fixed; a statement about the code as it was): the schedule RLock (T) · Lock
    announced (W) was a run of the code; in the state it leads to T's second RLock waits for the writer, the writer waits
    for T's first read lock, and nothing else can move: the environment manager's mutex is dead. -/
theorem C06_finding_teardown_recursive_rlock : ¬ C06_lookup_returns_full true := by
  intro h
  have hrun : Rw.run true {} [.rlock, .wannounce] = some { readers := 1, pending := true, writer := false, t := 1, w := 1 } := by decide
  have hmem : ({ readers := 1, pending := true, writer := false, t := 1, w := 1 } : Rw.St) ∈ Rw.reach true 7 [{}] := by decide
  have := h _ hmem (by decide)
  revert this
  decide

/-- Without a writer around (W already through) every schedule of the nested lookup completes:
    the defect needs a `Lock()` between the two `RLock()`s. -/
theorem C06_lookup_returns_partial :
    ∀ st ∈ Rw.reach true 7 [{ w := 3 }], Rw.stuck true st = true → Rw.done true st = true := by decide

/-- With the outer `RLock` / `RUnlock` pair removed (`environment()` locks for itself) every
    maximal schedule ends with both goroutines through (all reachable states, enumerated in the kernel). -/
theorem C06_lookup_returns_repaired : C06_lookup_returns_full false := by
  unfold C06_lookup_returns_full
  decide

/-- **The look-up of TeardownEnvironment returns, for the code as it is** (`Rw.nestedInCode = false`
    since the `fix:` commit; tied to the source by `C06_lookup_is_code`): every maximal schedule of the
    read-lock protocol against a writer ends with the look-up done. -/
theorem C06_lookup_returns_code : C06_lookup_returns_full Rw.nestedInCode :=
  C06_lookup_returns_repaired

/-- **The model's lookup is the code's**: go/ast of core/environment/manager.go finds the call
    `envs.environment(…)` of TeardownEnvironment outside any `envs.mu.RLock()` … `envs.mu.RUnlock()` of the caller,
    and the `envs.mu.RLock()` inside `environment` itself. A read lock put around the call again breaks this theorem
    (and re-opens the finding). -/
theorem C06_lookup_is_code : Rw.nestedInCode = Gen.teardownLookupNestedRLock ∧ Gen.teardownLookupLocks = (false, true) := by decide

/-- In the ownership model the deadlock is the two teardowns of environment `k` never returning:
    `k` stays listed, marked as being torn down for ever; roster, master and the listed ids stay as they
    are. -/
theorem C06_wedge_keeps_everything (s : State) (k : EnvId) :
    (wedgeTeardowns s k).roster = s.roster ∧ (wedgeTeardowns s k).master = s.master ∧
    (wedgeTeardowns s k).envs.map (·.id) = s.envs.map (·.id) ∧
    (∀ E ∈ (wedgeTeardowns s k).envs, E.id = k → E.tearing = true) := by
  refine ⟨rfl, rfl, map_map_keep (fun X => by split <;> rfl) _, fun E hE hk => ?_⟩
  obtain ⟨X, _, rfl⟩ := List.mem_map.mp hE
  split at hk
  · rename_i hX; rw [if_pos hX]
  · exact absurd hk ‹_›


/-- **When the lock loop fails**: some task of those launched cannot be locked iff some descriptor that was run is placed on
    a host whose offer carried no hostname (`blankHosts`) — every other identity field of a new task record is there
    (newTaskForMesosOffer: agent id and offer id from the offer, executor id from the offer or fresh, a fresh task id, the
    parent role set before `IsLocked()` is asked). -/
theorem C06_lock_failure_iff (s : State) (k : EnvId) (toRun : List (Nat × RoleSpec)) (o : SettleOracle) :
    lockFailure (launchedTasks s k toRun o) = true ↔ ∃ t ∈ launchedTasks s k toRun o, t.host ∈ blankHosts s o := by
  simp only [lockFailure, List.any_eq_true]
  refine exists_congr fun t => and_congr_right fun ht => ?_
  rw [launched_locked s k toRun o t ht]; simp

/-- … and `Fields.locked` on the record is `isLocked`, the predicate every ownership guard of the core reads. -/
theorem C06_cannot_be_locked_is_isLocked (t : Task) : t.isLocked = t.fields.locked := isLocked_fields t

/-- **The failed lock loop un-parents everything it launched** (every configuration with the code's blanket un-parenting):
    a roster entry after acquireTasks' failed tail is an old one, untouched, or a new one (fresh id) without a parent and
    unlocked — whether it had locked in the loop or not. The listing and the tasks the roles reference are as before. -/
theorem C06_lock_failure_detaches_all_code (s : State) (k : EnvId) (toRun : List (Nat × RoleSpec)) (o : SettleOracle)
    (hc : s.cfg.detachOnSpot = false) :
    (∀ t ∈ (acquireUnlocked s k toRun o).roster, t ∈ s.roster ∨ (t.parent = none ∧ t.isLocked = false ∧ s.nextTask ≤ t.id)) ∧
    (acquireUnlocked s k toRun o).envs = s.envs :=
  ⟨lockFail_unowned s k toRun o hc, rfl⟩

/-- The full-strength claim, for configuration `c`: a creation that fails in acquireTasks' lock loop — from the state in
    which the settling creation finds itself: a state of a run without free-standing claim steps (`Inv`), the creation
    inserted, nothing referring to `k` yet (`freshEnv`), every wanted host offering, some launched task not lockable — answers the deployment error and leaves the
    environment clean; in particular no roster task has `k` as parent. -/
def C06_failed_in_lock_loop_clean_full (c : Cfg) : Prop :=
  ∀ (s : State) (k : EnvId) (o : SettleOracle) (p : Pending), Inv s → s.cfg = c → s.pending? k true = some p → freshEnv s k = true →
    (∀ d ∈ descriptors p.spec, d.2.host ∈ s.hosts) →
    lockFailure (launchedTasks (dropPending s k) k
      ((descriptors p.spec).filter (fun d => decide (d.1 ∉ (claimsOf (dropPending s k) p).map (·.1)))) o) = true →
    (createSettle s k o).2 = .errDeploy ∧ cleanAfter k false (viewOf (createSettle s k o).1) = true ∧
    (∀ t ∈ (createSettle s k o).1.roster, t.parent ≠ some k)

/-- **A creation that fails in acquireTasks' lock loop leaves nothing behind** — the code as it is, every state the
    full-strength claim speaks of, every oracle (which hosts' offers lacked the hostname, which of the launched tasks had
    reported when the roster is swept, the rendezvous oracle): the creation answers the deployment error, `k` is not
    listed, NO roster task is owned by it — the siblings of the unlockable task, which did lock in the loop, included —,
    every task launched for it was killed, has ended or sits unowned in the roster, its detectors are free, its calls
    cancelled. -/
theorem C06_failed_in_lock_loop_clean_code : C06_failed_in_lock_loop_clean_full codeCfg := by
  intro s k o p h hc hp hfr hhosts hlf
  have hnc : s.reuse = false ∨ s.cfg.unlockUnpaired = false := Or.inr (by simp [hc, codeCfg])
  have hnh := settle_lockFail_not_hang s h (by simp [hc, codeCfg]) k o p hp hhosts hnc hlf
  exact settle_lockFail_clean s h (by simp [hc, codeCfg]) k o p hp hfr hhosts hnc hlf hnh

/-- The same in every configuration that has the code's blanket un-parenting (the code as it was included), unless the
    failure tail's teardown hangs (legacy: the rendezvous race) or the process died at a complete claim (legacy). -/
theorem C06_failed_in_lock_loop_clean_partial (s : State) (h : Inv s) (hc : s.cfg.detachOnSpot = false)
    (k : EnvId) (o : SettleOracle) (p : Pending) (hp : s.pending? k true = some p) (hfr : freshEnv s k = true)
    (hhosts : ∀ d ∈ descriptors p.spec, d.2.host ∈ s.hosts) (hnc : s.reuse = false ∨ s.cfg.unlockUnpaired = false)
    (hlf : lockFailure (launchedTasks (dropPending s k) k
      ((descriptors p.spec).filter (fun d => decide (d.1 ∉ (claimsOf (dropPending s k) p).map (·.1)))) o) = true)
    (hnh : (createSettle s k o).2 ≠ .hang) :
    (createSettle s k o).2 = .errDeploy ∧ cleanAfter k false (viewOf (createSettle s k o).1) = true ∧
    (∀ t ∈ (createSettle s k o).1.roster, t.parent ≠ some k) :=
  settle_lockFail_clean s h hc k o p hp hfr hhosts hnc hlf hnh

/-- **What the failed creation left falls to the next Cleanup**: in any later state whose roster is the one the failed
    lock loop left (and while no KILL call fails; same configurations), a Cleanup takes every one of the appended entries
    out of the roster — what stays are old entries that are locked. -/
theorem C06_lock_failure_leftovers_fall_to_cleanup (s : State) (k : EnvId) (toRun : List (Nat × RoleSpec)) (o : SettleOracle)
    (hc : s.cfg.detachOnSpot = false) (s' : State) (hr : s'.roster = (acquireUnlocked s k toRun o).roster)
    (href : s'.refusing = []) :
    ∀ t ∈ (cleanup s').roster, t ∈ s.roster ∧ t.isLocked = true :=
  lockFail_next_cleanup s k toRun o hc s' hr href

/-- Three tasks on hosts 1, 2, 3. -/
def lockSpec : EnvSpec :=
  { bad := .ok, dets := [0], roles := [{ kind := .task, cls := 1, host := 1 }, { kind := .task, cls := 2, host := 2 },
                                       { kind := .task, cls := 3, host := 3 }] }

/-- The creation of `lockSpec` inserted, under configuration `c`. -/
def lockPre (c : Cfg := codeCfg) : State :=
  run (init false [1, 2, 3, 4] c) [.createBegin 0 lockSpec, .createCleanup 0, .createInsert 0]

/-- The offer for host 2 carried no hostname. -/
def lockOracle : SettleOracle := { blank := [2] }

/-- NOT the code: detach only the task that cannot be locked, on the spot. -/
def detachCfg : Cfg := { codeCfg with detachOnSpot := true }

/-- **The variant that is not the code is refuted**: with `detachOnSpot` the siblings of the unlockable task keep the
    parent role of an environment that is gone — the full-strength claim fails on the witness below (hypotheses: evaluated
    in the kernel; the invariant: `inv_run`). The theorems above depend on the blanket un-parenting. -/
theorem C06_detach_on_spot_leaves_owned : ¬ C06_failed_in_lock_loop_clean_full detachCfg := by
  intro h
  have hinv : Inv (lockPre detachCfg) := inv_run _ _ (by decide) (inv_init false [1, 2, 3, 4] detachCfg)
  have := h (lockPre detachCfg) 0 lockOracle
    { id := 0, spec := lockSpec, snapshot := [], cleaned := true, inserted := true, claims := none }
    hinv (by decide) (by rfl) (by decide) (by decide) (by decide)
  revert this
  decide

/-- The witness under the code as it is: the creation answers the deployment error, the environment is gone, the three
    tasks — two of which had locked — sit in the roster unowned and unlocked, none was killed, `cleanAfter` holds; the next
    cleanup sends each of them a KILL. Under `detachCfg`: tasks 1 and 3 are still owned by environment 0 and locked,
    `cleanAfter` fails, and neither Cleanup nor KillTasks (the pre-deployment cleanup of every later creation, CleanupTasks
    with or without ids) ever touches them. -/
example :
    (createSettle lockPre 0 lockOracle).2 = .errDeploy ∧
    (viewOf (createSettle lockPre 0 lockOracle).1).envs = [] ∧
    (viewOf (createSettle lockPre 0 lockOracle).1).roster =
      [{ task := 1, owner := none, locked := false, state := none }, { task := 2, owner := none, locked := false, state := none },
       { task := 3, owner := none, locked := false, state := none }] ∧
    ((createSettle lockPre 0 lockOracle).1.master.map (fun m => (m.id, m.mesos, m.killed))) =
      [(1, .running, false), (2, .running, false), (3, .running, false)] ∧
    cleanAfter 0 false (viewOf (createSettle lockPre 0 lockOracle).1) = true ∧
    ((step (createSettle lockPre 0 lockOracle).1 .cleanup).1.master.map (fun m => (m.id, m.killed))) = [(1, true), (2, true), (3, true)] ∧
    (step (createSettle lockPre 0 lockOracle).1 .cleanup).1.roster = [] ∧
    -- NOT the code
    (createSettle (lockPre detachCfg) 0 lockOracle).2 = .errDeploy ∧
    (viewOf (createSettle (lockPre detachCfg) 0 lockOracle).1).envs = [] ∧
    (viewOf (createSettle (lockPre detachCfg) 0 lockOracle).1).roster =
      [{ task := 1, owner := some 0, locked := true, state := some .STANDBY }, { task := 2, owner := none, locked := false, state := none },
       { task := 3, owner := some 0, locked := true, state := some .STANDBY }] ∧
    cleanAfter 0 false (viewOf (createSettle (lockPre detachCfg) 0 lockOracle).1) = false ∧
    ((step (step (createSettle (lockPre detachCfg) 0 lockOracle).1 .cleanup).1 (.killIds [1, 2, 3])).1.roster.map (fun t => (t.id, t.parent, t.isLocked))) =
      [(1, some 0, true), (3, some 0, true)] := by
  decide

/-- **The model's failure block of acquireTasks is the code's**: go/ast of core/task/manager.go finds the lock loop
    (`X.SetParent(role); if !X.IsLocked() { … deploymentSuccess = false }` over deployedTasks, under `if deploymentSuccess`)
    detaching nothing, the one top-level `if !deploymentSuccess` un-parenting EVERY task of deployedTasks (`X.SetParent(nil)`
    directly in the body of the range, under no further condition), no other `SetParent(nil)` in the function, every deployed
    task appended to the roster unconditionally, and every `SetTask` under `if deploymentSuccess`. A SetParent(nil) moved into
    the lock loop, a condition around the one in the failure block, a role that gets its task on failure: each breaks this
    theorem. (Both configurations of the code, as it is and as it was, have the blanket un-parenting.) -/
theorem C06_lock_failure_unparents_all_is_code :
    codeCfg.detachOnSpot = !Gen.lockFailureUnparentsAll ∧ legacyCfg.detachOnSpot = !Gen.lockFailureUnparentsAll ∧
    Gen.acquireTailCounts = (1, 1, 1, 1, 1, 1, 1, 2, 2) := ⟨by decide, by decide, by rfl⟩


/-- **No roster task is ever parented by an environment that is not listed**: after ANY sequence of steps from the initial
    state — creations cut into their atomic parts and failing at any stage (the lock loop included), control requests,
    destroys with any flags and any inner failure, cleanups, lost executors and agents, watcher reactions, failing KILL calls,
    status updates with absent fields; any oracles — every roster task that has a parent role belongs to an environment that
    IS listed and references it. (Without reuseUnlockedTasks and free-standing claim steps, in every configuration that has the
    code's blanket un-parenting after a failed lock loop and its release of the DESTROY hook tasks of all weights — `codeCfg`
    among them; `legacyCfg` is not: finding destroy_hooks_unreleased left hook tasks parented by a deleted environment.) -/
theorem C06_owner_always_listed (hosts : List Host) (c : Cfg) (hd : c.detachOnSpot = false) (hl : c.lastWeightOnly = false)
    (steps : List Step) (h : noClaimSteps steps = true) :
    ∀ t ∈ (run (init false hosts c) steps).roster, ∀ e, t.parent = some e →
      ∃ E ∈ (run (init false hosts c) steps).envs, E.id = e ∧ t.id ∈ E.tasks :=
  ol_run steps h (init false hosts c) (inv_init false hosts c) rfl hd hl (by intro t ht; simp [init] at ht)

/-- … in particular in the code as it is: **a task that is locked is locked to a listed environment** — there is no state
    of a run in which Cleanup and KillTasks (which spare locked tasks) spare a task of an environment that no longer exists. -/
theorem C06_locked_means_listed_code (hosts : List Host) (steps : List Step) (h : noClaimSteps steps = true) :
    ∀ t ∈ (run (init false hosts) steps).roster, t.isLocked = true →
      ∃ E ∈ (run (init false hosts) steps).envs, t.owner = some E.id ∧ t.id ∈ E.tasks := by
  intro t ht hlk
  cases hp : t.parent with
  | none => simp [Task.isLocked, hp] at hlk
  | some e =>
    obtain ⟨E, hE, hid, hin⟩ := C06_owner_always_listed hosts codeCfg rfl rfl steps h t ht e hp
    exact ⟨E, hE, by simp [Task.owner, hlk, hp, hid], hin⟩

/-- **The blanket un-parenting is needed**: in the configuration that is NOT the code (`detachCfg`: only the task that cannot
    be locked is detached, on the spot) the creation of `lockSpec` with the offer for host 2 lacking the hostname ends with
    task 1 parented by — and locked to — environment 0, which is not listed any more. -/
theorem C06_owner_listed_needs_blanket_unparent :
    ¬ (∀ t ∈ (createSettle (lockPre detachCfg) 0 lockOracle).1.roster, ∀ e, t.parent = some e →
        ∃ E ∈ (createSettle (lockPre detachCfg) 0 lockOracle).1.envs, E.id = e ∧ t.id ∈ E.tasks) := by
  intro h
  obtain ⟨E, hE, _⟩ := h { id := 1, cls := 1, host := 1, hostOk := true, agent := true, offer := true, executor := true,
                            parent := some 0, active := true, state := .STANDBY } (by decide) 0 rfl
  have hnil : (createSettle (lockPre detachCfg) 0 lockOracle).1.envs = [] := by decide
  rw [hnil] at hE
  simp at hE
