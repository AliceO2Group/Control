/-
  Props/C07 — "Run numbers are unique and strictly increasing".

  Model: Model/RunNumber.lean (one Consul key with ModifyIndex; any number of callers running
  `read(consistent) ; cas(idx_read, value_read+1)`; foreign writers; HTTP failures; crashes).
  A schedule is ANY `List Step` — every interleaving of any number of callers, foreign writers
  and crash points is one such list; the theorems below, the witnesses (∃) aside, quantify over
  all of them.

  Hypotheses, spelled out as decidable predicates over the schedule:
    * `ForeignMonotone` — nobody else lowers the counter. This is an assumption about the
      environment and cannot be dropped (`C07_foreign_lowering_duplicates`, one witness schedule
      for `codeProto`).
    * `NoWrap` — no caller increments 2^32−1. Forced by an unguarded uint32 `value++`: for the code
      before the `fix:` commit (`wrappingProto`) the full statements are refuted on witnesses
      (`C07_finding_uint32_wrap…`, finding `uint32_wrap`); with the guard (`Proto.guard`, the code
      as it stands) the hypothesis disappears (`C07_unique_guarded`, `C07_monotone_guarded`,
      `C07_unique_code`, `C07_monotone_code`).

  Further down: the RPC hop (Model/RunRemote), service start-ups (Model/RunStartup), one environment's attempts (Model/RunAttempts).

  Tie to /repo: `C07_*_is_code` identify what the model assumes about the code with go/ast facts
  and an evaluation regenerated on every run (Gen/C07Facts.lean); the step semantics is tied by
  the correspondence run (harness/props/c07), which replays model schedules on the real
  `GetNextUInt32` / `NewRunNumber` against a Consul KV simulator that controls the interleaving.
-/
import ControlModel.Gen.C07Facts
import ControlModel.Proofs.RunNumber
import ControlModel.Proofs.RunAttempts
import ControlModel.Proofs.RunWrites
import ControlModel.Proofs.RunRemote
import ControlModel.Proofs.RunStartup

open RunNumber

/-- The write in `GetNextUInt32` is `kv.CAS` on the very pair that `kv.Get` returned (so the
    ModifyIndex that was read travels as `cas=`), and there is no `kv.Put` in the function. -/
theorem C07_write_is_cas_is_code :
    codeProto.useCas = (Gen.C07.writeIsCAS && Gen.C07.casPairIsReadPair) := by decide

/-- The boolean answer of CAS is turned into an error, and every error of Get/ParseUint/CAS is
    returned to the caller. -/
theorem C07_cas_answer_checked_is_code :
    codeProto.checkOk = (Gen.C07.casOkChecked && Gen.C07.errorsReturned) := by decide

/-- The read asks Consul for a consistent (linearizable) answer — the model's `read` step sees the
    current store, never an older one, only because of this. -/
theorem C07_read_consistent_is_code : Gen.C07.readRequiresConsistent = true := by decide

/-- Whether the code hands out 0 after 2^32−1 (EVALUATED on the linked code by `vh gen`) is what
    the model's `guard` switch says. The code as it stands refuses (fix commit in /repo); a
    regression to the wrapping increment makes this theorem false. -/
theorem C07_wrap_is_code :
    Gen.C07.wrapEvaluated = true ∧ codeProto.guard = !Gen.C07.wrapsAtMax := by decide

/-- `local.Service.NewRunNumber` is `GetNextUInt32` for a consul:// backend — the Consul branch
    consists of the single statement `return cSrc.GetNextUInt32(<key expression>)`: the call is
    made DIRECTLY, by every caller for itself (no wrapper, no closure, no other statement, the key
    expression calls nothing but `filepath.Join`/`getConsulRuntimePrefix`), which is why the model
    can be blind to the Service object a caller goes through — and
    `before_event START_ACTIVITY` cancels the transition (dropping the value) when it errs —
    which is what `adopted` models. -/
theorem C07_consumer_is_code :
    (Gen.C07.serviceDelegates && Gen.C07.startCancelledOnError) = true := by decide

/-- The CONSUMER obtains a fresh number for every start attempt: in the `before_event` callback
    of core/environment/environment.go the START_ACTIVITY branch is reached whenever the
    negative-weight hooks passed (the only `return` before it is the one that cancels on their
    error); inside the branch `the.ConfSvc().NewRunNumber()` is called UNCONDITIONALLY (a statement
    of the branch itself — not under a further `if`/`switch`/loop, no `return` before it; it is the
    only call in the callback); its result, never re-assigned, is what goes into
    `env.currentRunNumber`, the `run_number` variable and the Ev_RunEvent STARTED; and no other
    statement of package environment gives `currentRunNumber` a value other than 0. This is what
    `RunAttempts.codeEnvCfg.fresh` (every attempt that gets past the negative-weight hooks calls
    the protocol) stands for; a consumer that keeps a number it still holds makes this false. -/
theorem C07_start_obtains_fresh_number_is_code :
    RunAttempts.codeEnvCfg.fresh =
      (Gen.C07.startReachedAfterNegHooksOnly && Gen.C07.startCallUnconditional &&
       Gen.C07.startNumberAdopted && Gen.C07.onlyStartSetsNumber) := by decide

/-- The invariant holds after every schedule (real protocol, hypotheses on the schedule). -/
theorem C07_invariant (p : Proto) (hcas : p.useCas = true) (hchk : p.checkOk = true)
    (sched : List Step) (st : Store) (hwf : st.WF)
    (hfm : ForeignMonotone p sched (init st) = true) (hnw : NoWrap p sched (init st) = true) :
    Inv p st.level (run p sched (init st)) :=
  run_inv hcas hchk sched _ (inv_init p st hwf) hfm (.inr hnw)

/-- FULL-STRENGTH uniqueness (false of the unguarded protocol, `C07_finding_uint32_wrap_duplicate`;
    true of the code as it stands, `C07_unique_code`): no two callers are ever handed the same
    number, for every schedule in which foreign writers do not lower the counter. -/
def C07_unique_full (p : Proto) : Prop :=
  ∀ (sched : List Step) (st : Store), st.WF → ForeignMonotone p sched (init st) = true →
    ∀ a b na nb, a ≠ b →
      returned (run p sched (init st)) a = some na → returned (run p sched (init st)) b = some nb → na ≠ nb

/-- FULL-STRENGTH monotonicity: a call that completed before another started got the smaller number. -/
def C07_monotone_full (p : Proto) : Prop :=
  ∀ (sched : List Step) (st : Store), st.WF → ForeignMonotone p sched (init st) = true →
    ∀ a b na ta ea qa nb tb eb qb,
      (run p sched (init st)).callers a = .done na .ok ta ea qa →
      (run p sched (init st)).callers b = .done nb .ok tb eb qb →
      ea < tb → na < nb

/-- Uniqueness for a protocol with CAS and checked answer, for ALL schedules of ANY number of
    callers, foreign writers, failures and crashes, under `ForeignMonotone` and `NoWrap`. -/
theorem C07_unique (p : Proto) (hcas : p.useCas = true) (hchk : p.checkOk = true)
    (sched : List Step) (st : Store) (hwf : st.WF)
    (hfm : ForeignMonotone p sched (init st) = true) (hnw : NoWrap p sched (init st) = true)
    (a b na nb : Nat) (hab : a ≠ b)
    (ha : returned (run p sched (init st)) a = some na)
    (hb : returned (run p sched (init st)) b = some nb) : na ≠ nb :=
  (C07_invariant p hcas hchk sched st hwf hfm hnw).unique_returned a b na nb hab ha hb

/-- Real-time monotonicity, same quantification: if call `a` completed (step index `ea`) before
    call `b` started (step index `tb`), then `a`'s number is smaller. -/
theorem C07_monotone (p : Proto) (hcas : p.useCas = true) (hchk : p.checkOk = true)
    (sched : List Step) (st : Store) (hwf : st.WF)
    (hfm : ForeignMonotone p sched (init st) = true) (hnw : NoWrap p sched (init st) = true)
    (a b na ta ea nb tb eb : Nat) (qa qb : Option Nat)
    (ha : (run p sched (init st)).callers a = .done na .ok ta ea qa)
    (hb : (run p sched (init st)).callers b = .done nb .ok tb eb qb)
    (hab : ea < tb) : na < nb :=
  (C07_invariant p hcas hchk sched st hwf hfm hnw).monotone_done ha hb hab

/-- Stronger than both: in completion order the numbers handed out strictly increase. -/
theorem C07_strictly_increasing (p : Proto) (hcas : p.useCas = true) (hchk : p.checkOk = true)
    (sched : List Step) (st : Store) (hwf : st.WF)
    (hfm : ForeignMonotone p sched (init st) = true) (hnw : NoWrap p sched (init st) = true) :
    ((run p sched (init st)).log.map (·.num)).Pairwise (· < ·) :=
  (C07_invariant p hcas hchk sched st hwf hfm hnw).increasing

/-- Across restarts (same hypotheses): every number handed out is larger than the counter value
    found in Consul when the schedule began (so larger than anything handed out before, by the same
    theorem applied to the earlier schedule), and never larger than the value now stored. -/
theorem C07_above_initial (p : Proto) (hcas : p.useCas = true) (hchk : p.checkOk = true)
    (sched : List Step) (st : Store) (hwf : st.WF)
    (hfm : ForeignMonotone p sched (init st) = true) (hnw : NoWrap p sched (init st) = true)
    (c n : Nat) (hc : returned (run p sched (init st)) c = some n) :
    st.level < n ∧ n ≤ (run p sched (init st)).store.level :=
  (C07_invariant p hcas hchk sched st hwf hfm hnw).above_returned c n hc

/-- The decidable `Spec` the driver evaluates on the real code's answers holds of the model's log
    (same hypotheses). -/
theorem C07_spec (p : Proto) (hcas : p.useCas = true) (hchk : p.checkOk = true)
    (sched : List Step) (st : Store) (hwf : st.WF)
    (hfm : ForeignMonotone p sched (init st) = true) (hnw : NoWrap p sched (init st) = true) :
    Spec st.level (run p sched (init st)).log = true :=
  (C07_invariant p hcas hchk sched st hwf hfm hnw).spec

/-- The hypotheses are met by a realistic, non-trivial schedule: the counter at 561234; three
    cores race (one loses its CAS), an operator bumps the counter, one caller dies between read
    and write, one request fails; the numbers handed out are 561235 and 600001. -/
example :
    let st : Store := { entry := some { raw := "561234".toList, idx := 90 }, raft := 97 }
    let sched : List Step :=
      [.read 0, .read 1, .read 2, .cas 1, .cas 0, .crash 2, .foreign "600000".toList,
       .read 3, .fail 4, .cas 2, .cas 3]
    st.WF ∧ ForeignMonotone codeProto sched (init st) = true ∧ NoWrap codeProto sched (init st) = true ∧
    (run codeProto sched (init st)).log.map (·.num) = [561235, 600001] ∧
    (run codeProto sched (init st)).callers 0 = .done 561235 .cas 0 4 (some 90) := by decide

/-- With CAS and the answer checked, a refused CAS returns an error and no number, writes nothing
    and hands out nothing — in ANY state (no hypothesis on how it was reached). -/
theorem C07_cas_fail_is_error (p : Proto) (hcas : p.useCas = true) (hchk : p.checkOk = true)
    (s : Sys) (c v i t : Nat) (hc : s.callers c = .holding v i t) (hno : s.store.casOk i = false) :
    (step p (.cas c) s).callers c = .done (incr32 v) .cas t s.clock (some i) ∧
    returned (step p (.cas c) s) c = none ∧
    (step p (.cas c) s).store = s.store ∧ (step p (.cas c) s).log = s.log := by
  rw [step_cas_refused hcas hchk hc hno]
  exact ⟨setCaller_same .., congrArg adopted (setCaller_same ..), rfl, rfl⟩

/-- Every error class leaves the caller without a number (environment.go drops the value and
    cancels START_ACTIVITY), and only `err == nil` yields one. -/
theorem C07_start_cancelled_without_number (v : Nat) (e : Err) (t t' : Nat) (q : Option Nat) :
    (adopted (.done v e t t' q) = none ↔ e ≠ .ok) ∧ (e = .ok → adopted (.done v e t t' q) = some v) := by
  cases e <;> simp [adopted]

/-- A crash anywhere only loses numbers: the crash step itself touches neither the store, nor
    the numbers handed out, nor any other caller, and never turns into a number; and the dead
    caller's later steps do nothing at all (they only pass time). Uniqueness and monotonicity of
    the survivors is `C07_unique`/`C07_monotone`, whose schedules contain crashes anywhere. -/
theorem C07_crash_safe (p : Proto) (s : Sys) (c : Nat) :
    (step p (.crash c) s).store = s.store ∧ (step p (.crash c) s).log = s.log ∧
    (∀ d, d ≠ c → (step p (.crash c) s).callers d = s.callers d) ∧
    returned (step p (.crash c) s) c = returned s c ∧
    (∀ t st, s.callers c = .dead t → st.isOf c = true → step p st s = { s with clock := s.clock + 1 }) ∧
    (∀ t st, s.callers c = .dead t → (step p st s).callers c = .dead t) := by
  suffices h : ∀ s', Moves p s (.crash c) s' → s'.store = s.store ∧ s'.log = s.log ∧
      (∀ d, d ≠ c → s'.callers d = s.callers d) ∧ adopted (s'.callers c) = adopted (s.callers c) by
    obtain ⟨h1, h2, h3, h4⟩ := h _ (act_spec p (.crash c) s)
    exact ⟨h1, h2, h3, h4, dead_step p s c, dead_stays p s c⟩
  intro s' ha
  cases ha with
  | skip => exact ⟨rfl, rfl, fun _ _ => rfl, rfl⟩
  | fin hc hst hx =>
    cases eq_of_beq hst
    exact ⟨rfl, rfl, fun d hd => setCaller_other _ _ _ _ hd,
      (congrArg adopted (setCaller_same ..)).trans (hx.trans (live_adopted hc).symm)⟩

/-- A crashed caller's number is simply skipped: the next caller gets the next one (non-vacuity
    of `C07_crash_safe`: a crash between read and CAS loses nothing that was handed out). -/
example :
    let s := run codeProto [.read 0, .read 1, .crash 0, .cas 0, .cas 1, .read 2, .cas 2] (init ⟨none, 0⟩)
    returned s 0 = none ∧ returned s 1 = some 1 ∧ returned s 2 = some 2 := by decide

/-! ## every number is paid for by a write of the call that returns it

  Callers that overlap inside ONE `local.Service` (one apricot instance serves every environment
  of a core) are, in the model, just callers: each runs `read ; cas` itself. What that implies for
  the observation — and what a Service that answers one caller with another caller's result
  (request coalescing, a cached number, …) violates — is stated here for ALL schedules and ANY
  protocol setting (the count of writes: one that checks the CAS answer), without any hypothesis on foreign writers. -/

/-- A number is handed only to a call whose OWN write request Consul processed, and that call
    owns the log entry carrying exactly this number. -/
theorem C07_number_needs_own_write (p : Proto) (sched : List Step) (st : Store) (c n : Nat)
    (hc : returned (run p sched (init st)) c = some n) :
    ∃ t t' i, (run p sched (init st)).callers c = .done n .ok t t' (some i) ∧
      ({ caller := c, num := n, started := t, ended := t' } : Ret) ∈ (run p sched (init st)).log := by
  obtain ⟨t, t', q, hq⟩ := adopted_eq_some hc
  obtain ⟨hs, hl⟩ := run_own p sched _ (own_init st) c n t t' q hq
  cases q with
  | none => cases hs
  | some i => exact ⟨t, t', i, hq, hl⟩

/-- The counter advances ONCE PER NUMBER: with the CAS answer checked, after any schedule the
    store's index has grown by exactly the count of numbers handed out plus the count of foreign
    writes/deletes. N numbers ⇒ N applied writes; N callers answered while the counter advanced
    once is not a behaviour of the protocol. -/
theorem C07_counter_advances_once_per_number (p : Proto) (hchk : p.checkOk = true)
    (sched : List Step) (st : Store) :
    (run p sched (init st)).store.raft =
      st.raft + (run p sched (init st)).log.length + foreignOps sched :=
  run_raft p hchk sched (init st)

/-- The model's observation satisfies the own-write clause of `SpecObs` — every schedule, every
    number of callers. -/
theorem C07_own_write_spec (p : Proto) (sched : List Step) (st : Store) (n : Nat) :
    ownWriteB (obsOf n (run p sched (init st))) = true :=
  ownWrite_obs n _ (run_own p sched _ (own_init st))

/-- …and `SpecObs` REJECTS every observation in which some call was answered with a number
    although Consul applied no write of that call — whatever the other calls did, whether or not
    the numbers happen to collide, with or without `ForeignMonotone`. -/
theorem C07_answer_without_own_write_rejected (fm : Bool) (L : Nat) (cs : List CallObs) (c : CallObs)
    (hc : c ∈ cs) (hok : c.ok.isSome = true) (hw : c.wrote = false) : SpecObs fm L cs = false := by
  have : ownWriteB cs = false := by
    refine Bool.eq_false_iff.2 fun hb => ?_
    have h := List.all_eq_true.1 hb c hc
    rw [hw, Bool.or_false] at h
    cases hn : c.ok with
    | none => rw [hn] at hok; cases hok
    | some n => rw [hn] at h; cases h
  rw [SpecObs, this, Bool.and_false, Bool.false_and]

/-- What a coalescing Service does (two calls overlap inside it, the second is handed the
    answer of the first and never reaches Consul): the observation is rejected by both clauses —
    no own write, and the numbers are not distinct — while the protocol on the same schedule
    (`read 0, read 1, cas 0, cas 1`) hands the second call no number (the CAS error). -/
theorem C07_shared_answer_is_rejected :
    let shared : List CallObs :=
      [{ caller := 0, ok := some 42, started := 0, ended := 2, refused := false, wrote := true },
       { caller := 1, ok := some 42, started := 1, ended := 3, refused := false, wrote := false }]
    let st : Store := { entry := some { raw := "41".toList, idx := 5 }, raft := 7 }
    let s := run codeProto [.read 0, .read 1, .cas 0, .cas 1] (init st)
    ownWriteB shared = false ∧ uniqueB (retsOf shared) = false ∧ SpecObs true 41 shared = false ∧
    returned s 0 = some 42 ∧ returned s 1 = none ∧ SpecObs true 41 (obsOf 2 s) = true := by decide

/-- After the fix (guard on), `NoWrap` is not needed: uniqueness in full. -/
theorem C07_unique_guarded (p : Proto) (hcas : p.useCas = true) (hchk : p.checkOk = true)
    (hg : p.guard = true) : C07_unique_full p := by
  intro sched st hwf hfm
  exact (run_inv hcas hchk sched _ (inv_init p st hwf) hfm (.inl hg)).unique_returned

/-- After the fix, monotonicity in full. -/
theorem C07_monotone_guarded (p : Proto) (hcas : p.useCas = true) (hchk : p.checkOk = true)
    (hg : p.guard = true) : C07_monotone_full p := by
  intro sched st hwf hfm a b na ta ea qa nb tb eb qb ha hb hab
  exact (run_inv hcas hchk sched _ (inv_init p st hwf) hfm (.inl hg)).monotone_done ha hb hab

/-- **The property in full for the code as it stands** (`codeProto = guardedProto`, tied by
    `C07_wrap_is_code`, `C07_write_is_cas_is_code`, `C07_cas_answer_checked_is_code`): for EVERY schedule,
    under `ForeignMonotone` alone, the numbers handed out are pairwise distinct … -/
theorem C07_unique_code : C07_unique_full codeProto :=
  C07_unique_guarded codeProto rfl rfl rfl

/-- … and monotone in real-time order. -/
theorem C07_monotone_code : C07_monotone_full codeProto :=
  C07_monotone_guarded codeProto rfl rfl rfl

/-- The former finding `uint32_wrap` (fixed in /repo), on the model of the code as it was
    (`wrappingProto`): counter at 2^32−2, two calls one after the other; the first gets
    4294967295, the second gets 0. -/
theorem C07_finding_uint32_wrap : ¬ C07_monotone_full wrappingProto := by
  intro h
  have := h [.read 0, .cas 0, .read 1, .cas 1]
    { entry := some { raw := "4294967294".toList, idx := 5 }, raft := 5 } (by decide) (by decide)
    0 1 4294967295 0 1 (some 5) 0 2 3 (some 6) (by decide) (by decide) (by decide)
  revert this; decide

/-- …and uniqueness: somebody (monotonically!) sets the counter to 2^32−1 after number 1 was
    handed out; the next two calls get 0 and then 1 again. -/
theorem C07_finding_uint32_wrap_duplicate : ¬ C07_unique_full wrappingProto := by
  intro h
  have := h [.read 0, .cas 0, .foreign "4294967295".toList, .read 1, .cas 1, .read 2, .cas 2]
    { entry := none, raft := 0 } (by decide) (by decide) 0 2 1 1 (by decide) (by decide) (by decide)
  exact this rfl

/-- `ForeignMonotone` cannot be dropped: a foreign writer that puts an older content back makes
    the protocol (a function of that content) hand out the same number again. One witness for
    `codeProto`: 1 is handed out, somebody writes "0", 1 is handed out again; the schedule does
    not wrap. -/
theorem C07_foreign_lowering_duplicates :
    ∃ (sched : List Step) (st : Store), st.WF ∧ NoWrap codeProto sched (init st) = true ∧
      ForeignMonotone codeProto sched (init st) = false ∧
      returned (run codeProto sched (init st)) 0 = some 1 ∧ returned (run codeProto sched (init st)) 1 = some 1 :=
  ⟨[.read 0, .cas 0, .foreign "0".toList, .read 1, .cas 1], { entry := none, raft := 0 },
    by decide, by decide, by decide, by decide, by decide⟩

/-- With `Put` instead of `CAS` two racing callers get the same number (all hypotheses hold). -/
theorem C07_needs_cas :
    ∃ (sched : List Step) (st : Store), st.WF ∧
      NoWrap { codeProto with useCas := false } sched (init st) = true ∧
      ForeignMonotone { codeProto with useCas := false } sched (init st) = true ∧
      returned (run { codeProto with useCas := false } sched (init st)) 0 = some 8 ∧
      returned (run { codeProto with useCas := false } sched (init st)) 1 = some 8 :=
  ⟨[.read 0, .read 1, .cas 0, .cas 1], { entry := some { raw := "7".toList, idx := 3 }, raft := 4 },
    by decide, by decide, by decide, by decide, by decide⟩

/-- Ignoring the boolean answer of CAS has the same effect. -/
theorem C07_needs_ok_check :
    ∃ (sched : List Step) (st : Store), st.WF ∧
      NoWrap { codeProto with checkOk := false } sched (init st) = true ∧
      ForeignMonotone { codeProto with checkOk := false } sched (init st) = true ∧
      returned (run { codeProto with checkOk := false } sched (init st)) 0 = some 8 ∧
      returned (run { codeProto with checkOk := false } sched (init st)) 1 = some 8 :=
  ⟨[.read 0, .read 1, .cas 0, .cas 1], { entry := some { raw := "7".toList, idx := 3 }, raft := 4 },
    by decide, by decide, by decide, by decide, by decide⟩

/-! ## the gRPC hop of a remote apricot

  In production the core holds no `local.Service`: `the.ConfSvc()` is the apricot:// client
  (`remote.RemoteService`), one `NewRunNumber` is one unary RPC served by `RpcServer.NewRunNumber`
  in the apricot process, which calls the `local.Service` it fronts. Model/RunRemote.lean: the
  caller still runs `read ; cas` (inside apricot); what reaches `before_event START_ACTIVITY` is the
  call's `(value, err)` AFTER the hop. `GetNextUInt32` returns the incremented, never-stored
  CANDIDATE next to a CAS/HTTP error, so the hop is where "the start fails instead of reusing a
  number" is kept or lost. -/

/-- The hop of the model IS the hop of the code: handler and client each make ONE call as a
    top-level statement (no loop, no retry), the handler returns the service's error unchanged on
    every path after the call (no path answers OK after `err != nil`), the client returns the
    RPC's error and the literal 0 with it; on the success path the number travels unchanged
    (`RunNumberResponse{RunNumber: rn}` → `response.GetRunNumber()`). go/ast over apricot/remote,
    regenerated on every run; a handler that logs the error and answers OK makes this false. -/
theorem C07_remote_hop_is_code :
    codeHop.forwardsErr = (Gen.C07.rpcServerForwardsError && Gen.C07.rpcClientReturnsError) ∧
    (Gen.C07.rpcServerSingleCall && Gen.C07.rpcClientSingleCall &&
     Gen.C07.rpcServerForwardsNumber && Gen.C07.rpcClientReturnsNumber) = true := by decide

/-- **A caller that goes through the hop = the same protocol call.** For every schedule, every
    protocol setting, every assignment of callers to hops: what a caller behind the code's hop
    adopts is exactly what the protocol call made on its behalf adopts — so every theorem of this
    file about `returned` speaks about remote callers as well. -/
theorem C07_remote_hop_transparent (p : Proto) (sched : List Step) (st : Store) (remote : Routing) (c : Nat) :
    returnedVia codeHop remote (run p sched (init st)) c = returned (run p sched (init st)) c :=
  returnedVia_code remote _ c

/-- Error ⇒ no number, across the boundary: whatever value the service returned next to an error
    (the candidate), the remote caller holds `(0, that error)` and adopts nothing; a number that
    crossed the hop is the service's number. -/
theorem C07_remote_error_no_number (v : Nat) (e : Err) (t t' : Nat) (q : Option Nat) :
    (e ≠ .ok → viaHop codeHop (.done v e t t' q) = .done 0 e t t' q ∧
               adopted (viaHop codeHop (.done v e t t' q)) = none) ∧
    (e = .ok → viaHop codeHop (.done v e t t' q) = .done v .ok t t' q) :=
  ⟨fun he => ⟨viaHop_code_err v e t t' q he,
      (adopted_viaHop_code _).trans ((C07_start_cancelled_without_number v e t t' q).1.2 he)⟩,
   fun he => by subst he; rfl⟩

/-- Uniqueness in full for the production layout: any schedule, any mix of callers behind hops
    and callers holding a Service themselves, `ForeignMonotone` alone. -/
theorem C07_remote_unique_code (sched : List Step) (st : Store) (hwf : st.WF)
    (hfm : ForeignMonotone codeProto sched (init st) = true) (remote : Routing)
    (a b na nb : Nat) (hab : a ≠ b)
    (ha : returnedVia codeHop remote (run codeProto sched (init st)) a = some na)
    (hb : returnedVia codeHop remote (run codeProto sched (init st)) b = some nb) : na ≠ nb := by
  rw [returnedVia_code] at ha hb
  exact C07_unique_code sched st hwf hfm a b na nb hab ha hb

/-- …and real-time monotonicity, on what the callers' own sides hold. -/
theorem C07_remote_monotone_code (sched : List Step) (st : Store) (hwf : st.WF)
    (hfm : ForeignMonotone codeProto sched (init st) = true) (remote : Routing)
    (a b na ta ea nb tb eb : Nat) (qa qb : Option Nat)
    (ha : seenBy codeHop remote (run codeProto sched (init st)) a = .done na .ok ta ea qa)
    (hb : seenBy codeHop remote (run codeProto sched (init st)) b = .done nb .ok tb eb qb)
    (hab : ea < tb) : na < nb :=
  C07_monotone_code sched st hwf hfm a b na ta ea qa nb tb eb qb (seenBy_code_ok ha) (seenBy_code_ok hb) hab

/-- A number that reached a remote caller was paid for by a write request of the very call made
    on its behalf (any schedule, any protocol setting). -/
theorem C07_remote_number_needs_own_write (p : Proto) (sched : List Step) (st : Store)
    (remote : Routing) (c n : Nat)
    (hc : returnedVia codeHop remote (run p sched (init st)) c = some n) :
    ∃ t t' i, (run p sched (init st)).callers c = .done n .ok t t' (some i) ∧
      ({ caller := c, num := n, started := t, ended := t' } : Ret) ∈ (run p sched (init st)).log := by
  rw [returnedVia_code] at hc
  exact C07_number_needs_own_write p sched st c n hc

/-- The model's observation of a routed case (numbers as they came back through the hop, requests
    as `callObsOf` reads them) is the direct callers' observation, and satisfies the two
    per-call clauses of `SpecObs`: no number next to a refused write, no number without an own
    applied write — every schedule, every routing. -/
theorem C07_remote_obs_spec (p : Proto) (sched : List Step) (st : Store) (remote : Routing) (n : Nat) :
    obsVia codeHop remote n (run p sched (init st)) = obsOf n (run p sched (init st)) ∧
    refusedIsErr (obsVia codeHop remote n (run p sched (init st))) = true ∧
    ownWriteB (obsVia codeHop remote n (run p sched (init st))) = true := by
  rw [obsVia_code]
  exact ⟨rfl, refused_obs n _, C07_own_write_spec p sched st n⟩

/-- **The error must cross the boundary.** Through a hop that answers OK whatever the backend
    said (the protocol itself with CAS and checked answer), in ANY state a remote caller whose write
    Consul refuses — or whose write request fails — is handed the candidate `incr32 v` as its run
    number while store and log stay exactly as they were: a number without the counter having
    advanced. -/
theorem C07_swallowed_error_hands_out_candidate (p : Proto) (hcas : p.useCas = true) (hchk : p.checkOk = true)
    (remote : Routing) (s : Sys) (c v i t : Nat) (hr : remote c = true) (hc : s.callers c = .holding v i t) :
    (s.store.casOk i = false →
      returnedVia swallowingHop remote (step p (.cas c) s) c = some (incr32 v) ∧
      (step p (.cas c) s).store = s.store ∧ (step p (.cas c) s).log = s.log) ∧
    (returnedVia swallowingHop remote (step p (.fail c) s) c = some (incr32 v) ∧
      (step p (.fail c) s).store = s.store ∧ (step p (.fail c) s).log = s.log) :=
  ⟨fun hno => by
    rw [step_cas_refused hcas hchk hc hno]
    exact ⟨returnedVia_swallowing hr (setCaller_same ..), rfl, rfl⟩,
   by
    rw [step_fail_holding p hc]
    exact ⟨returnedVia_swallowing hr (setCaller_same ..), rfl, rfl⟩⟩

/-- Witness: two starts of one core race through one remote apricot (`read 0, read 1, cas 0,
    cas 1` from "41"). With the code's hop the loser comes back without a number (the CAS error) and
    the observation is accepted; with the swallowing hop BOTH are handed 42 — the counter advanced
    once — and `SpecObs` rejects the observation (refused write next to a number, no own write,
    numbers not distinct). -/
theorem C07_hop_must_forward_error :
    let st : Store := { entry := some { raw := "41".toList, idx := 5 }, raft := 7 }
    let s := run codeProto [.read 0, .read 1, .cas 0, .cas 1] (init st)
    let all : Routing := fun _ => true
    returnedVia codeHop all s 0 = some 42 ∧ returnedVia codeHop all s 1 = none ∧
    SpecObs true 41 (obsVia codeHop all 2 s) = true ∧
    returnedVia swallowingHop all s 0 = some 42 ∧ returnedVia swallowingHop all s 1 = some 42 ∧
    s.store.raft = 8 ∧
    refusedIsErr (obsVia swallowingHop all 2 s) = false ∧ ownWriteB (obsVia swallowingHop all 2 s) = false ∧
    uniqueB (retsOf (obsVia swallowingHop all 2 s)) = false ∧
    SpecObs true 41 (obsVia swallowingHop all 2 s) = false := by decide

/-! ## service start-ups as steps of the schedule

  Model/RunStartup.lean: a schedule is any `List SStep` — the constructions of any number of apricot
  instances (`start j`) interleaved with the read/CAS steps of the callers (each asks the instance
  `home c`, and cannot be launched before that instance is up), with foreign writes, deletes of the
  key (the KV tree wiped), failed requests and crashes. The theorems below, the witnesses aside,
  are for ALL such schedules that meet their hypothesis (`SForeignMonotone` admits a delete only
  while the level is 0, `noForeign` none), every assignment of callers to instances, every
  well-formed initial key (absent, present, junk). -/

/-- **Constructing a Service sends nothing to Consul** — what `codeStart` says is what the code
    does: go/ast (`local.NewService` → `cfgbackend.NewSource` → `NewConsulSource` call nothing but
    constructors: no method of the backend, no go/defer/function literal) AND the linked
    constructor evaluated against the KV simulator, once with the counter key absent and once with
    it present, every request it could have sent being answered at once and recorded: none was.
    A constructor that probes, creates or repairs the counter makes this false. -/
theorem C07_startup_is_code :
    Gen.C07.ctorEvaluated = true ∧
    codeStart.ensuresCounter =
      !(Gen.C07.ctorBuildsOnly && Gen.C07.ctorSilentAbsent && Gen.C07.ctorSilentPresent) := by decide

/-- A start-up of the code, in ANY state: store, callers, numbers handed out and the record of own
    writes are exactly what they were, and an instance that was down is up. In particular the
    counter key is NOT created by a start-up (the first allocation's `cas=0` does that: `example` below). -/
theorem C07_startup_touches_nothing (p : Proto) (home : Homes) (j : Nat) (s : SSys) :
    (sstep codeStart p home (.start j) s).base.store = s.base.store ∧
    (sstep codeStart p home (.start j) s).base.callers = s.base.callers ∧
    (sstep codeStart p home (.start j) s).base.log = s.base.log ∧
    (sstep codeStart p home (.start j) s).own = s.own ∧
    (s.inst j = .down → ((sstep codeStart p home (.start j) s).inst j).isUp = true) := by
  obtain ⟨hb, ho⟩ := sstep_start_code p home j s
  refine ⟨by rw [hb]; rfl, by rw [hb]; rfl, by rw [hb]; rfl, ho, ?_⟩
  intro hd
  simp [sstep, codeStart, hd, setInst, IState.isUp]

/-- An instance that is not up hands out nothing: a step that would launch a call on it only
    lets time pass (in any state, whatever the start-up does). -/
theorem C07_startup_down_instance_is_not_asked (cfg : StartCfg) (p : Proto) (home : Homes) (s : SSys) (c j : Nat)
    (hh : home c = some j) (hd : (s.inst j).isUp = false) (hc : s.base.callers c = .idle) :
    sstep cfg p home (.base (.read c)) s = { s with base := tick s.base } ∧
    sstep cfg p home (.base (.fail c)) s = { s with base := tick s.base } := by
  simp [sstep, enabled, launches, hc, hh, hd]

/-- The invariant of the protocol (CAS, checked answer, guard) holds along every
    `SForeignMonotone` schedule with start-ups. -/
theorem C07_startup_invariant (p : Proto) (hcas : p.useCas = true) (hchk : p.checkOk = true) (hg : p.guard = true)
    (home : Homes) (sched : List SStep) (st : Store) (hwf : st.WF)
    (hfm : SForeignMonotone codeStart p home sched (sinit st) = true) :
    Inv p st.level (srun codeStart p home sched (sinit st)).base :=
  (srun_inv hcas hchk hg home sched _ (inv_sinit p st hwf) nofun hfm).1

/-- **Uniqueness across start-ups**: whichever instances come up whenever — before, between or
    during allocations of instances already up, on a key that is absent, present or deleted (only
    while its level is 0) and re-created — no two callers are handed the same number
    (`SForeignMonotone` alone). -/
theorem C07_startup_unique_code (home : Homes) (sched : List SStep) (st : Store) (hwf : st.WF)
    (hfm : SForeignMonotone codeStart codeProto home sched (sinit st) = true)
    (a b na nb : Nat) (hab : a ≠ b)
    (ha : sreturned (srun codeStart codeProto home sched (sinit st)) a = some na)
    (hb : sreturned (srun codeStart codeProto home sched (sinit st)) b = some nb) : na ≠ nb :=
  (C07_startup_invariant codeProto rfl rfl rfl home sched st hwf hfm).unique_returned a b na nb hab ha hb

/-- **Monotonicity across start-ups**: a call that completed before another one started — on
    whatever instance, started whenever — got the smaller number (same hypothesis). -/
theorem C07_startup_monotone_code (home : Homes) (sched : List SStep) (st : Store) (hwf : st.WF)
    (hfm : SForeignMonotone codeStart codeProto home sched (sinit st) = true)
    (a b na ta ea nb tb eb : Nat) (qa qb : Option Nat)
    (ha : (srun codeStart codeProto home sched (sinit st)).base.callers a = .done na .ok ta ea qa)
    (hb : (srun codeStart codeProto home sched (sinit st)).base.callers b = .done nb .ok tb eb qb)
    (hab : ea < tb) : na < nb :=
  (C07_startup_invariant codeProto rfl rfl rfl home sched st hwf hfm).monotone_done ha hb hab

/-- Same hypothesis: every number handed out lies above the level the counter had when the history
    began (0 for an absent key), and at most at the level it has now. -/
theorem C07_startup_above_initial (home : Homes) (sched : List SStep) (st : Store) (hwf : st.WF)
    (hfm : SForeignMonotone codeStart codeProto home sched (sinit st) = true) (c n : Nat)
    (hc : sreturned (srun codeStart codeProto home sched (sinit st)) c = some n) :
    st.level < n ∧ n ≤ (srun codeStart codeProto home sched (sinit st)).base.store.level :=
  (C07_startup_invariant codeProto rfl rfl rfl home sched st hwf hfm).above_returned c n hc

/-- **Our own code never moves the counter backwards**: every write of a caller or of a start-up
    that Consul applied raised the counter by exactly one (start-ups contribute none). -/
theorem C07_startup_own_writes_raise_by_one (home : Homes) (sched : List SStep) (st : Store) (hwf : st.WF)
    (hfm : SForeignMonotone codeStart codeProto home sched (sinit st) = true) :
    ∀ ba ∈ (srun codeStart codeProto home sched (sinit st)).own, ba.2 = ba.1 + 1 :=
  (srun_inv rfl rfl rfl home sched _ (inv_sinit codeProto st hwf) nofun hfm).2

/-- The clauses `Spec` and `ownNeverLowersB` of the decidable `SpecStart` the driver evaluates on
    what the real instances did hold of the model's log and own-write record, for all
    `SForeignMonotone` schedules with start-ups. -/
theorem C07_startup_spec (home : Homes) (sched : List SStep) (st : Store) (hwf : st.WF)
    (hfm : SForeignMonotone codeStart codeProto home sched (sinit st) = true) :
    Spec st.level (srun codeStart codeProto home sched (sinit st)).base.log = true ∧
    ownNeverLowersB (srun codeStart codeProto home sched (sinit st)).own = true :=
  ⟨(C07_startup_invariant codeProto rfl rfl rfl home sched st hwf hfm).spec,
   ownNeverLowers_of_ownOk _ (C07_startup_own_writes_raise_by_one home sched st hwf hfm)⟩

/-- **Only our own instances on the key** (no foreign write, no delete): however many instances
    come up however they interleave with the allocations, the numbers handed out are, in completion
    order, exactly `L+1, L+2, …, L+m` where `L` is the level found at the beginning, and the counter
    stands at `L+m`. -/
theorem C07_startup_counts_up (home : Homes) (sched : List SStep) (st : Store) (hwf : st.WF)
    (hnf : noForeign sched = true) :
    let s := srun codeStart codeProto home sched (sinit st)
    s.base.log.map (·.num) = List.range' (st.level + 1) s.base.log.length ∧
    s.base.store.level = st.level + s.base.log.length :=
  And.symm (srun_cnt (p := codeProto) rfl rfl rfl home sched _ (inv_sinit codeProto st hwf) (cnt_sinit st) hnf).2

/-- **Absent key: the first number is 1, exactly once.** From a KV without the counter key and
    with only our own instances on it, if anything is handed out at all the first number is 1, the
    numbers are 1 … m, and no second caller is ever handed 1. -/
theorem C07_startup_absent_key_first_number_is_one_once (home : Homes) (sched : List SStep) (raft : Nat)
    (hnf : noForeign sched = true) :
    let s := srun codeStart codeProto home sched (sinit ⟨none, raft⟩)
    s.base.log.map (·.num) = List.range' 1 s.base.log.length ∧
    (∀ a b, a ≠ b → sreturned s a = some 1 → sreturned s b ≠ some 1) := by
  have h := srun_cnt (p := codeProto) rfl rfl rfl home sched _ (inv_sinit codeProto ⟨none, raft⟩ nofun) (cnt_sinit _) hnf
  exact ⟨h.2.2, fun a b hab ha hb => h.1.unique_returned a b 1 1 hab ha hb rfl⟩

/-- **The start-up must not write the counter.** A constructor that "makes sure the counter
    exists" — `Exists(key)`, then an unconditional `Put(key, "0")` if it saw the key absent — with
    the protocol itself untouched: two instances come up on a KV without the key, both see it
    absent; instance 1 creates it and hands out 1; then instance 0's late `Put "0"` lands and the
    next allocation hands out 1 AGAIN (no foreign writer anywhere: the hypothesis of every theorem
    above holds). The record of own writes shows the counter moved from 1 back to 0, which
    `ownNeverLowersB` rejects; the code's start-up on the same schedule gives 1 and 2. -/
theorem C07_startup_must_not_write :
    let home : Homes := fun c => some c
    let sched : List SStep := [.start 0, .start 1, .start 1, .base (.read 1), .base (.cas 1), .start 0,
                               .base (.read 0), .base (.cas 0)]
    let bad := srun ensuringStart codeProto home sched (sinit ⟨none, 0⟩)
    let good := srun codeStart codeProto home sched (sinit ⟨none, 0⟩)
    noForeign sched = true ∧
    sreturned bad 0 = some 1 ∧ sreturned bad 1 = some 1 ∧
    bad.own = [(0, 0), (0, 1), (1, 0), (0, 1)] ∧ ownNeverLowersB bad.own = false ∧
    uniqueB bad.base.log = false ∧
    sreturned good 0 = some 2 ∧ sreturned good 1 = some 1 ∧ good.own = [(0, 1), (1, 2)] := by decide

/-- …while the same constructor is harmless on the schedule where nothing overlaps its two requests
    (sequential start-ups; one witness): the defect above had a step between them —
    which is why only schedules with start-ups AS STEPS can show it. -/
theorem C07_startup_ensuring_sequential_is_harmless :
    let home : Homes := fun c => some c
    let sched : List SStep := [.start 0, .start 0, .base (.read 0), .base (.cas 0), .start 1, .start 1,
                               .base (.read 1), .base (.cas 1)]
    let s := srun ensuringStart codeProto home sched (sinit ⟨none, 0⟩)
    sreturned s 0 = some 1 ∧ sreturned s 1 = some 2 ∧ ownNeverLowersB s.own = true := by decide

/-- Non-vacuity: a fresh deployment (no counter key). Core 0 comes up and starts a run; the
    apricot daemon (instance 1) comes up while that allocation is under way and loses the race for
    the `cas=0` creation; somebody restores the key from a backup taken a moment ago (same value);
    a third instance comes up late, one of its requests fails; a call is attempted on an instance
    that is still down (nothing happens). Numbers handed out: 1, 2, 3 — every hypothesis holds. -/
example :
    let home : Homes := fun c => some (c % 3)
    let sched : List SStep :=
      [.start 0, .base (.read 0), .start 1, .base (.read 1), .base (.read 2), .base (.cas 0), .base (.cas 1),
       .base (.foreign "1".toList), .base (.read 4), .base (.cas 4), .start 2, .base (.read 2), .base (.fail 5),
       .base (.cas 2), .start 2]
    let s := srun codeStart codeProto home sched (sinit ⟨none, 0⟩)
    SForeignMonotone codeStart codeProto home sched (sinit ⟨none, 0⟩) = true ∧
    s.base.log.map (·.num) = [1, 2, 3] ∧
    s.base.callers 1 = .done 1 .cas 3 6 (some 0) ∧
    s.own = [(0, 1), (1, 2), (2, 3)] ∧ (s.inst 2).isUp = true := by decide

/-! ## environment level: the numbers an environment hands to its successive start attempts

  Model/RunAttempts.lean composes the environment machine (Model/Env.lean: which requests of a
  history are START attempts that get as far as the call) with the protocol above: each such
  attempt is one complete call by a fresh caller on the durable store the previous one left. -/

open RunAttempts in
/-- **Any sequence of attempts** — whatever the calls are (made, failing, not made), from any
    well-formed counter, for a consumer that calls on every attempt (`fresh`) and any protocol with
    CAS, checked answer and guard: the numbers obtained strictly increase in the order of the
    attempts and all lie above the level the counter had when the history began. (Composition of the per-call invariant over the durable store: a complete
    call leaves it well-formed, never lowers the level, and its number lies above the old level
    and at most at the new one — `attempt_fresh`.) -/
theorem C07_env_attempts_strictly_increasing (cfg : EnvCfg) (hf : cfg.fresh = true)
    (p : Proto) (hcas : p.useCas = true) (hchk : p.checkOk = true) (hg : p.guard = true)
    (as : List Att) (st : Store) (hwf : st.WF) (prev : Nat) :
    (obtained (attempts cfg p st prev as)).Pairwise (· < ·) ∧
    ∀ n ∈ obtained (attempts cfg p st prev as), st.level < n :=
  attempts_increasing cfg hf p hcas hchk hg as st prev hwf

open RunAttempts in
/-- **The property for the environment as it stands**: for EVERY hook set, every request history
    (transitions through TryTransition or the API glue, teardowns; failing hooks anywhere, failing
    bodies, failing calls) and every well-formed initial counter, the run numbers the environment
    hands to its successive start attempts strictly increase — a START retried after a START that
    was cancelled by a before_START_ACTIVITY / leave_CONFIGURED hook, or started after
    GO_ERROR → RECOVER → CONFIGURE, gets a number larger than every number handed out before. -/
theorem C07_env_strictly_increasing_code (hooks : List EnvM.Hook) (nTasks : Nat) (reqs : List EnvM.Req)
    (st : Store) (hwf : st.WF) :
    (obtained (numbers codeEnvCfg codeProto st hooks nTasks reqs)).Pairwise (· < ·) ∧
    ∀ n ∈ obtained (numbers codeEnvCfg codeProto st hooks nTasks reqs), st.level < n :=
  attempts_increasing codeEnvCfg rfl codeProto rfl rfl rfl _ st 0 hwf

open RunAttempts in
/-- … hence no number is handed to two attempts of a history. -/
theorem C07_env_unique_code (hooks : List EnvM.Hook) (nTasks : Nat) (reqs : List EnvM.Req)
    (st : Store) (hwf : st.WF) :
    distinctNums (obtained (numbers codeEnvCfg codeProto st hooks nTasks reqs)) = true :=
  distinct_of_pairwise_lt _ (C07_env_strictly_increasing_code hooks nTasks reqs st hwf).1

open RunAttempts in
/-- The decidable `SpecEnv` the driver evaluates on what the real Environment published holds of
    the model's numbers, for all histories. -/
theorem C07_env_spec (hooks : List EnvM.Hook) (nTasks : Nat) (reqs : List EnvM.Req) (st : Store) (hwf : st.WF) :
    SpecEnv ((numbers codeEnvCfg codeProto st hooks nTasks reqs).map Option.toList) = true :=
  specEnv_of_pairwise _ (C07_env_strictly_increasing_code hooks nTasks reqs st hwf).1

open RunAttempts in
/-- Which requests are attempts, tied to the environment machine shared with C01/C08/C09/C10: the
    machine's own run counter advances at a request exactly when the request is a START_ACTIVITY
    accepted by the FSM whose negative-weight before-hooks pass and whose call does not fail
    (`attOf … = .ok`) — one call per such attempt, none otherwise; and a TryTransition (`.try_`)
    attempt whose call fails is cancelled with the run-number error (no number,
    `C07_start_cancelled_without_number`). -/
theorem C07_env_attempt_calls_once (hooks : List EnvM.Hook) (nTasks : Nat) (env : EnvM.Env) (q : EnvM.Req) :
    (EnvM.step hooks nTasks env q).1.counter = env.counter + (if (attOf env hooks q).call = .ok then 1 else 0) ∧
    (∀ e b r, q = .try_ e b r → (attOf env hooks q).call = .fails →
      (EnvM.step hooks nTasks env q).2.2 = .cancelledRn) :=
  ⟨step_counter hooks nTasks env q, fun e b r hq hc => by subst hq; exact (fsmEvent_call env hooks e b r).2 hc⟩

open RunAttempts in
/-- Over a whole history the machine's counter counts the calls that were made and did not fail. -/
theorem C07_env_counter_counts_calls (hooks : List EnvM.Hook) (nTasks : Nat) (reqs : List EnvM.Req) :
    (EnvM.finalEnv hooks nTasks {} reqs).counter = okCount (atts hooks nTasks {} reqs) :=
  (finalEnv_counter hooks nTasks reqs {}).trans (Nat.zero_add _)

open RunAttempts in
/-- The unconditional call is needed: a consumer that keeps the number it still holds
    (`fresh := false`) hands the number of a run that ended in ERROR to the run started after
    RECOVER and CONFIGURE — with the protocol itself untouched. -/
theorem C07_needs_unconditional_call :
    ∃ (hooks : List EnvM.Hook) (reqs : List EnvM.Req),
      obtained (numbers { fresh := false } codeProto ⟨none, 0⟩ hooks 0 reqs) = [1, 1] ∧
      obtained (numbers codeEnvCfg codeProto ⟨none, 0⟩ hooks 0 reqs) = [1, 2] :=
  ⟨[], [.try_ .DEPLOY true false, .try_ .CONFIGURE true false, .try_ .START_ACTIVITY true false,
        .try_ .GO_ERROR true false, .try_ .RECOVER true false, .try_ .CONFIGURE true false,
        .try_ .START_ACTIVITY true false], by decide, by decide⟩

open RunAttempts in
/-- Non-vacuity: a critical before_START_ACTIVITY hook of weight +5 fails its first execution (the
    start is cancelled AFTER number 1 was obtained), a negative-weight one fails its second (that
    attempt never calls), the third call fails, the fourth attempt runs and is stopped, the fifth
    runs: the numbers handed out are 1, 2, 3 at the requests 2, 5 and 7. -/
example :
    let hooks : List EnvM.Hook := [
      { id := 0, isTask := false, critical := true, trig := .before .START_ACTIVITY, tw := 5,
        await := .before .START_ACTIVITY, aw := 5, outcomes := [true] },
      { id := 1, isTask := false, critical := true, trig := .before .START_ACTIVITY, tw := -5,
        await := .before .START_ACTIVITY, aw := -5, outcomes := [false, true] }]
    numbers codeEnvCfg codeProto ⟨none, 0⟩ hooks 0
      [.try_ .DEPLOY true false, .try_ .CONFIGURE true false, .try_ .START_ACTIVITY true false,
       .try_ .START_ACTIVITY true false, .try_ .START_ACTIVITY true true, .try_ .START_ACTIVITY true false,
       .try_ .STOP_ACTIVITY true false, .try_ .START_ACTIVITY true false]
      = [none, none, some 1, none, none, some 2, none, some 3] := by decide
