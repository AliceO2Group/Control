/-
  Props/C08 — "Hooks run at their declared moment, in weight order, awaited where declared".

  Theorems about the model of handleHooks / Sm.Event in Model/Env.lean, for ALL hook
  sets (any triggers, awaits, weights, criticality, outcomes) and ALL environments
  (hence all histories that produced them). Tie to /repo: correspondence run through
  harness/envh with the trace monitor; the two pass predicates (`w < 0`, `w ≥ 0`) are
  exercised by negative, zero and positive weights in every run; the sources of a pass's weights and the three
  entries to handleHooks are read off the source (go/ast, Gen/C08Facts.lean: `C08_pass_weights_are_code`).

  `Model/Env.lean` is the code as it is — since "fix: handleHooks visits the await weight of a call it starts at
  the same trigger" a pass knows, before it starts anything, at which weights the calls it is about to start
  declare their await (`C08_await_same_moment_code`). The code as it was is `handleHooksOf legacyAwaitCfg` /
  `stepOf legacyAwaitCfg` (Model/EnvLegacy.lean): `C08_finding_await_weight_not_visited` is a statement about that machine.
-/
import ControlModel.Proofs.EnvHooks
import ControlModel.Proofs.EnvOnce
import ControlModel.Proofs.TrigExpr
import ControlModel.Gen.C08Facts
import ControlModel.Gen.C08Weights

open EnvM

/-- The weights a pass visits are strictly ascending and all belong to the pass
    (negative pass: w < 0; the other pass: w ≥ 0; teardown: all). -/
theorem C08_weights_ascending (env : Env) (hooks : List Hook) (m : Moment) (p : Int → Bool) :
    Ascending (weightsFor env hooks m p) ∧ ∀ w ∈ weightsFor env hooks m p, p w = true :=
  ⟨(ascending_iff_pairwise _).mpr (weightsFor_pairwise env hooks m p), weightsFor_pred env hooks m p⟩

/-- Within a moment hooks fire strictly by ascending weight: the weights carried by
    the start / await / task-hook steps of one pass never decrease along the pass,
    and every one of them is a weight of the pass. -/
theorem C08_weight_order (env : Env) (hooks : List Hook) (m : Moment) (p : Int → Bool) :
    Weakly (stepWeights (handleHooks env hooks m p).2.1) ∧
    ∀ w ∈ stepWeights (handleHooks env hooks m p).2.1, w ∈ weightsFor env hooks m p ∧ p w = true := by
  have h := handleWeights_stepWeights env hooks m _ (weightsFor_pairwise env hooks m p)
  exact ⟨(weakly_iff_pairwise _).mpr h.1, fun w hw => ⟨h.2 w hw, weightsFor_pred env hooks m p w (h.2 w hw)⟩⟩

/-- Hooks of equal weight are started together:
    one weight emits at most ONE start step, holding exactly the call hooks whose trigger is this
    (moment, weight), then at most one await step, then at most ONE step, holding exactly the task
    hooks of this (moment, weight). -/
theorem C08_started_together_at_trigger (env : Env) (hooks : List Hook) (m : Moment) (w : Int) :
    ∃ s1 s2 s3 : List Step,
      (handleWeight env hooks m w).2.1 = s1 ++ s2 ++ s3 ∧
      (s1 = [] ∨ ∃ is, s1 = [Step.start m w is] ∧
          is.map (·.hook) = ((hooks.filter (fun h => h.trig = m ∧ h.tw = w)).filter (fun h => !h.isTask)).map (·.id)) ∧
      (s2 = [] ∨ ∃ is, s2 = [Step.await m w is]) ∧
      (s3 = [] ∨ ∃ is, s3 = [Step.tasks m w is] ∧
          is.map (·.hook) = ((hooks.filter (fun h => h.trig = m ∧ h.tw = w)).filter (fun h => h.isTask)).map (·.id)) :=
  handleWeight_steps env hooks m w

/-- The await barrier: when a (moment, weight) point is handled, everything pending
    there is collected — nothing is left pending at that point afterwards. -/
theorem C08_await_barrier (env : Env) (hooks : List Hook) (m : Moment) (w : Int) :
    pendingAt (handleWeight env hooks m w).1 m w = [] :=
  handleWeight_barrier env hooks m w

/-- A call whose await point is its own trigger point (the default when `await` is
    omitted) is collected in the very step that started it. -/
theorem C08_own_point_awaited (env : Env) (hooks : List Hook) (m : Moment) (w : Int) (h : Hook)
    (hmem : h ∈ hooks) (hcall : h.isTask = false) (htrig : h.trig = m ∧ h.tw = w) (hawait : h.await = m ∧ h.aw = w) :
    ∃ is, Step.await m w is ∈ (handleWeight env hooks m w).2.1 ∧ ∃ i ∈ is, i.hook = h.id := by
  obtain ⟨rfl, rfl⟩ := hawait
  obtain ⟨i, hi, hid⟩ := phase1_registers env hooks _ _ h hmem hcall htrig
  exact ⟨_, handleWeight_await_step env hooks _ _ i hi, i, hi, hid⟩

/-- Moments come in the documented order: the step markers of one transition are a
    prefix of before_<event>, leave_<state>, the task transition, enter_<state>,
    after_<event> (each started, then finished). -/
theorem C08_moment_order (env : Env) (hooks : List Hook) (e : Ev) (b r : Bool) (d : St) (hd : dst? e env.st = some d) :
    marksOf (fsmEvent env hooks e b r).2.1 <+: markPattern e env.st d :=
  fsmEvent_marks env hooks e b r d hd

/-- FULL-STRENGTH await statement, over a pass `pass` (what one handleHooks call does): a call started in a pass
    and awaiting a LATER weight of the same moment and pass is collected before that pass of the moment is over,
    unless a critical failure stopped it — whatever is still pending at its await point afterwards was started
    ABOVE that point (`StartedAfter`: a call of this moment that declares its await below its own trigger weight;
    such a call is registered when the point has been handled already, in every implementation that visits
    weights in ascending order, so "nothing at all is pending there" would be false of any of them). -/
def C08_await_same_moment_full_of (pass : Env → List Hook → Moment → (Int → Bool) → Env × List Step × Nat) : Prop :=
  ∀ (env : Env) (hooks : List Hook) (m : Moment) (p : Int → Bool) (h : Hook),
    h ∈ hooks → h.isTask = false → h.trig = m → h.await = m → h.tw < h.aw → p h.tw = true → p h.aw = true →
    (pass env hooks m p).2.2 = 0 →
    ∀ i ∈ pendingAt (pass env hooks m p).1 m h.aw, StartedAfter hooks m h.aw i

/-- …for the code as it is (`handleHooks`, Model/Env.lean). It was FALSE of the code before the repair
    (`C08_finding_await_weight_not_visited`) and is TRUE of the code now (`C08_await_same_moment_code`). -/
def C08_await_same_moment_full : Prop := C08_await_same_moment_full_of handleHooks

/-- **Awaited where declared, for the code as it is**: for ALL environments, hook sets, moments and passes, a call
    hook triggered at the moment whose await names the same moment with a weight of the same pass has its await
    point VISITED by the pass that starts it (the await weights are among the weights of the pass before anything is
    started: `mem_weightsFor_of_await`), so when the pass ends without a critical failure no instance of it — this
    execution or an older one — is left pending there unless it was started above the point (`StartedAfter`). (Needs neither `h.tw < h.aw` nor `p h.tw`: the point is visited whenever it lies in the pass.) -/
theorem C08_await_same_moment_code : C08_await_same_moment_full := by
  intro env hooks m p h hmem hcall htrig hawait _ _ hpa h0
  exact handleHooks_await_same_moment env hooks m p h hmem hcall htrig hawait hpa h0

/-- The plain conclusion — NOTHING is pending at the await point when the pass is over without a critical failure — for every hook
    set in which no call of the moment awaits at that weight from above. -/
theorem C08_await_same_moment_nothing_left (env : Env) (hooks : List Hook) (m : Moment) (p : Int → Bool) (h : Hook)
    (hmem : h ∈ hooks) (hcall : h.isTask = false) (htrig : h.trig = m) (hawait : h.await = m) (hpa : p h.aw = true)
    (hback : ∀ g ∈ hooks, g.isTask = false → g.trig = m → g.await = m → g.aw = h.aw → g.tw ≤ g.aw)
    (h0 : (handleHooks env hooks m p).2.2 = 0) :
    pendingAt (handleHooks env hooks m p).1 m h.aw = [] := by
  have hall := handleHooks_await_same_moment env hooks m p h hmem hcall htrig hawait hpa h0
  cases hpend : pendingAt (handleHooks env hooks m p).1 m h.aw with
  | nil => rfl
  | cons i rest =>
    obtain ⟨g, hg, _, hgc, hgt, hga, hgw, hlt⟩ := hall i (by rw [hpend]; exact List.mem_cons_self)
    have := hback g hg hgc hgt hga hgw
    omega

/-- The finding `await_weight_not_visited` (repaired by "fix: handleHooks visits the await weight of a call it
    starts at the same trigger"), machine-checked on the model of the code AS IT WAS (`handleHooksOf
    legacyAwaitCfg`, Model/EnvLegacy.lean): the weights of a pass were the trigger weights and the weights of calls
    ALREADY pending, fixed before anything was started, so a call triggered at before_CONFIGURE+0 that awaits
    before_CONFIGURE+10 was not collected there when no other hook lived at +10 — the state machine moved past
    its await point. -/
theorem C08_finding_await_weight_not_visited : ¬ C08_await_same_moment_full_of (handleHooksOf legacyAwaitCfg) := by
  intro h
  have := h {} [{ id := 0, isTask := false, critical := true, trig := .before .CONFIGURE, tw := 0,
                  await := .before .CONFIGURE, aw := 10, outcomes := [] }]
            (.before .CONFIGURE) posW _ (List.mem_singleton.mpr rfl) rfl rfl rfl (by decide) (by decide) (by decide) (by decide)
  revert this; decide

/-- The machine the refutation is about IS the model of the code, but for the weights of a pass: with the switch
    on, `stepOf` is `step` and `handleHooksOf` is `handleHooks`; and the weights of a pass as it is are those of
    the pass as it was PLUS the await weights (within the pass) of the call hooks triggered at this moment whose
    await names this moment — nothing else. -/
theorem C08_legacy_differs_only_in_pass_weights :
    stepOf codeRunCfg = step ∧ handleHooksOf codeRunCfg = handleHooks ∧
    ∀ (env : Env) (hooks : List Hook) (m : Moment) (p : Int → Bool) (w : Int),
      w ∈ weightsFor env hooks m p ↔
        (w ∈ weightsForOf legacyAwaitCfg env hooks m p ∨
          (p w = true ∧ ∃ h ∈ hooks, h.isTask = false ∧ h.trig = m ∧ h.await = m ∧ h.aw = w)) := by
  refine ⟨stepOf_code, handleHooksOf_code, ?_⟩
  intro env hooks m p w
  have hleg : w ∈ weightsForOf legacyAwaitCfg env hooks m p ↔ _ := mem_weightsForLegacy env hooks m p w
  rw [mem_weightsFor, hleg]
  constructor
  · rintro ⟨hp, h1 | ⟨g, hg, ⟨ht, hc, ha⟩, hw⟩ | h3⟩
    · exact .inl ⟨hp, .inl h1⟩
    · exact .inr ⟨hp, g, hg, hc, ht, ha, hw⟩
    · exact .inl ⟨hp, .inr h3⟩
  · rintro (⟨hp, h1 | h3⟩ | ⟨hp, g, hg, hc, ht, ha, hw⟩)
    · exact ⟨hp, .inl h1⟩
    · exact ⟨hp, .inr (.inr h3)⟩
    · exact ⟨hp, .inr (.inl ⟨g, hg, ⟨ht, hc, ha⟩, hw⟩)⟩

/-- The weights of a pass in the model are filled from the sources the code fills them from (go/ast over
    core/environment/environment.go, re-read on every run, Gen/C08Facts.lean): before `allWeights :=
    allWeightsSet.GetWeights()` handleHooks writes the set from (1) the weights of the hooks triggered now
    (`hw` of `weightsFor`), (2) for each CALL among them (`FilterCalls()` = `!h.isTask`) whose parsed await
    expression names this trigger (`awaitName == trigger` = `h.await = m`) its await weight (`aw`), and (3) the
    weights of the calls already pending an await here (`pw`) — with the repair reverted row (2) is gone and the
    table is `weightSources legacyAwaitCfg`; the visited weights are that set, sorted, restricted by the pass
    predicate, and the four-phase loop ranges over exactly those (`handleHooks` = `handleWeights … (weightsFor …)`);
    and the three entries to handleHooks do nothing but log, time and call it, with the predicates `true`
    (`allW`), `w < 0` (`negW`), `w >= 0` (`posW`) — none of them can skip a pass. -/
theorem C08_pass_weights_are_code :
    Gen.C08Facts.weightSources = weightSources codeRunCfg ∧
    weightSources legacyAwaitCfg ≠ weightSources codeRunCfg ∧
    Gen.C08Facts.weightsFromSet = true ∧ Gen.C08Facts.loopOverFiltered = true ∧
    Gen.C08Facts.wrappers =
      [("handleAllHooks", "true", ["log", "defer timetrack", "return handleHooks"]),
       ("handleHooksWithNegativeWeights", "w < 0", ["log", "defer timetrack", "return handleHooks"]),
       ("handleHooksWithPositiveWeights", "w >= 0", ["log", "defer timetrack", "return handleHooks"])] ∧
    (∀ w : Int, allW w = true ∧ (negW w = true ↔ w < 0) ∧ (posW w = true ↔ w ≥ 0)) :=
  ⟨by rfl, by decide, by rfl, by rfl, by rfl, fun w => ⟨rfl, by simp [negW], by simp [posW]⟩⟩

/-- "…or cancelled at teardown if its await point is never reached": a teardown that goes through
    (result ok, or only the leftover error of its leave hooks) leaves NO result waiting to be collected —
    every call still registered under an await expression has been cancelled. The model's prediction for
    the harness's end-of-case record `Q` after a teardown is therefore 0, for all hooks and histories. -/
theorem C08_teardown_cancels_pending (env : Env) (hooks : List Hook) (f r1 r2 : Bool) (n : Nat)
    (h : (teardown env hooks f r1 r2 n).2.2.moved = true) : uncollected (teardown env hooks f r1 r2 n).1 = [] :=
  teardown_uncollected env hooks f r1 r2 n h

/-- A result that is waiting to be collected is always one the environment still lists under its await
    expression (so the harness's `Q` never exceeds what the request records list as pending). That it is
    listed there no more once its await point has been handled is `C08_await_barrier`, not this statement. -/
theorem C08_uncollected_are_pending (env : Env) : ∀ i ∈ uncollected env, i ∈ allPending env := by
  intro i hi; exact (List.mem_filter.mp hi).1

/-- All calls pending at one await point are collected TOGETHER, whatever their results: an await step of the
    weight (there is at most one: `C08_started_together_at_trigger`) holds each of them — the failing critical
    one, the ones registered after it — and none is pending there afterwards. -/
theorem C08_await_collects_all (env : Env) (hooks : List Hook) (m : Moment) (w : Int) (i : Inst)
    (hi : i ∈ pendingAt env m w) :
    ∃ is, Step.await m w is ∈ (handleWeight env hooks m w).2.1 ∧ i ∈ is ∧ pendingAt (handleWeight env hooks m w).1 m w = [] := by
  have h1 : i ∈ pendingAt (phase1 env hooks m w).1 m w := by
    rw [phase1_pendingAt]; exact List.mem_append_left _ hi
  exact ⟨_, handleWeight_await_step env hooks m w i h1, h1, handleWeight_barrier env hooks m w⟩

/-- Non-vacuity: a critical call that fails and a second call registered after it at the same await
    point are collected in one step; a call that awaits a moment which never comes is cancelled by the
    teardown (nothing is left over). -/
example :
    let hooks : List Hook := [
      { id := 0, isTask := false, critical := true, trig := .enter .DEPLOYED, tw := 0, await := .enter .DEPLOYED, aw := 0, outcomes := [true] },
      { id := 1, isTask := false, critical := false, trig := .enter .DEPLOYED, tw := 0, await := .enter .DEPLOYED, aw := 0, outcomes := [] },
      { id := 2, isTask := false, critical := false, trig := .before .DEPLOY, tw := 0, await := .never 0, aw := 0, outcomes := [] }]
    let rs := runSeq hooks 0 {} [.try_ .DEPLOY true false, .teardown true true true]
    (rs.map fun r => (uncollected r.2.2).length) = [1, 0] ∧
    (rs.map fun r => r.1.filterMap fun | .await _ _ is => some (is.map (·.hook)) | _ => none) = [[[0, 1]], []] :=
  ⟨by rfl, by rfl⟩

/-- Non-vacuity of the ordering theorems: a pass over three weights with a tie. -/
example :
    let hooks : List Hook := [
      { id := 0, isTask := false, critical := true, trig := .before .CONFIGURE, tw := 5, await := .before .CONFIGURE, aw := 5, outcomes := [] },
      { id := 1, isTask := true, critical := false, trig := .before .CONFIGURE, tw := 0, await := .before .CONFIGURE, aw := 0, outcomes := [] },
      { id := 2, isTask := false, critical := true, trig := .before .CONFIGURE, tw := 5, await := .after .CONFIGURE, aw := 0, outcomes := [] }]
    stepWeights (handleHooks {} hooks (.before .CONFIGURE) posW).2.1 = [0, 5, 5] := by rfl

/-- The witness of the repaired finding, end to end on a fresh environment: a call triggered at after_DEPLOY+0
    that awaits after_DEPLOY+100, nothing else at +100; DEPLOY, then CONFIGURE. The code as it is collects the
    call inside DEPLOY (one await step at weight 100, nothing pending after either request); the code as it was
    finished DEPLOY — and CONFIGURE — with the call still registered under after_DEPLOY+100. -/
example :
    let hooks : List Hook := [
      { id := 0, isTask := false, critical := true, trig := .after .DEPLOY, tw := 0, await := .after .DEPLOY, aw := 100, outcomes := [] }]
    let reqs : List Req := [.try_ .DEPLOY true false, .try_ .CONFIGURE true false]
    ((runSeq hooks 0 {} reqs).map fun r => (uncollected r.2.2).length) = [0, 0] ∧
    ((runSeq hooks 0 {} reqs).map fun r => r.1.filterMap fun | .await _ w is => some (w, is.map (·.hook)) | _ => none) = [[(100, [0])], []] ∧
    (uncollected (stepOf legacyAwaitCfg hooks 0 {} (.try_ .DEPLOY true false)).1).length = 1 ∧
    (uncollected (finalEnvOf legacyAwaitCfg hooks 0 {} reqs)).length = 1 :=
  ⟨by rfl, by rfl, by rfl, by rfl⟩

/-- Non-vacuity of `StartedAfter`: with a second call of the moment that awaits at +10 from +20, the pass visits
    +10 (collecting the first call there), starts the second at +20 and ends with exactly that one registered at
    +10 — where it is collected at the next occurrence of the moment, as before the repair. -/
example :
    let hooks : List Hook := [
      { id := 0, isTask := false, critical := true, trig := .before .CONFIGURE, tw := 0, await := .before .CONFIGURE, aw := 10, outcomes := [] },
      { id := 1, isTask := false, critical := true, trig := .before .CONFIGURE, tw := 20, await := .before .CONFIGURE, aw := 10, outcomes := [] }]
    (pendingAt (handleHooks {} hooks (.before .CONFIGURE) posW).1 (.before .CONFIGURE) 10).map (·.hook) = [1] ∧
    (pendingAt (handleHooksOf legacyAwaitCfg {} hooks (.before .CONFIGURE) posW).1 (.before .CONFIGURE) 10).map (·.hook) = [0, 1] :=
  ⟨by rfl, by rfl⟩

/-! Every weight the theorems above speak about is an integer that some `trigger:` / `await:` string of a workflow
  template DECLARES. `Model/TrigExpr.lean` is the documented reading of such a string (cut at the last sign,
  decimal integer, 0 when what follows is not a number); the harness hands hooks to the real core with their
  weights written as texts, and the driver gives the model the integer this reading returns. -/

/-- The reader of the code IS the documented reading, on the whole grid: `callable.ParseTriggerExpression` of the
    linked core, evaluated by `vh gen` on every expression of Gen/C08Weights.lean (trigger names × every sign ×
    zero padding × numbers with the digits 8 and 9 and several digits; base prefixes, digit separators, blanks,
    exponents, a lone sign, two signs, no weight, the int32 and int64 borders), returns the name and the weight
    the model returns. The grid holds the rows that tell a decimal reader from any other (`+010` is ten,
    `-010` minus ten, `+08` eight, `+0x10` not a number, a weight beyond int32 itself). -/
theorem C08_trigger_text_is_code :
    tableAgrees Gen.C08Weights.table = true ∧
    (["b_X+010", "b_X-010", "b_X+08", "b_X-0009", "b_X+0x10", "b_X+2147483648", "b_X", "before_CONFIGURE+00010"].all fun e =>
      Gen.C08Weights.table.any fun r => r.1 == e.toList) = true := by
  refine ⟨?_, ?_⟩
  -- one evaluation per chunk of the generated table
  · simp only [Gen.C08Weights.table, tableAgrees, List.all_append, Bool.and_eq_true]
    and_intros <;> decide
  -- `String.toList` of a literal is three times dearer evaluated by the elaborator than by the kernel: the built-in
  -- `String.reduceToList` writes out the characters, so that `decide` leaves that part to the kernel alone
  · simp only [List.all_cons, List.all_nil, String.reduceToList]
    decide

/-- The weight of a well-formed expression is the integer it declares: whatever the trigger name (signs inside it
    included — the cut is at the LAST sign), a sign followed by decimal digits reads as that decimal integer
    if it fits int64 (`weightInRange`). -/
theorem C08_weight_text_decimal (name t : List Char) (hw : wellFormedWeight t = true) (hr : weightInRange t = true) :
    parseTriggerExpr (name ++ t) = (name, declaredWeight t) :=
  parseTriggerExpr_wellFormed name t hw hr

/-- Padding is irrelevant: any number of leading zeros between the sign and the digits leaves name and weight as
    they are (`before_CONFIGURE+010` = `before_CONFIGURE+10`, `after_RESET-007` = `after_RESET-7`), for every name
    and every non-empty digit string. -/
theorem C08_weight_padding_irrelevant (name : List Char) (s : Char) (k : Nat) (ds : List Char)
    (hs : isSign s = true) (hne : ds ≠ []) (hd : ∀ c ∈ ds, isDigit c = true) :
    parseTriggerExpr (name ++ s :: (List.replicate k '0' ++ ds)) = parseTriggerExpr (name ++ s :: ds) :=
  parseTriggerExpr_zeros name s k ds hs hne hd

/-- Hooks of one moment run in ascending order of their DECLARED integer, however it is written: two hooks
    triggered at `m` whose weights are what well-formed texts `th`, `tg` within int64 declare (after any names), the first
    declaring the smaller integer, both weights of the pass — the pass visits the first one's weight strictly
    before the second one's (and visits each exactly once: `C08_weights_ascending`). Equal declared integers are
    one weight: such hooks are started together (`C08_started_together_at_trigger`). -/
theorem C08_order_by_declared_integer (env : Env) (hooks : List Hook) (m : Moment) (p : Int → Bool) (h g : Hook)
    (nh ng th tg : List Char) (hh : h ∈ hooks) (hg : g ∈ hooks) (hht : h.trig = m) (hgt : g.trig = m)
    (hwh : wellFormedWeight th = true) (hwg : wellFormedWeight tg = true)
    (hrh : weightInRange th = true) (hrg : weightInRange tg = true)
    (hhw : h.tw = (parseTriggerExpr (nh ++ th)).2) (hgw : g.tw = (parseTriggerExpr (ng ++ tg)).2)
    (hph : p h.tw = true) (hpg : p g.tw = true) (hlt : declaredWeight th < declaredWeight tg) :
    ∃ l1 l2 l3, weightsFor env hooks m p = l1 ++ declaredWeight th :: (l2 ++ declaredWeight tg :: l3) := by
  rw [parseTriggerExpr_wellFormed nh th hwh hrh] at hhw
  rw [parseTriggerExpr_wellFormed ng tg hwg hrg] at hgw
  simp only at hhw hgw
  rw [← hhw, ← hgw]
  exact split_of_pairwise_lt _ (weightsFor_pairwise env hooks m p) _ _
    (mem_weightsFor_of_trig env hooks m p h hh hht hph) (mem_weightsFor_of_trig env hooks m p g hg hgt hpg) (by rw [hhw, hgw]; exact hlt)

/-- Non-vacuity: the writings of one integer; what is not a number; the cut at the last sign. -/
example :
    parseTriggerExpr "before_CONFIGURE+010".toList = ("before_CONFIGURE".toList, 10) ∧
    parseTriggerExpr "before_CONFIGURE+10".toList = ("before_CONFIGURE".toList, 10) ∧
    parseTriggerExpr "after_RESET-007".toList = ("after_RESET".toList, -7) ∧
    parseTriggerExpr "enter_RUNNING+08".toList = ("enter_RUNNING".toList, 8) ∧
    parseTriggerExpr "enter_RUNNING".toList = ("enter_RUNNING".toList, 0) ∧
    parseTriggerExpr "enter_RUNNING-0".toList = ("enter_RUNNING".toList, 0) ∧
    parseTriggerExpr "enter_RUNNING+0x10".toList = ("enter_RUNNING".toList, 0) ∧
    parseTriggerExpr "a-b+3".toList = ("a-b".toList, 3) ∧
    wellFormedWeight "+010".toList = true ∧ weightInRange "+010".toList = true ∧ declaredWeight "+010".toList = 10 ∧
    declaredWeight "-09".toList < declaredWeight "+008".toList := by
  simp only [String.reduceToList]; decide

/-- **Exactly once per pass.** With pairwise different hook ids, one pass of handleHooks begins a hook (starts the
    call, runs the task hook) at most once — not at all at another moment than its trigger moment or when its
    weight is not one of the pass, and EXACTLY once when the moment is its trigger moment, its weight is one of the
    pass, and no critical failure stopped the pass. For all environments, hook sets, moments and predicates. -/
theorem C08_started_once_per_pass (env : Env) (hooks : List Hook) (m : Moment) (p : Int → Bool) (h : Hook)
    (hmem : h ∈ hooks) (hU : (hooks.map (·.id)).Nodup) :
    begunCount h.id (handleHooks env hooks m p).2.1 ≤ (if h.trig = m ∧ p h.tw = true then 1 else 0) ∧
    ((handleHooks env hooks m p).2.2 = 0 →
      begunCount h.id (handleHooks env hooks m p).2.1 = if h.trig = m ∧ p h.tw = true then 1 else 0) :=
  handleHooks_begunCount env hooks m p h hmem hU

/-- **Exactly once per occurrence of its moment.** The negative and the non-negative pass of a moment — on
    whatever environments: the bookkeeping between them (run number, stamps) does not matter — together begin a
    hook at most once, and exactly once at its trigger moment when neither pass was stopped by a critical failure:
    no weight belongs to both passes, whatever the await expressions of the calls say. -/
theorem C08_started_once_per_moment (env1 env2 : Env) (hooks : List Hook) (m : Moment) (h : Hook)
    (hmem : h ∈ hooks) (hU : (hooks.map (·.id)).Nodup) :
    begunCount h.id (handleHooks env1 hooks m negW).2.1 + begunCount h.id (handleHooks env2 hooks m posW).2.1 ≤
      (if h.trig = m then 1 else 0) ∧
    ((handleHooks env1 hooks m negW).2.2 = 0 → (handleHooks env2 hooks m posW).2.2 = 0 →
      begunCount h.id (handleHooks env1 hooks m negW).2.1 + begunCount h.id (handleHooks env2 hooks m posW).2.1 =
        if h.trig = m then 1 else 0) :=
  twoPass_begunCount env1 env2 hooks m h hmem hU

/-- …and at most once per transition: before_<event>, leave_<state>, enter_<state>, after_<event> are four
    different moments, each handled by its two passes, so `Sm.Event` — cancelled anywhere or not, with any
    failures — begins no hook twice. -/
theorem C08_started_at_most_once_per_transition (env : Env) (hooks : List Hook) (e : Ev) (b r : Bool) (h : Hook)
    (hmem : h ∈ hooks) (hU : (hooks.map (·.id)).Nodup) :
    begunCount h.id (fsmEvent env hooks e b r).2.1 ≤ 1 :=
  fsmEvent_begunCount env hooks e b r h hmem hU

/-- Non-vacuity, with a call that crosses from the negative pass into the other: a call triggered at
    before_START_ACTIVITY-10 that awaits before_START_ACTIVITY+10, and a second hook triggered at +10. The negative
    pass begins the first only (its await weight +10 is not a weight of that pass), the other pass begins the second
    only and collects both. -/
example :
    let hooks : List Hook := [
      { id := 0, isTask := false, critical := false, trig := .before .START_ACTIVITY, tw := -10, await := .before .START_ACTIVITY, aw := 10, outcomes := [] },
      { id := 1, isTask := false, critical := false, trig := .before .START_ACTIVITY, tw := 10, await := .before .START_ACTIVITY, aw := 10, outcomes := [] }]
    let env : Env := { st := .CONFIGURED }
    weightsFor env hooks (.before .START_ACTIVITY) negW = [-10] ∧
    begunIds (handleHooks env hooks (.before .START_ACTIVITY) negW).2.1 = [0] ∧
    begunIds (beforeEvent env hooks .START_ACTIVITY false).2.1 = [0, 1] ∧
    ((beforeEvent env hooks .START_ACTIVITY false).2.1.filterMap fun | .await _ w is => some (w, is.map (·.hook)) | _ => none) = [(10, [0, 1])] := by
  exact ⟨by rfl, by rfl, by rfl, by rfl⟩
