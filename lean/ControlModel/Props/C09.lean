/-
  Props/C09 — "Only critical hook failures affect a transition, exactly as documented".

  Theorems about Model/Env.lean for ALL hook sets, environments and oracles.
  Tie to /repo: correspondence run through harness/envh (30% of hook executions fail
  in the C09 generator profile) with the trace monitor.
-/
import ControlModel.Proofs.EnvHooks
import ControlModel.Proofs.CallWays
import ControlModel.Spec.EnvTrace
import ControlModel.Gen.C09CallFacts

open EnvM

/-- A critical failure at before_<event> or leave_<state> CANCELS the transition:
    the state is the source state, no task-level body ran (no task command) and no
    state was written. (`cancelledHooks` is the result `beforeEvent` / `leaveState` give
    when a pass counts a critical failure: `beforeEvent_cases`, `leaveState_cases`.) -/
theorem C09_cancel_before_leave (env : Env) (hooks : List Hook) (e : Ev) (b r : Bool) (n : Nat) (m : Moment)
    (h : (fsmEvent env hooks e b r).2.2 = .cancelledHooks n m) :
    (fsmEvent env hooks e b r).1.st = env.st ∧ effectsOf (fsmEvent env hooks e b r).2.1 = [] :=
  fsmEvent_cancelled_no_effects env hooks e b r n m h

/-- A failure at enter_<state> or after_<event> is REPORTED but does not undo anything:
    the environment is in the destination state, the task-level body did run and
    succeeded, and every moment of the transition ran to its finish marker. -/
theorem C09_report_enter_after (env : Env) (hooks : List Hook) (e : Ev) (b r : Bool) (d : St) (errs : List (Nat × Moment))
    (hd : dst? e env.st = some d) (h : (fsmEvent env hooks e b r).2.2 = .reported errs) :
    (fsmEvent env hooks e b r).1.st = d ∧
    marksOf (fsmEvent env hooks e b r).2.1 = markPattern e env.st d ∧
    effectsOf (fsmEvent env hooks e b r).2.1 = [Step.body e true, Step.setState d] := by
  have hm : (fsmEvent env hooks e b r).2.2.moved = true := by rw [h]; rfl
  obtain ⟨h1, h2, h3⟩ := fsmEvent_moved_marks env hooks e b r d hd hm
  refine ⟨?_, h1, by rw [h2, h3]⟩
  obtain hk | ⟨d', hd', hst, _⟩ := fsmEvent_st env hooks e b r
  · rw [h] at hk; cases hk.2
  · rw [hd] at hd'; cases hd'; exact hst

/-- Failures of non-critical hooks are never a transition error: with only non-critical
    hooks (and nothing critical pending from earlier) no request is cancelled or reported
    failed because of hooks, whatever those hooks do — for every event, body outcome and
    environment; and the "nothing critical pending" invariant is kept. -/
theorem C09_noncritical_silent (env : Env) (hooks : List Hook) (e : Ev) (b r : Bool)
    (hh : ∀ x ∈ hooks, x.critical = false) (hp : NoCritPending env.pending) :
    (fsmEvent env hooks e b r).2.2.noHookBlame = true ∧ NoCritPending (fsmEvent env hooks e b r).1.pending :=
  fsmEvent_noncrit env hooks e b r hh hp

/-- …hence along every sequence of transition requests from an environment with nothing critical pending. -/
theorem C09_noncritical_silent_seq (hooks : List Hook) (hh : ∀ x ∈ hooks, x.critical = false)
    (qs : List (Ev × Bool × Bool)) (env : Env) (hp : NoCritPending env.pending) :
    ∀ res ∈ (qs.foldl (fun (acc : Env × List Result) q =>
        let r := fsmEvent acc.1 hooks q.1 q.2.1 q.2.2; (r.1, acc.2 ++ [r.2.2])) (env, [])).2,
      res.noHookBlame = true := by
  suffices ∀ (acc : Env × List Result), NoCritPending acc.1.pending → (∀ res ∈ acc.2, res.noHookBlame = true) →
      ∀ res ∈ (qs.foldl (fun (acc : Env × List Result) q =>
        let r := fsmEvent acc.1 hooks q.1 q.2.1 q.2.2; (r.1, acc.2 ++ [r.2.2])) acc).2, res.noHookBlame = true from
    this (env, []) hp (fun _ h => by cases h)
  induction qs with
  | nil => intro acc _ h; exact h
  | cons q qs ih =>
    intro acc hp hacc
    simp only [List.foldl_cons]
    have := C09_noncritical_silent acc.1 hooks q.1 q.2.1 q.2.2 hh hp
    apply ih _ this.2
    intro res hres
    rcases List.mem_append.mp hres with h | h
    · exact hacc res h
    · simp at h; rw [h]; exact this.1

/-- Several hooks failing at the same point are reported TOGETHER: the number a weight
    reports is exactly the number of critical failing executions among everything awaited
    (that a teardown has not cancelled: a cancelled call hands over no result) and every task
    hook run at that weight. -/
theorem C09_multi_reported_together (env : Env) (hooks : List Hook) (m : Moment) (w : Int) :
    (handleWeight env hooks m w).2.2 =
      ((((phase2 (phase1 env hooks m w).1 m w).2.filter (fun i => !isCancelled env i)) ++
        (instantiate (phase2 (phase1 env hooks m w).1 m w).1
          ((hooks.filter (fun h => h.trig = m ∧ h.tw = w)).filter (fun h => h.isTask))).2).filter
        (fun i => i.fails && i.critical)).length := rfl

/-- …and handling stops at the first weight with a critical failure: no later weight of
    that pass is handled at all. -/
theorem C09_stop_at_first_failing_weight (env : Env) (hooks : List Hook) (m : Moment) (w : Int) (ws : List Int)
    (h : (handleWeight env hooks m w).2.2 > 0) :
    handleWeights env hooks m (w :: ws) = handleWeight env hooks m w := by
  simp [handleWeights, h]

/-- A failure is not lost by being collected LATE. A failing critical call that is pending at an await
    point (moment, weight) stays pending there through the handling of every other moment — whatever
    happens in between and however long it takes: the model has no clock, because the core has none
    here (a call's own `timeout` is only handed to the plugin; nothing in callable/call.go or handleHooks
    reads it) — … -/
theorem C09_pending_result_kept (env : Env) (hooks : List Hook) (m m' : Moment) (p : Int → Bool) (w : Int) (i : Inst)
    (hne : m' ≠ m) (hi : i ∈ pendingAt env m w) : i ∈ pendingAt (handleHooks env hooks m' p).1 m w :=
  handleHooks_keeps_elsewhere env hooks m m' p w i hne hi

/-- …and when the state machine handles the pass of its await moment that holds its weight, the pass
    reports a critical failure: either this call is collected and counted, or an earlier weight of the
    pass already failed critically. (What the callback does with a positive count — cancel at before_/leave_,
    report at enter_/after_ — is its definition, not part of this statement.) (`hnc`: the call has not been
    cancelled by a teardown — one that then failed to release its tasks, so that the environment lives on:
    `cancelCallsPendingAwait` makes the call's goroutine drop the result, and a later Await reads nil.) -/
theorem C09_late_result_counts (env : Env) (hooks : List Hook) (m : Moment) (p : Int → Bool) (w : Int) (i : Inst)
    (hi : i ∈ pendingAt env m w) (hp : p w = true) (hf : i.fails = true) (hc : i.critical = true)
    (hnc : isCancelled env i = false) :
    (handleHooks env hooks m p).2.2 > 0 :=
  handleHooks_counts_pending env hooks m p w i hi hp hf hc hnc

/-- The model's exit logic of `(*Call).Call()` is the code's (go/ast facts of harness/props/c09/facts.go
    over core/workflow/callable/call.go): an error of the evaluation of the call expression leaves at
    once with that error; a non-empty `__call_error` leaves with an error; the evaluation comes first;
    nothing else returns but the final `return nil`; and the returned value travels unchanged through
    `Start` (sent to the await channel), `Await` (returns what it receives) and `AwaitAll` (keeps every
    non-nil one) to handleHooks. -/
theorem C09_call_exits_are_code :
    codeCall = ⟨Gen.C09Call.evalErrorExits, Gen.C09Call.callErrorExits⟩ ∧
    Gen.C09Call.evalBeforeCallErrorTest = true ∧ Gen.C09Call.nilOnlyAtEnd = true ∧ Gen.C09Call.returns = 3 ∧
    Gen.C09Call.startSendsCallResult = true ∧ Gen.C09Call.awaitReturnsReceived = true ∧
    Gen.C09Call.awaitAllKeepsEveryError = true := by decide

/-- Whatever way an execution of a call hook fails — the plugin reports `__call_error` (with or without
    a reason, after waiting out its timeout, after its request was cancelled), the plugin function returns
    a Go error, does both, panics, is not exported, the plugin is not loaded, the expression does not
    compile — `Call()` returns an error; and it returns none for an execution that does not fail. -/
theorem C09_every_way_is_a_failure (o : Outcome) : callReturnsErr codeCall o.eval = o.isFail :=
  callReturnsErr_code o

/-- Only the criticality of a hook and the moment decide what its failure does, NOT the way it failed:
    two hook sets that differ at most in the ways their failing executions fail give the same run — the
    same steps, results and environments, request by request — for every number of tasks, every
    environment and every request list (overlapping pairs included), hence the same trace items for the
    monitor. -/
theorem C09_failure_kind_irrelevant (ks ks' : List KHook) (h : SameButWays ks ks') (nTasks : Nat) (env : Env) (reqs : List PReq) :
    runPar (ks.map (KHook.toHook codeCall)) nTasks env reqs = runPar (ks'.map (KHook.toHook codeCall)) nTasks env reqs ∧
    modelItemsPar (ks.map (KHook.toHook codeCall)) nTasks reqs = modelItemsPar (ks'.map (KHook.toHook codeCall)) nTasks reqs := by
  rw [map_toHook_eq_of_sameButWays h]
  exact ⟨rfl, rfl⟩

/-- …in particular every failure may as well have been reported through `__call_error` (or any other one way). -/
theorem C09_any_one_way_for_all (w : Way) (ks : List KHook) (nTasks : Nat) (env : Env) (reqs : List PReq) :
    runPar ((ks.map (KHook.withWay w)).map (KHook.toHook codeCall)) nTasks env reqs =
      runPar (ks.map (KHook.toHook codeCall)) nTasks env reqs :=
  (C09_failure_kind_irrelevant _ _ (map_withWay_sameButWays w ks) nTasks env reqs).1

/-- The model the harness compares the code with (scripts pushed through `Call()`'s exit logic) is the
    model of the hooks with the ways forgotten, on which `Spec.C09` is judged. -/
theorem C09_model_is_way_blind (ks : List KHook) : ks.map (KHook.toHook codeCall) = ks.map KHook.forget :=
  List.map_congr_left (fun k _ => toHook_code_eq_forget k)

/-- The grid: for EVERY way, a hook failing that way at each of the four moments of CONFIGURE, at a
    negative and at a non-negative weight, has the effect its criticality and the moment give it —
    critical at before_/leave_: cancelled, DEPLOYED kept; critical at enter_/after_: reported,
    CONFIGURED reached; non-critical: nothing. -/
theorem C09_effect_by_criticality_and_moment (w : Way) (crit neg : Bool) :
    let wt : Int := if neg then -5 else 5
    let hk (m : Moment) : List Hook := [KHook.toHook codeCall
      { id := 0, isTask := false, critical := crit, trig := m, tw := wt, await := m, aw := wt, outcomes := [.fail w] }]
    let run (m : Moment) := fsmEvent { st := .DEPLOYED } (hk m) .CONFIGURE true false
    ((run (.before .CONFIGURE)).2.2, (run (.before .CONFIGURE)).1.st) =
      (if crit then .cancelledHooks 1 (.before .CONFIGURE) else .ok, if crit then .DEPLOYED else .CONFIGURED) ∧
    ((run (.leave .DEPLOYED)).2.2, (run (.leave .DEPLOYED)).1.st) =
      (if crit then .cancelledHooks 1 (.leave .DEPLOYED) else .ok, if crit then .DEPLOYED else .CONFIGURED) ∧
    ((run (.enter .CONFIGURED)).2.2, (run (.enter .CONFIGURED)).1.st) =
      (if crit then .reported [(1, .enter .CONFIGURED)] else .ok, .CONFIGURED) ∧
    ((run (.after .CONFIGURE)).2.2, (run (.after .CONFIGURE)).1.st) =
      (if crit then .reported [(1, .after .CONFIGURE)] else .ok, .CONFIGURED) := by
  -- of the way the machine sees only that the execution fails
  simp only [toHook_code_eq_forget, KHook.forget, List.map, Outcome.isFail]
  cases crit <;> cases neg <;> exact ⟨rfl, rfl, rfl, rfl⟩

/-- Both exits are needed. With the first exit merged into the second (`mergedExit`, NOT the code: the
    evaluation error only stored in the message that the `__call_error` look-up then overwrites) `Call()`
    returns an error exactly when the plugin left a `__call_error` — so a critical hook whose plugin is
    not loaded no longer cancels CONFIGURE, while with the code's exits it does. -/
theorem C09_evaluation_error_exit_needed :
    (∀ o : Outcome, callReturnsErr mergedExit o.eval = o.eval.callError) ∧
    (let k : KHook := { id := 0, isTask := false, critical := true, trig := .before .CONFIGURE, tw := 0,
                        await := .before .CONFIGURE, aw := 0, outcomes := [.fail .noPlugin] }
     (fsmEvent { st := .DEPLOYED } [k.toHook mergedExit] .CONFIGURE true false).2.2 = .ok ∧
     (fsmEvent { st := .DEPLOYED } [k.toHook codeCall] .CONFIGURE true false).2.2 = .cancelledHooks 1 (.before .CONFIGURE)) := by
  refine ⟨?_, by decide⟩
  intro o
  cases o with
  | ok => rfl
  | fail w => cases w <;> rfl

/-- Non-vacuity: two hook sets that differ only in the ways (a plugin that is not loaded and a panic vs
    two `__call_error`s; mixed criticality, a healthy execution in between). -/
example :
    SameButWays
      [{ id := 0, isTask := false, critical := true, trig := .before .CONFIGURE, tw := 0, await := .before .CONFIGURE, aw := 0,
         outcomes := [.fail .noPlugin, .ok, .fail .panic] },
       { id := 1, isTask := false, critical := false, trig := .enter .CONFIGURED, tw := -1, await := .after .CONFIGURE, aw := 3,
         outcomes := [.fail .timeout] }]
      [{ id := 0, isTask := false, critical := true, trig := .before .CONFIGURE, tw := 0, await := .before .CONFIGURE, aw := 0,
         outcomes := [.fail .callError, .ok, .fail .callError] },
       { id := 1, isTask := false, critical := false, trig := .enter .CONFIGURED, tw := -1, await := .after .CONFIGURE, aw := 3,
         outcomes := [.fail .goErr] }] :=
  .cons ⟨rfl, rfl, rfl, rfl, rfl, rfl, rfl, rfl⟩ (.cons ⟨rfl, rfl, rfl, rfl, rfl, rfl, rfl, rfl⟩ .nil)

/-- Non-vacuity: a critical call started at before_DEPLOY that fails and is awaited two transitions later,
    at leave_DEPLOYED, cancels CONFIGURE (and DEPLOY went through). -/
example :
    let hooks : List Hook := [
      { id := 0, isTask := false, critical := true, trig := .before .DEPLOY, tw := 0, await := .leave .DEPLOYED, aw := 5, outcomes := [true] }]
    (runSeq hooks 0 {} [.try_ .DEPLOY true false, .try_ .CONFIGURE true false]).map (·.2.1) =
      [.ok, .cancelledHooks 1 (.leave .DEPLOYED)] := by rfl

/-- Non-vacuity: two critical calls failing together at one point are counted as 2 and cancel CONFIGURE. -/
example :
    let hooks : List Hook := [
      { id := 0, isTask := false, critical := true, trig := .before .CONFIGURE, tw := 0, await := .before .CONFIGURE, aw := 0, outcomes := [true] },
      { id := 1, isTask := false, critical := true, trig := .before .CONFIGURE, tw := 0, await := .before .CONFIGURE, aw := 0, outcomes := [true] },
      { id := 2, isTask := true, critical := false, trig := .before .CONFIGURE, tw := 0, await := .before .CONFIGURE, aw := 0, outcomes := [true] }]
    (fsmEvent { st := .DEPLOYED } hooks .CONFIGURE true false).2.2 = .cancelledHooks 2 (.before .CONFIGURE) := by rfl
