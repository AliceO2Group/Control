/-
  Props/C10 — "Run number and run timestamps bracket every run exactly once".

  Theorems about the bookkeeping inside the fsm callbacks as modelled in Model/Env.lean
  (bkBefore / bkAfter / finAfter / setSoeorIfEmpty / setEoeorIfEmpty / teardown), for ALL
  hook sets, environments and oracles. Model/Env.lean is the code AS IT IS (since "fix: after_STOP_ACTIVITY
  stamps run_end_completion_time_ms only if it is still empty" every writer of an end stamp is guarded:
  `C10_end_stamp_writers_are_code`, `C10_eoeor_once_code`); the code as it was is `stepOf legacyRunCfg`
  (Model/EnvLegacy.lean), about which `C10_finding_end_stamp_rewritten` speaks. Tie to /repo: correspondence run through
  harness/envh (run-focused generator profile; probe calls record the variables they are
  handed; Ev_RunEvent capture) with the trace monitor.
-/
import ControlModel.Gen.EnvBodies
import ControlModel.Gen.EnvStamps
import ControlModel.Gen.C08Facts
import ControlModel.Proofs.EnvOnce
import ControlModel.Proofs.EnvRun

open EnvM

/-- The run number and the start-of-run stamp are set AFTER the negative-weight and BEFORE
    the non-negative-weight before_START_ACTIVITY hooks: the steps of a START's before_event
    that is not cancelled are exactly
      marker, negative pass, [rnSet, SOSOR, later stamps cleared, RunEvent STARTED], other pass, marker;
    every hook begun in the negative pass is handed the variables from BEFORE the request,
    every hook begun in the other pass sees the new number n and the new SOSOR, with the
    three later stamps empty. -/
theorem C10_set_between_neg_and_pos (env : Env) (hooks : List Hook)
    (hneg : (handleHooks env hooks (.before .START_ACTIVITY) negW).2.2 = 0) :
    let m := Moment.before .START_ACTIVITY
    let r1 := handleHooks env hooks m negW
    let bk := bkBefore r1.1 .START_ACTIVITY false
    let r2 := handleHooks bk.1 hooks m posW
    (beforeEvent env hooks .START_ACTIVITY false).2.1 =
      [Step.mark m.name false] ++ r1.2.1 ++ bk.2.1 ++ r2.2.1 ++ [Step.mark m.name true] ∧
    bk.2.1 = [Step.rnSet (env.counter + 1), Step.tsSet 0 (env.clock + 1), Step.tsCleared,
              Step.runEvent "START_ACTIVITY" .started (env.counter + 1) (env.clock + 1)] ∧
    (∀ s ∈ r1.2.1, ∀ i ∈ s.begun, i.snap = env.vars) ∧
    (∀ s ∈ r2.2.1, ∀ i ∈ s.begun,
        i.snap.rnVar = some (env.counter + 1) ∧ i.snap.sosor = .val (env.clock + 1) ∧
        i.snap.eosor = .empty ∧ i.snap.soeor = .empty ∧ i.snap.eoeor = .empty) := by
  simp only
  have hbk := bkBefore_START_after_neg env hooks
  refine ⟨?_, hbk.1, handleHooks_begun_snap env hooks _ negW, ?_⟩
  · unfold beforeEvent
    simp only [hneg, gt_iff_lt, Nat.lt_irrefl, if_false, (bkBefore_START _).1, Bool.false_eq_true]
  · intro s hs i hi
    rw [handleHooks_begun_snap _ hooks _ posW s hs i hi]
    exact hbk.2

/-- Run number variable and start-of-run stamp stay UNCHANGED through every transition other
    than START_ACTIVITY and STOP_ACTIVITY (CONFIGURE, RESET, GO_ERROR, …), whatever fails. -/
theorem C10_run_identity_stable (env : Env) (hooks : List Hook) (e : Ev) (b r : Bool)
    (h1 : e ≠ .START_ACTIVITY) (h2 : e ≠ .STOP_ACTIVITY) :
    (fsmEvent env hooks e b r).1.vars.rnVar = env.vars.rnVar ∧ (fsmEvent env hooks e b r).1.vars.sosor = env.vars.sosor :=
  Prod.mk.inj (fsmEvent_runKey env hooks e b r h1 h2)

/-- In after_STOP_ACTIVITY they stay visible unchanged until its END:
    both hook passes of after_STOP_ACTIVITY (spelt out as in `afterEvent`) still run with them as they were on
    entry; that the step after the last pass (`finAfter`) retires the number is `C10_gone_afterwards`. -/
theorem C10_visible_until_after_stop (env : Env) (hooks : List Hook) (errs : List (Nat × Moment)) :
    let m := Moment.after .STOP_ACTIVITY
    let r1 := handleHooks env hooks m negW
    let bk := bkAfter r1.1 .STOP_ACTIVITY (!(if r1.2.2 > 0 then [(r1.2.2, m)] else errs).isEmpty)
    let r2 := handleHooks bk.1 hooks m posW
    (∀ s ∈ r1.2.1, ∀ i ∈ s.begun, i.snap.rnVar = env.vars.rnVar ∧ i.snap.sosor = env.vars.sosor) ∧
    (∀ s ∈ r2.2.1, ∀ i ∈ s.begun, i.snap.rnVar = env.vars.rnVar ∧ i.snap.sosor = env.vars.sosor) := by
  simp only
  refine ⟨?_, ?_⟩
  · intro s hs i hi; rw [handleHooks_begun_snap env hooks _ negW s hs i hi]; exact ⟨rfl, rfl⟩
  · intro s hs i hi
    rw [handleHooks_begun_snap _ hooks _ posW s hs i hi]
    exact Prod.mk.inj ((bkAfter_runKey _ .STOP_ACTIVITY _).trans (handleHooks_runKey env hooks _ negW))

/-- …and they are GONE afterwards: when after_STOP_ACTIVITY ends, the run-number variable is
    deleted, currentRunNumber is 0 and last_run_number holds the retired number. -/
theorem C10_gone_afterwards (env : Env) (hooks : List Hook) (errs : List (Nat × Moment)) :
    (afterEvent env hooks .STOP_ACTIVITY errs).1.vars.rnVar = none ∧
    (afterEvent env hooks .STOP_ACTIVITY errs).1.rn = 0 ∧
    (afterEvent env hooks .STOP_ACTIVITY errs).1.vars.lastRn = some env.rn := by
  unfold afterEvent
  simp only
  exact ⟨(finAfter_STOP _).2.1, (finAfter_STOP _).1,
    by rw [(finAfter_STOP _).2.2, handleHooks_rn, bkAfter_frame Env.rn (fun _ _ _ => rfl), handleHooks_rn]⟩

/-- START_ACTIVITY hands out counter+1 and advances the counter. -/
theorem C10_number_fresh (env : Env) (hooks : List Hook) :
    (bkBefore env .START_ACTIVITY false).1.rn = env.counter + 1 ∧
    (bkBefore env .START_ACTIVITY false).1.counter = env.counter + 1 :=
  let _ := hooks  -- the bookkeeping does not look at the hooks
  ⟨(bkBefore_START env).2.1, (bkBefore_START env).2.2.1⟩

/-- The guarded writers never overwrite a stamp that is set: on a set stamp they write
    nothing and emit no step. (STOP_ACTIVITY/GO_ERROR at before_, leave_RUNNING, STOP_ACTIVITY/GO_ERROR
    at after_, teardown while RUNNING: every site that closes a run, `C10_end_stamp_writers_are_code`.) -/
theorem C10_guarded_never_overwrite (env : Env) (tr : String) (p : Bool) (s : RunStatus) (t : Nat) :
    (env.vars.soeor = .val t → (setSoeorIfEmpty env tr p).1.vars.soeor = .val t ∧ (setSoeorIfEmpty env tr p).2 = []) ∧
    (env.vars.eoeor = .val t → (setEoeorIfEmpty env tr s).1.vars.eoeor = .val t ∧ (setEoeorIfEmpty env tr s).2 = []) := by
  refine ⟨fun h => ?_, fun h => ?_⟩
  · unfold setSoeorIfEmpty; simp [h, TV.isEmpty]
  · unfold setEoeorIfEmpty; simp [h, TV.isEmpty]

/-- FULL-STRENGTH "at most once per run" for the end-completion stamp, over a machine `stp` (what one request
    does): within one run no request rewrites an end-completion stamp that is already set. -/
def C10_eoeor_once_full_of (stp : List Hook → Nat → Env → Req → Env × List Step × Result) : Prop :=
  ∀ (env : Env) (hooks : List Hook) (q : Req) (n : Nat) (t : Nat),
    env.vars.eoeor = .val t → (stp hooks n env q).1.vars.rnVar = env.vars.rnVar ∨ True →
    (match q with | .try_ .START_ACTIVITY .. | .control .START_ACTIVITY .. => False | _ => True) →
    (stp hooks n env q).1.vars.eoeor = .val t

/-- …for the code as it is (`step`, Model/Env.lean). It was FALSE of the code before the repair (next theorem)
    and is TRUE of the code now (`C10_eoeor_once_code`). -/
def C10_eoeor_once_full : Prop := C10_eoeor_once_full_of step

/-- The finding `end_stamp_rewritten_after_failed_teardown` (repaired by "fix: after_STOP_ACTIVITY stamps
    run_end_completion_time_ms only if it is still empty"), machine-checked on the model of the code AS IT WAS
    (`stepOf legacyRunCfg`, Model/EnvLegacy.lean): after_STOP_ACTIVITY wrote run_end_completion_time_ms
    unconditionally, so a run whose end was already stamped by a teardown that then failed to release its tasks
    got a SECOND end-completion stamp when it was stopped. -/
theorem C10_finding_end_stamp_rewritten : ¬ C10_eoeor_once_full_of (stepOf legacyRunCfg) := by
  intro h
  have := h { st := .RUNNING, rn := 1, counter := 1, clock := 4,
              vars := { rnVar := some 1, sosor := .val 1, eosor := .val 2, soeor := .val 3, eoeor := .val 4 } }
            [] (.try_ .STOP_ACTIVITY true false) 0 4 rfl (Or.inr trivial) trivial
  revert this; decide

/-- The machine the refutation is about IS the model of the code, but for one write: with the switch on,
    `stepOf` is `step` (all hooks, environments, requests); with the switch off the bookkeeping of after_event
    differs in the STOP_ACTIVITY branch only. -/
theorem C10_legacy_differs_only_at_after_stop :
    stepOf codeRunCfg = step ∧
    (∀ (env : Env) (e : Ev) (f : Bool), e ≠ .STOP_ACTIVITY → bkAfterOf legacyRunCfg env e f = bkAfter env e f) ∧
    (∀ (env : Env) (e : Ev) (f : Bool), bkAfterOf codeRunCfg env e f = bkAfter env e f) :=
  ⟨stepOf_code, bkAfterOf_legacy_other, fun env e f => congrFun (congrFun (congrFun bkAfterOf_code env) e) f⟩

/-- **At most once, for the code as it is**: for ALL environments, hooks, task counts and requests other than a
    START_ACTIVITY (TryTransition, the API glue with its GO_ERROR fallback and its forced write, a teardown forced or
    not whatever its release rounds do), an end-completion stamp that is set is still set TO THE SAME VALUE
    afterwards. -/
theorem C10_eoeor_once_code : C10_eoeor_once_full := by
  intro env hooks q n t ht _ hq
  have hns : q.notStart = true := by
    cases q with
    | try_ e b r => cases e <;> first | exact absurd hq id | rfl
    | control e b r => cases e <;> first | exact absurd hq id | rfl
    | teardown f r1 r2 => rfl
  exact (step_advances hooks n env q hns).2.fixed t ht

/-- The same over whole histories and for BOTH end stamps: through any sequence of requests that holds no
    START_ACTIVITY — stops, errors, recoveries, teardowns that fail and are repeated, API requests — a
    run_end_time_ms / run_end_completion_time_ms that is set keeps its value. (A START_ACTIVITY opens the next
    run and clears them: `C10_set_between_neg_and_pos`.) -/
theorem C10_end_stamps_written_once (hooks : List Hook) (n : Nat) (env : Env) (qs : List Req)
    (hq : qs.all Req.notStart = true) :
    (∀ t, env.vars.soeor = .val t → (finalEnv hooks n env qs).vars.soeor = .val t) ∧
    (∀ t, env.vars.eoeor = .val t → (finalEnv hooks n env qs).vars.eoeor = .val t) :=
  ⟨(finalEnv_advances hooks n env qs hq).1.fixed, (finalEnv_advances hooks n env qs hq).2.fixed⟩

/-- The writers of the end-of-run stamps in the model are the ones in the source (go/ast over core/environment,
    re-read on every run, Gen/EnvStamps.lean): nine `SetRuntimeVar` sites — the two clears of
    before_START_ACTIVITY and seven stamping sites, EVERY ONE of them under `v, ok := GetUserVars().Get(key);
    if ok && v == ""` (a site that loses its guard, or a new unguarded one, makes this false; with the guard of
    after_STOP_ACTIVITY removed the table is `stampSites legacyRunCfg`) — and the model functions at the
    four before_event / after_event stamping sites are the guarded writers, with the event name and the publication the table shows. -/
theorem C10_end_stamp_writers_are_code :
    Gen.EnvStamps.writers = (stampSites codeRunCfg).map StampSite.row ∧
    (((stampSites codeRunCfg).filter (fun s => !s.clear)).all (·.guarded) = true) ∧
    (∀ (env : Env) (r : Bool), bkBefore env .STOP_ACTIVITY r =
      ((setSoeorIfEmpty env "STOP_ACTIVITY" true).1, (setSoeorIfEmpty env "STOP_ACTIVITY" true).2, false)) ∧
    (∀ (env : Env) (r : Bool), bkBefore env .GO_ERROR r =
      ((setSoeorIfEmpty env "GO_ERROR" true).1, (setSoeorIfEmpty env "GO_ERROR" true).2, false)) ∧
    (∀ (env : Env) (f : Bool), bkAfter env .STOP_ACTIVITY f =
      setEoeorIfEmpty env "STOP_ACTIVITY" (if f then .doneError else .doneOk)) ∧
    (∀ (env : Env) (f : Bool), bkAfter env .GO_ERROR f = setEoeorIfEmpty env "GO_ERROR" .doneOk) :=
  ⟨by rfl, by decide, fun _ _ => rfl, fun _ _ => rfl, fun _ _ => rfl, fun _ _ => rfl⟩

/-- The witness of the repaired finding, end to end on a fresh environment: START, a forced teardown whose
    first release round fails (the environment stays RUNNING with both end stamps set: 3 and 4), then STOP —
    the stop keeps both stamps; the code as it was stamped the end-completion time again (5). -/
example :
    let reqs : List Req := [.try_ .DEPLOY true false, .try_ .CONFIGURE true false, .try_ .START_ACTIVITY true false,
                            .teardown true false true, .try_ .STOP_ACTIVITY true false]
    (finalEnv [] 1 {} (reqs.take 4)).st = .RUNNING ∧
    (finalEnv [] 1 {} (reqs.take 4)).vars.eoeor = .val 4 ∧
    (finalEnv [] 1 {} reqs).vars = { rnVar := none, lastRn := some 1, sosor := .val 1, eosor := .val 2, soeor := .val 3, eoeor := .val 4 } ∧
    (finalEnvOf legacyRunCfg [] 1 {} reqs).vars.eoeor = .val 5 :=
  ⟨by rfl, by rfl, by rfl, by rfl⟩

/-- Why the class of the finding `end_stamp_rewritten_after_failed_teardown` is "a teardown whose release fails":
    after_STOP_ACTIVITY is reached with the end-completion stamp already set only if something set it while the environment stayed RUNNING — which only a teardown that
    failed after stamping does (`teardown` is the only guarded writer that can leave the state
    unchanged); stated here is the last step only: a teardown that returns without error leaves DONE. -/
theorem C10_eoeor_partial (env : Env) (hooks : List Hook) (f r1 r2 : Bool) (n : Nat)
    (hok : (teardown env hooks f r1 r2 n).2.2 = .ok) : (teardown env hooks f r1 r2 n).1.st = .DONE := by
  rcases teardown_st env hooks f r1 r2 n with ⟨_, _, hne⟩ | ⟨h, _⟩
  · exact absurd hok hne
  · exact h

/-- FULL-STRENGTH "the end stamps are set however the run ends" (FALSE of the code: next theorem):
    whenever a request takes an environment out of RUNNING (the run variables being there, as they are
    after every START_ACTIVITY), run_end_time_ms and run_end_completion_time_ms are both set afterwards. -/
def C10_end_stamps_full : Prop :=
  ∀ (env : Env) (hooks : List Hook) (q : Req) (n : Nat),
    env.st = .RUNNING → env.vars.soeor ≠ .absent → env.vars.eoeor ≠ .absent →
    (step hooks n env q).1.st ≠ .RUNNING →
    (step hooks n env q).1.vars.soeor.isVal = true ∧ (step hooks n env q).1.vars.eoeor.isVal = true

/-- The known finding `run_end_missing_after_forced_error`, machine-checked on the model: a STOP_ACTIVITY
    requested through the API is cancelled by a critical leave_RUNNING hook; the glue's GO_ERROR is cancelled
    by the same hook; the glue then writes the state with `Sm.SetState("ERROR")` — no callback runs, so
    run_end_completion_time_ms is never written (and no end-of-run event is published): the run has left
    RUNNING with a start, an end time (from before_STOP_ACTIVITY) and no end-completion time. -/
theorem C10_finding_run_end_missing_after_forced_error : ¬ C10_end_stamps_full := by
  intro h
  have := h { st := .RUNNING, rn := 1, counter := 1, clock := 2,
              vars := { rnVar := some 1, sosor := .val 1, eosor := .val 2, soeor := .empty, eoeor := .empty } }
            [{ id := 0, isTask := false, critical := true, trig := .leave .RUNNING, tw := 0, await := .leave .RUNNING, aw := 0,
               outcomes := [true, true] }]
            (.control .STOP_ACTIVITY true false) 0 rfl (by decide) (by decide) (by decide)
  revert this; decide

/-- What IS proved: however the run ends — STOP_ACTIVITY or GO_ERROR through TryTransition (stop, error), a
    teardown while RUNNING, an API request whose failure is followed by a GO_ERROR that goes through — both
    end stamps are set once the environment has left RUNNING, for all hooks, outcomes and environments in which
    the two variables are present. Excluded (spelled out as `forcedByGlue`): an API request that failed and whose
    GO_ERROR did not go through either. -/
theorem C10_end_stamps_partial (env : Env) (hooks : List Hook) (q : Req) (n : Nat)
    (hrun : env.st = .RUNNING) (hs : env.vars.soeor ≠ .absent) (he : env.vars.eoeor ≠ .absent)
    (hyp : match q with | .control e b r => forcedByGlue env hooks e b r = false | _ => True)
    (hleft : (step hooks n env q).1.st ≠ .RUNNING) :
    (step hooks n env q).1.vars.soeor.isVal = true ∧ (step hooks n env q).1.vars.eoeor.isVal = true :=
  step_end_stamps hooks n env q ⟨hs, he⟩ hyp (Or.inl ⟨hrun, hleft⟩)

/-- Non-vacuity of the partial theorem's hypothesis: a failed STOP through the API whose GO_ERROR goes
    through is not forced, and both end stamps are set. -/
example :
    let env : Env := { st := .RUNNING, rn := 1, counter := 1, clock := 2,
                       vars := { rnVar := some 1, sosor := .val 1, eosor := .val 2, soeor := .empty, eoeor := .empty } }
    forcedByGlue env [] .STOP_ACTIVITY false false = false ∧
    (step [] 0 env (.control .STOP_ACTIVITY false false)).1.vars.eoeor = .val 4 ∧
    (step [] 0 env (.control .STOP_ACTIVITY false false)).1.st = .ERROR :=
  ⟨by rfl, by rfl, by rfl⟩

/-- What the model assumes about the BODIES of the transitions is what the source says (go/ast over
    core/environment/transition_*.go, re-read on every run): there are six `do` methods — CONFIGURE, DEPLOY,
    GO_ERROR, RESET, START_ACTIVITY, STOP_ACTIVITY —; the only write any of them makes to the environment or
    through a variable / state setter (SetRuntimeVar(s), DeleteRuntimeVar(s), Set, Del, setState, SetState) is
    `env.currentRunNumber = 0` in START_ACTIVITY's failure branch (`bodyRows`, i.e. `bodyWrites`): no body
    touches run_number, last_run_number, the four run timestamps or the state; and the only things a body asks
    of the environment are its id, its workflow, the event stream (and, for START_ACTIVITY, a global variable
    READ; for DEPLOY, the FLP list and the workflow-adapter subscriptions). This is what the scripted bodies of
    the harness (T / C requests, DEPLOY always) replicate by hand — and what the real bodies (TR / CR requests)
    are observed to do. -/
theorem C10_transition_bodies_are_code :
    Gen.EnvBodies.transitions.map (·.2) = bodyEvents.map Ev.name ∧
    Gen.EnvBodies.writes = bodyRows ∧
    Gen.EnvBodies.envCalls =
      [("CONFIGURE", ["Id", "Workflow", "sendEnvironmentEvent"]),
       ("DEPLOY", ["GetFLPs", "Id", "Workflow", "id.String", "sendEnvironmentEvent", "wfAdapter.SubscribeToStateChange",
                   "wfAdapter.SubscribeToStatusChange", "wfAdapter.UnsubscribeFromStateChange", "wfAdapter.UnsubscribeFromStatusChange"]),
       ("GO_ERROR", []),
       ("RESET", ["Id", "Workflow", "sendEnvironmentEvent"]),
       ("START_ACTIVITY", ["GlobalVars.Get", "Id", "Workflow", "sendEnvironmentEvent"]),
       ("STOP_ACTIVITY", ["Id", "Workflow", "sendEnvironmentEvent"])] :=
  ⟨by rfl, by rfl, by rfl⟩

/-- …and `leaveState` (the model of leave_<state> with the body run by handlerFunc) does to the environment
    exactly what `bodyWrites` says, for ALL hooks, events and outcomes: the hook passes do not depend on the
    body's outcome; if they let the event go on, the environment afterwards is the one they left with the
    body's writes applied; the event is cancelled by the body iff the body was reached and the tasks failed. -/
theorem C10_model_body_is_bodyWrites (env : Env) (hooks : List Hook) (e : Ev) (b : Bool) :
    (leaveState env hooks e b).1 =
      (if (leaveState env hooks e true).2.2 = none then applyBody (leaveState env hooks e true).1 e b
       else (leaveState env hooks e true).1) ∧
    ((leaveState env hooks e b).2.2 = some .cancelledBody ↔ ((leaveState env hooks e true).2.2 = none ∧ b = false)) :=
  leaveState_body env hooks e b

/-- No body, no callback, no transition ever REMOVES an end-of-run stamp: once run_end_time_ms and
    run_end_completion_time_ms are there (START_ACTIVITY puts them there, empty, when it hands out the number)
    they stay there — set or empty — through every TryTransition, START_ACTIVITY included, however it ends.
    (The guarded writers that close a run write only when the key is PRESENT and empty.) -/
theorem C10_end_stamps_never_removed (env : Env) (hooks : List Hook) (e : Ev) (b r : Bool)
    (hs : env.vars.soeor ≠ .absent) (he : env.vars.eoeor ≠ .absent) :
    (fsmEvent env hooks e b r).1.vars.soeor ≠ .absent ∧ (fsmEvent env hooks e b r).1.vars.eoeor ≠ .absent :=
  fsmEvent_present env hooks e b r ⟨hs, he⟩

/-- A START_ACTIVITY that is cancelled by its BODY (the tasks refuse to go to RUNNING) — for all hooks and
    environments — leaves the environment where it was, with currentRunNumber back to 0, and with the run it
    had opened still OPEN in the variables: the number it handed out, the start stamp it set, and the three
    later stamps present and empty, so that whatever closes the run next finds them. -/
theorem C10_failed_start_leaves_run_open (env : Env) (hooks : List Hook) (b r : Bool)
    (h : (fsmEvent env hooks .START_ACTIVITY b r).2.2 = .cancelledBody) :
    (fsmEvent env hooks .START_ACTIVITY b r).1.st = env.st ∧
    (fsmEvent env hooks .START_ACTIVITY b r).1.rn = 0 ∧
    (fsmEvent env hooks .START_ACTIVITY b r).1.vars.rnVar = some (env.counter + 1) ∧
    (fsmEvent env hooks .START_ACTIVITY b r).1.vars.sosor = .val (env.clock + 1) ∧
    (fsmEvent env hooks .START_ACTIVITY b r).1.vars.eosor = .empty ∧
    (fsmEvent env hooks .START_ACTIVITY b r).1.vars.soeor = .empty ∧
    (fsmEvent env hooks .START_ACTIVITY b r).1.vars.eoeor = .empty :=
  fsmEvent_failed_start env hooks b r h

/-- However a request takes the environment to ERROR from another state — GO_ERROR through TryTransition,
    an API request whose failure is followed by a GO_ERROR that goes through — both end stamps are SET
    afterwards, provided they were there (as they are from the first START_ACTIVITY on): in particular a run
    whose START_ACTIVITY was cancelled after the number was handed out (previous theorem: the environment is
    still CONFIGURED, the stamps present and empty) is closed by the GO_ERROR that follows. Excluded, as in
    `C10_end_stamps_partial`: an API request that failed and whose GO_ERROR did not go through either (`forcedByGlue`). -/
theorem C10_end_stamps_on_error (env : Env) (hooks : List Hook) (q : Req) (n : Nat)
    (hne : env.st ≠ .ERROR) (hs : env.vars.soeor ≠ .absent) (he : env.vars.eoeor ≠ .absent)
    (hyp : match q with | .control e b r => forcedByGlue env hooks e b r = false | _ => True)
    (herr : (step hooks n env q).1.st = .ERROR) :
    (step hooks n env q).1.vars.soeor.isVal = true ∧ (step hooks n env q).1.vars.eoeor.isVal = true :=
  step_end_stamps hooks n env q ⟨hs, he⟩ hyp (Or.inr ⟨hne, herr⟩)

/-- Non-vacuity, end to end on a fresh environment: the tasks refuse to start (the run has number 1 and a
    start stamp, the environment is still CONFIGURED, currentRunNumber is 0 again), the API glue's GO_ERROR
    closes the run: SOSOR unchanged, both end stamps set, in order. -/
example :
    let reqs : List Req := [.try_ .DEPLOY true false, .try_ .CONFIGURE true false, .control .START_ACTIVITY false false]
    (finalEnv [] 1 {} reqs).vars = { rnVar := some 1, lastRn := none, sosor := .val 1, eosor := .empty, soeor := .val 2, eoeor := .val 3 } ∧
    (finalEnv [] 1 {} reqs).st = .ERROR ∧ (finalEnv [] 1 {} reqs).rn = 0 ∧
    forcedByGlue (finalEnv [] 1 {} (reqs.take 2)) [] .START_ACTIVITY false false = false :=
  ⟨by rfl, by rfl, by rfl, by rfl⟩

/-- Non-vacuity / end-to-end: a full START…STOP cycle with hooks on a fresh environment hands
    out number 1, stamps SOSOR < EOSOR < SOEOR < EOEOR and retires the number. -/
example :
    let hooks : List Hook := [
      { id := 0, isTask := false, critical := true, trig := .before .START_ACTIVITY, tw := -5, await := .before .START_ACTIVITY, aw := -5, outcomes := [] },
      { id := 1, isTask := false, critical := true, trig := .before .START_ACTIVITY, tw := 5, await := .after .STOP_ACTIVITY, aw := 0, outcomes := [] }]
    let env := finalEnv hooks 0 {} [.try_ .DEPLOY true false, .try_ .CONFIGURE true false, .try_ .START_ACTIVITY true false, .try_ .STOP_ACTIVITY true false]
    env.vars = { rnVar := none, lastRn := some 1, sosor := .val 1, eosor := .val 2, soeor := .val 3, eoeor := .val 4 } ∧ env.rn = 0 ∧ env.st = .CONFIGURED := by
  exact ⟨by rfl, by rfl, by rfl⟩

/-! before_<event>, leave_<state>, enter_<state>, after_<event> handle their hooks in two passes with the
  bookkeeping of the run bracket between them. That the hooks of a NON-NEGATIVE weight see what the second pass
  sees — whatever the await expressions of the calls of the moment say, e.g. a call triggered at
  before_START_ACTIVITY-10 that is awaited at before_START_ACTIVITY+10, where other hooks are triggered —
  rests on the split: a pass visits, starts and collects at weights of its own sign only. -/

/-- Each pass visits only weights of its own sign, and everything it begins is a hook triggered at this moment
    with a weight of that sign — for all environments (pending calls included), hook sets and moments. -/
theorem C10_pass_signs (env : Env) (hooks : List Hook) (m : Moment) :
    (∀ w ∈ weightsFor env hooks m negW, w < 0) ∧ (∀ w ∈ weightsFor env hooks m posW, w ≥ 0) ∧
    (∀ s ∈ (handleHooks env hooks m negW).2.1, ∀ i ∈ s.begun, ∃ g ∈ hooks, g.id = i.hook ∧ g.trig = m ∧ g.tw < 0) ∧
    (∀ s ∈ (handleHooks env hooks m posW).2.1, ∀ i ∈ s.begun, ∃ g ∈ hooks, g.id = i.hook ∧ g.trig = m ∧ g.tw ≥ 0) := by
  refine ⟨fun w hw => ?_, fun w hw => ?_, fun s hs i hi => ?_, fun s hs i hi => ?_⟩
  · have := weightsFor_pred env hooks m negW w hw
    simpa [negW] using this
  · have := weightsFor_pred env hooks m posW w hw
    simpa [posW] using this
  · obtain ⟨g, hg, hid, ht, hp⟩ := handleHooks_begun_hook env hooks m negW s hs i hi
    exact ⟨g, hg, hid, ht, by simpa [negW] using hp⟩
  · obtain ⟨g, hg, hid, ht, hp⟩ := handleHooks_begun_hook env hooks m posW s hs i hi
    exact ⟨g, hg, hid, ht, by simpa [posW] using hp⟩

/-- The split is the code's: handleHooks takes the weights of a pass from ONE set (`allWeights :=
    allWeightsSet.GetWeights()`), restricts them by the predicate it was handed and loops over exactly the
    restricted list, and the three entries hand it `true` / `w < 0` / `w >= 0` (that they do nothing else:
    `C08_pass_weights_are_code`; go/ast facts of harness/props/c08/facts.go, re-read on every run) — which is `weightsFor … p = (sortDedup …).filter p`. -/
theorem C10_pass_split_is_code :
    Gen.C08Facts.weightsFromSet = true ∧ Gen.C08Facts.loopOverFiltered = true ∧
    Gen.C08Facts.wrappers.map (fun w => (w.1, w.2.1)) =
      [("handleAllHooks", "true"), ("handleHooksWithNegativeWeights", "w < 0"), ("handleHooksWithPositiveWeights", "w >= 0")] ∧
    (∀ (env : Env) (hooks : List Hook) (m : Moment) (p : Int → Bool), ∀ w ∈ weightsFor env hooks m p, p w = true) :=
  ⟨by rfl, by rfl, by rfl, weightsFor_pred⟩

/-- **A non-negative before_START_ACTIVITY hook sees the run number and the start stamp, and runs once.** With
    pairwise different hook ids, whatever else is triggered or awaited at the moment (calls that cross from the
    negative into the other pass included): every execution of a hook triggered at before_START_ACTIVITY with
    weight ≥ 0 that a START's before_event begins is handed the NEW run number and start time, the three later
    stamps empty; it is begun at most once, and exactly once when no critical failure stops the second pass. -/
theorem C10_nonneg_before_start_sees_run (env : Env) (hooks : List Hook) (h : Hook)
    (hmem : h ∈ hooks) (hU : (hooks.map (·.id)).Nodup) (ht : h.trig = .before .START_ACTIVITY) (hw : h.tw ≥ 0)
    (hneg : (handleHooks env hooks (.before .START_ACTIVITY) negW).2.2 = 0) :
    (∀ s ∈ (beforeEvent env hooks .START_ACTIVITY false).2.1, ∀ i ∈ s.begun, i.hook = h.id →
        i.snap.rnVar = some (env.counter + 1) ∧ i.snap.sosor = .val (env.clock + 1) ∧
        i.snap.eosor = .empty ∧ i.snap.soeor = .empty ∧ i.snap.eoeor = .empty) ∧
    begunCount h.id (beforeEvent env hooks .START_ACTIVITY false).2.1 ≤ 1 ∧
    ((beforeEvent env hooks .START_ACTIVITY false).2.2 = none →
      begunCount h.id (beforeEvent env hooks .START_ACTIVITY false).2.1 = 1) := by
  -- `hneg` is not needed: when the negative pass counts a critical failure the other pass does not run, and `h` is not begun
  have _ := hneg
  have hp := beforeEvent_begun env hooks .START_ACTIVITY false
  have hle := Nat.le_trans (begunCount_le_of_prefix hp h.id) (twoPass_begunCount _ _ hooks _ h hmem hU).1
  rw [if_pos ht] at hle
  refine ⟨fun s hs i hi hid => ?_, hle, fun hn => ?_⟩
  · rw [nonneg_snap hp h hmem hU hw s hs i hi hid]
    exact (bkBefore_START_after_neg env hooks).2
  · rw [beforeEvent_begunCount env hooks _ false h hmem hU hn, if_pos ht]

/-- **The non-negative hooks of the other moments of the run bracket see the stamp their moment writes.** With
    pairwise different hook ids: a hook triggered at before_STOP_ACTIVITY / before_GO_ERROR with weight ≥ 0 is
    begun only with the end time set (if the run has one to set: the variable is present); at
    after_START_ACTIVITY with the start-completion time set; at after_STOP_ACTIVITY / after_GO_ERROR with the
    end-completion time set (same proviso). -/
theorem C10_nonneg_hooks_see_stamps (env : Env) (hooks : List Hook) (h : Hook)
    (hmem : h ∈ hooks) (hU : (hooks.map (·.id)).Nodup) (hw : h.tw ≥ 0) :
    (∀ e, (e = .STOP_ACTIVITY ∨ e = .GO_ERROR) → h.trig = .before e → env.vars.soeor ≠ .absent → ∀ r,
      ∀ s ∈ (beforeEvent env hooks e r).2.1, ∀ i ∈ s.begun, i.hook = h.id → i.snap.soeor.isVal = true) ∧
    (h.trig = .after .START_ACTIVITY → ∀ errs,
      ∀ s ∈ (afterEvent env hooks .START_ACTIVITY errs).2.1, ∀ i ∈ s.begun, i.hook = h.id → i.snap.eosor.isVal = true) ∧
    (∀ e, (e = .STOP_ACTIVITY ∨ e = .GO_ERROR) → h.trig = .after e → env.vars.eoeor ≠ .absent → ∀ errs,
      ∀ s ∈ (afterEvent env hooks e errs).2.1, ∀ i ∈ s.begun, i.hook = h.id → i.snap.eoeor.isVal = true) := by
  refine ⟨?_, ?_, ?_⟩
  · intro e he _ hp r s hs i hi hid
    rw [nonneg_snap (beforeEvent_begun env hooks e r) h hmem hU hw s hs i hi hid]
    exact bkBefore_sets_soeor _ e r he (by rw [handleHooks_vars]; exact hp)
  · intro _ errs s hs i hi hid
    obtain ⟨f, hf⟩ := afterEvent_begun env hooks .START_ACTIVITY errs
    rw [nonneg_snap hf h hmem hU hw s hs i hi hid]; rfl
  · intro e he _ hp errs s hs i hi hid
    obtain ⟨f, hf⟩ := afterEvent_begun env hooks e errs
    rw [nonneg_snap hf h hmem hU hw s hs i hi hid]
    exact bkAfter_sets_eoeor _ e f he (by rw [handleHooks_vars]; exact hp)

/-- Non-vacuity, a call that crosses the passes, end to end: a call triggered at before_START_ACTIVITY-10 awaited at
    before_START_ACTIVITY+10 and a probe triggered at +10; two runs. The probe is begun once per START, after the
    number was handed out, and sees run 1 with start time 1, then run 2 with start time 5 and the first run's later
    stamps gone; the crossing call sees, each time, what was there before its START. -/
example :
    let hooks : List Hook := [
      { id := 0, isTask := false, critical := false, trig := .before .START_ACTIVITY, tw := -10, await := .before .START_ACTIVITY, aw := 10, outcomes := [] },
      { id := 1, isTask := false, critical := false, trig := .before .START_ACTIVITY, tw := 10, await := .before .START_ACTIVITY, aw := 10, outcomes := [] }]
    let reqs : List Req := [.try_ .DEPLOY true false, .try_ .CONFIGURE true false, .try_ .START_ACTIVITY true false,
      .try_ .STOP_ACTIVITY true false, .try_ .START_ACTIVITY true false]
    let begun := ((runSeq hooks 0 {} reqs).map fun r => (r.1.flatMap Step.begun).map fun i => (i.hook, i.snap.rnVar, i.snap.sosor, i.snap.eoeor))
    begun = [[], [], [(0, none, .absent, .absent), (1, some 1, .val 1, .empty)], [],
             [(0, none, .val 1, .val 4), (1, some 2, .val 5, .empty)]] := by rfl
