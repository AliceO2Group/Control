/-
  Props/C11 — "A role's state and status are the fold of its subtree".

  Property theorems (names `C11_*` are the proof obligations counted in the
  evidence file), `def C11_state_seq_full` and examples; lemmas live in Proofs/RoleTree.lean, RoleTraits.lean and RoleTreeConc.lean.

  Tie to /repo: `Gen.stateXTable` / `Gen.statusXTable` are tabulated on every
  run by evaluating the linked `sm.State.X` / `task.Status.X`; the first two
  theorems identify the hand-written algebra with those tables, so every
  theorem below is about the products the code computes. The tree model
  (`updState`, `updStatus`, `mergeState`, …) is tied by the correspondence run.
-/
import ControlModel.Gen.StateAlgebra
import ControlModel.Gen.MergeFacts
import ControlModel.Proofs.RoleTree
import ControlModel.Proofs.RoleTreeConc
import ControlModel.Gen.FoldFacts
import ControlModel.Proofs.RoleTraits

open RoleTree RoleTree.Forest

/-- The model's state product IS the tabulated `sm.State.X` (all 64 cells). -/
theorem C11_stateX_is_code (a b : TState) :
    (a.X b).idx = (Gen.stateXTable[a.idx]!)[b.idx]! := by
  revert a b; decide

/-- The model's status product IS the tabulated `task.Status.X` (all 25 cells). -/
theorem C11_statusX_is_code (a b : TStatus) :
    (a.X b).idx = (Gen.statusXTable[a.idx]!)[b.idx]! := by
  revert a b; decide

/-- State combination is a commutative, associative, idempotent product in which
    ERROR dominates, INVARIANT ("no opinion") is neutral, and two different
    healthy states give MIXED. -/
theorem C11_state_algebra :
    (∀ a b : TState, a.X b = b.X a) ∧ (∀ a b c : TState, (a.X b).X c = a.X (b.X c)) ∧
    (∀ a : TState, a.X a = a) ∧ (∀ a : TState, a.X .ERROR = .ERROR) ∧ (∀ a : TState, a.X .INVARIANT = a) ∧
    (∀ a b : TState, a ≠ b → a ≠ .ERROR → b ≠ .ERROR → a ≠ .INVARIANT → b ≠ .INVARIANT → a.X b = .MIXED) :=
  ⟨X_comm, X_assoc, X_idem, X_error_right, X_invariant_right, by decide⟩

/-- Status combination: commutative, associative, idempotent; UNDEFINED absorbs,
    then UNDEPLOYABLE; anything else that differs ("anything missing") is PARTIAL. -/
theorem C11_status_algebra :
    (∀ a b : TStatus, a.X b = b.X a) ∧ (∀ a b c : TStatus, (a.X b).X c = a.X (b.X c)) ∧
    (∀ a : TStatus, a.X a = a) ∧ (∀ a : TStatus, a.X .UNDEFINED = .UNDEFINED) ∧
    (∀ a : TStatus, a ≠ .UNDEFINED → a.X .UNDEPLOYABLE = .UNDEPLOYABLE) ∧
    (∀ a b : TStatus, a ≠ b → a ≠ .UNDEFINED → b ≠ .UNDEFINED → a ≠ .UNDEPLOYABLE → b ≠ .UNDEPLOYABLE → a.X b = .PARTIAL) :=
  ⟨U_comm, U_assoc, U_idem, U_undefined_right, by decide, by decide⟩

/-- FULL-STRENGTH statement for state (kept visible; it is FALSE of the code, see
    `C11_finding_barren_aggregator`): from a freshly loaded tree, after any
    sequence of leaf updates every aggregator reports the fold of its critical
    leaf descendants. -/
def C11_state_seq_full : Prop :=
  ∀ (f : Forest) (us : List Update), allInit f = true → stateOk (run f us) = true

/-- What IS proved: the same, for trees in which every aggregator has a critical
    descendant (`noBarren`) — for every tree shape and depth, every update
    sequence of any length, any mix of state and status updates. -/
theorem C11_state_seq_partial (f : Forest) (us : List Update)
    (hinit : allInit f = true) (hnb : noBarren f = true) :
    stateOk (run f us) = true :=
  (consistent_spec _ (run_consistent f us (init_consistent f hinit hnb))).2

/-- …and more generally from ANY locally consistent tree, barren or not: the
    aggregation itself never goes wrong; only the initial STANDBY of an
    aggregator nobody ever updates does. -/
theorem C11_state_seq_from_consistent (f : Forest) (us : List Update) (h : Consistent f) :
    stateOk (run f us) = true :=
  (consistent_spec _ (run_consistent f us h)).2

/-- Status: after any sequence of updates every aggregator reports the status
    fold of ALL its descendants (no criticality filter). Holds for every loaded
    tree (the loader never leaves an aggregator empty). -/
theorem C11_status_seq (f : Forest) (us : List Update)
    (hinit : allInit f = true) (hne : noEmptyAgg f = true) :
    statusOk (run f us) = true :=
  (consistentU_spec _ (run_consistentU f us (init_consistentU f hinit hne))).2

/-- The known finding, machine-checked on the model: an aggregator whose only
    descendant is a non-critical task keeps its initial STANDBY for ever and the
    parent folds it in, so with the one critical task RUNNING the root reports
    MIXED instead of RUNNING. -/
theorem C11_finding_barren_aggregator : ¬ C11_state_seq_full := by
  intro h
  have := h (.agg .STANDBY .INACTIVE
              (.leaf false true .STANDBY .INACTIVE
                (.agg .STANDBY .INACTIVE (.leaf false false .STANDBY .INACTIVE .nil) .nil)) .nil)
            [.state [0] .RUNNING] rfl
  revert this; decide

/-- Non-vacuity: the hypotheses of the partial theorems are met by a real-looking
    tree (root → [critical task, aggregator → [critical call, non-critical task]]). -/
example :
    let f : Forest := .agg .STANDBY .INACTIVE
      (.leaf false true .STANDBY .INACTIVE
        (.agg .STANDBY .INACTIVE (.leaf true true .STANDBY .INACTIVE (.leaf false false .STANDBY .INACTIVE .nil)) .nil)) .nil
    allInit f = true ∧ noBarren f = true ∧ noEmptyAgg f = true := by decide

/-- Listing a role's children in another order does not change what the
    property demands of it, for state or status (adjacent swap at any position;
    such swaps generate all permutations). -/
theorem C11_children_order_irrelevant (n : Nat) (f : Forest) :
    specState (swapAt n f) = specState f ∧ specStatus? (swapAt n f) = specStatus? f := by
  fun_induction swapAt n f with
  | case1 f => exact swapHead_spec f
  | case2 => exact ⟨rfl, rfl⟩
  | case3 n c k s u next ih => simp only [specState_leaf, specStatus?_leaf, ih, and_self]
  | case4 n s u kids next ih => simp only [specState_agg, specStatus?_agg, ih, and_self]

/-! ## task hooks and the other traits of a task/call role

  Model/RoleTraits.lean: leaves carry what the YAML says about them (task or call, critical,
  hook = non-empty trigger) and the fold, the merge and the two update functions are written after
  the Go code, which receives the whole role. The theorems below are for EVERY tree with ANY mix
  of hooks and basic tasks and EVERY update sequence, under the hypotheses each one names (freshly
  loaded, `noBarrenT` / `noEmptyAggT`). Tied to the real roles by the same
  differential runs (hook leaves are loaded from YAML with a `trigger:`), the two conditions the
  model copies from the code by `C11_fold_filter_is_code`. -/

/-- go/ast facts, re-extracted on every run. `aggregateState` asserts the child's type twice
    (`*taskRole`, `*callRole`), leaves the loop body early in exactly two places — a task role that is
    not critical, a call role that is not critical: `skipped` — and combines every other child
    unconditionally; a task/call role calls its parent's `updateState` under `t.Critical == true`
    (`forwards`) and its parent's `updateStatus` unconditionally; `aggregateStatus` leaves no child
    out (its only early exit is the UNDEFINED one of `aggStatusFromT`). No trait other than
    `Critical` (trigger, await, timeout) occurs in any of these conditions. -/
theorem C11_fold_filter_is_code :
    Gen.foldAsserts = [("taskR", "isTaskRole", "c.(*taskRole)"), ("callR", "isCallRole", "c.(*callRole)")] ∧
    Gen.foldSkips = [("len(roles) == 0", "return"), ("isTaskRole && !taskR.Critical", "continue"),
                     ("not(isTaskRole) && isCallRole && !callR.Critical", "continue"), ("", "return")] ∧
    Gen.foldCombines = [("", "s = sm.INVARIANT"), ("", "s = s.X(c.GetState())")] ∧
    Gen.leafForwards = [("*taskRole.updateState: t.Critical == true", "t.parent.updateState(s)"),
                        ("*taskRole.updateStatus: ", "t.parent.updateStatus(s)"),
                        ("*callRole.updateState: t.Critical == true", "t.parent.updateState(s)"),
                        ("*callRole.updateStatus: ", "t.parent.updateStatus(s)")] ∧
    Gen.statusFoldSkips = [("len(roles) == 0", "return"),
                           ("len(roles) > 1 && status == task.UNDEFINED", "return"), ("", "return")] ∧
    Gen.statusFoldCombines = [("len(roles) == 0", "status = task.UNDEFINED"), ("", "status = roles[0].GetStatus()"),
                              ("len(roles) > 1", "status = status.X(c.GetStatus())")] :=
  ⟨rfl, rfl, rfl, rfl, rfl, rfl⟩

/-- The trigger plays no role: two trees that differ only in WHICH task/call roles are hooks report
    the same state and status at every role after every update sequence. -/
theorem C11_trigger_irrelevant (f g : TForest) (us : List Update) (h : forget f = forget g) :
    dumpT (runT f us) = dumpT (runT g us) := by
  rw [dumpT_forget, dumpT_forget, runT_forget, runT_forget, h]

/-- State, trees with hooks: from a freshly loaded tree, after any sequence of leaf updates every
    aggregator reports the fold of ALL its critical task/call descendants — critical hooks take part
    like any critical task, non-critical ones do not (`specStateT` never looks at the hook flag).
    Same excluded hypothesis as `C11_state_seq_partial` (finding `barren_aggregator`). -/
theorem C11_state_seq_hooks_partial (f : TForest) (us : List Update)
    (hinit : allInitT f = true) (hnb : noBarrenT f = true) :
    stateOkT (runT f us) = true := by
  rw [stateOkT_forget, runT_forget]
  exact C11_state_seq_partial (forget f) us (allInitT_forget f ▸ hinit) (noBarrenT_forget f ▸ hnb)

/-- …and from any locally consistent tree with hooks. -/
theorem C11_state_seq_hooks_from_consistent (f : TForest) (us : List Update) (h : ConsistentT f) :
    stateOkT (runT f us) = true := by
  rw [stateOkT_forget, runT_forget]
  exact C11_state_seq_from_consistent (forget f) us h

/-- Status, trees with hooks: the fold of all descendants, hooks included (hypotheses as in `C11_status_seq`). -/
theorem C11_status_seq_hooks (f : TForest) (us : List Update)
    (hinit : allInitT f = true) (hne : noEmptyAggT f = true) :
    statusOkT (runT f us) = true := by
  rw [statusOkT_forget, runT_forget]
  exact C11_status_seq (forget f) us (allInitT_forget f ▸ hinit) (noEmptyAggT_forget f ▸ hne)

/-- Sequential "never lost", for every kind of critical leaf (hypotheses of `C11_state_seq_hooks_partial`):
    whenever, after any update sequence, a critical task/call role — hook or not — holds ERROR, every aggregator above it (the root in
    particular) reports ERROR; no later update of a sibling can hide it. -/
theorem C11_critical_error_kept (f : TForest) (us : List Update)
    (hinit : allInitT f = true) (hnb : noBarrenT f = true) :
    errKeptT (runT f us) = true :=
  stateOk_errKept _ (C11_state_seq_hooks_partial f us hinit hnb)

/-- What the roles report is a function of what the leaves hold: two update sequences — e.g. the
    same updates to different leaves in another arrival order — that leave the leaves equal leave
    every aggregator's state equal (from a freshly loaded tree without barren aggregators). -/
theorem C11_arrival_order_irrelevant (f : TForest) (us₁ us₂ : List Update)
    (hinit : allInitT f = true) (hnb : noBarrenT f = true)
    (hl : sameLeavesT (runT f us₁) (runT f us₂) = true) :
    (dumpT (runT f us₁)).map (·.1) = (dumpT (runT f us₂)).map (·.1) :=
  sameLeaves_states _ _ hl (C11_state_seq_hooks_partial f us₁ hinit hnb)
    (C11_state_seq_hooks_partial f us₂ hinit hnb)

/-- Non-vacuity and the worked case: root → [agg → [critical task HOOK, critical task], critical task].
    The hook fails and its sibling reports CONFIGURED, in both orders: the hypotheses hold, the
    leaves end equal, and agg and root report ERROR either way (the hook's ERROR first enters through
    the merge shortcut, then has to survive the re-fold the sibling's update causes). -/
example :
    let f : TForest := .agg .STANDBY .INACTIVE
      (.agg .STANDBY .INACTIVE
        (.leaf false ⟨true, true⟩ .STANDBY .INACTIVE (.leaf false ⟨true, false⟩ .STANDBY .INACTIVE .nil))
        (.leaf false ⟨true, false⟩ .STANDBY .INACTIVE .nil)) .nil
    let a : List Update := [.state [0, 0] .ERROR, .state [0, 1] .CONFIGURED]
    let b : List Update := [.state [0, 1] .CONFIGURED, .state [0, 0] .ERROR]
    allInitT f = true ∧ noBarrenT f = true ∧ noEmptyAggT f = true ∧
    sameLeavesT (runT f a) (runT f b) = true ∧ critErrT (runT f a) = true ∧
    (dumpT (runT f a)).map (·.1) = [.ERROR, .ERROR, .ERROR, .CONFIGURED, .STANDBY] ∧
    (dumpT (runT f b)).map (·.1) = [.ERROR, .ERROR, .ERROR, .CONFIGURED, .STANDBY] := by
  decide

/-! ## repeated reports and non-uniform presets

A role made by `NewAggregatorRole` starts with the zero values (UNDEFINED: nothing folded yet), a loaded role
and every copy an iterator generates with INACTIVE. The code hands EVERY status report of a task/call role
upward — also one that does not change the role — and that is what makes the aggregators above it the fold of
their children whatever they held before. -/

/-- Tie: no update function of a task/call role has a way out before its parent call (no `return`, `break`,
    `continue`, `goto`, `panic` at all), the aggregator's only one is the nil-receiver guard, and the aggregator
    hands on what it holds after its merge whenever it has a parent — no "unchanged, so skip" anywhere.
    (The guards of the leaves' parent calls are the subject of `C11_fold_filter_is_code`.) -/
theorem C11_reports_always_forwarded_is_code :
    Gen.updateExits = [("*aggregatorRole.updateState: r == nil", "return"),
                       ("*aggregatorRole.updateStatus: r == nil", "return")] ∧
    Gen.aggForwards = [("*aggregatorRole.updateState: r.parent != nil", "r.parent.updateState(r.state.get())"),
                       ("*aggregatorRole.updateStatus: r.parent != nil", "r.parent.updateStatus(r.status.get())")] :=
  ⟨rfl, rfl⟩

/-- One status update — possibly REPEATING the leaf's value — on ANY tree in which every aggregator either has
    folded nothing yet or is the fold of its children: afterwards every aggregator above the leaf is the fold of
    what its children report, and the leaf holds the value. -/
theorem C11_status_update_refolds_path (f : TForest) (p : List Nat) (s : TStatus)
    (h : zeroOrFoldT f = true) (hr : reachesLeafT f p = true) :
    pathStatusOkT (updStatusT f p s).1 p = true ∧ (valAtT (updStatusT f p s).1 p).map (·.2) = some s :=
  ⟨updStatusT_refolds_path f p s (zeroOrFold_pathPre f p h) (updStatusT_reaches f p s hr).1,
   (updStatusT_reaches f p s hr).2⟩

/-- "Nothing folded yet or the fold" is kept by every update sequence (state and status, repeats included). -/
theorem C11_zero_or_fold_kept (f : TForest) (us : List Update) (h : zeroOrFoldT f = true) :
    zeroOrFoldT (runT f us) = true :=
  List.foldlRecOn us applyUpdateT h fun f h u _ => by
    cases u with
    | state p s => exact updStateT_zeroOrFold f (0 :: p) s h
    | status p s => exact updStatusT_zeroOrFold f (0 :: p) s h

/-- The predicate the driver evaluates on trees with non-uniform presets holds of the model, for EVERY such
    tree (`zeroOrFoldT`) and EVERY sequence of updates that address task/call roles (`reachAllT`): after each status update the
    path above the leaf is re-folded, after each update the leaf holds the value. -/
theorem C11_repeat_spec (f : TForest) (us : List Update) (h : zeroOrFoldT f = true) (hr : reachAllT f us = true) :
    stepsOkT (traceT f us) us = true := by
  induction us generalizing f with
  | nil => rfl
  | cons u us ih =>
    rw [stepsOkT_trace_cons, Bool.and_eq_true]
    cases u with
    | state p s =>
      simp only [reachAllT, Bool.and_eq_true] at hr
      exact ⟨decide_eq_true (updStateT_reaches f (0 :: p) s hr.1), ih _ (updStateT_zeroOrFold f (0 :: p) s h) hr.2⟩
    | status p s =>
      simp only [reachAllT, Bool.and_eq_true] at hr
      have := C11_status_update_refolds_path f (0 :: p) s h hr.1
      exact ⟨Bool.and_eq_true_iff.mpr ⟨this.1, decide_eq_true this.2⟩, ih _ (updStatusT_zeroOrFold f (0 :: p) s h) hr.2⟩

/-- Refutation of the variant "a report that leaves the leaf unchanged is not handed upward"
    (`updStatusSkipT`, NOT the code): a fresh aggregator over one task born INACTIVE, first report INACTIVE —
    the root keeps UNDEFINED although its only child reports INACTIVE; the code (`updStatusT`) gives INACTIVE. -/
theorem C11_skip_unchanged_report_refuted :
    let f : TForest := .agg .UNKNOWN .UNDEFINED (.leaf false ⟨true, false⟩ .STANDBY .INACTIVE .nil) .nil
    zeroOrFoldT f = true ∧ reachesLeafT f [0, 0] = true ∧
    pathStatusOkT (updStatusSkipT f [0, 0] .INACTIVE).1 [0, 0] = false ∧
    pathStatusOkT (updStatusT f [0, 0] .INACTIVE).1 [0, 0] = true ∧
    dumpT (updStatusT f [0, 0] .INACTIVE).1 = [(.UNKNOWN, .INACTIVE), (.STANDBY, .INACTIVE)] := by
  decide

/-- Non-vacuity: root and inner aggregator fresh, two tasks born INACTIVE, each reports INACTIVE, then ACTIVE twice. -/
example :
    let t : TForest := .leaf false ⟨true, false⟩ .STANDBY .INACTIVE (.leaf false ⟨true, true⟩ .STANDBY .INACTIVE .nil)
    let f : TForest := .agg .UNKNOWN .UNDEFINED (.agg .UNKNOWN .UNDEFINED t .nil) .nil
    let us : List Update := [.status [0, 0] .INACTIVE, .status [0, 1] .INACTIVE, .status [0, 0] .ACTIVE,
                             .status [0, 0] .ACTIVE, .status [0, 1] .ACTIVE]
    zeroOrFoldT f = true ∧ reachAllT f us = true ∧ statusOkT f = false ∧ statusOkT (runT f us) = true := by
  decide

/-! ## concurrent delivery: "an ERROR of a critical task is never lost nor invented at the root,
    also when updates arrive concurrently"

  Model/RoleTreeConc.lean: every update is a thread whose atomic steps are the lock-protected
  accesses the Go code makes (write the leaf; take the parent's lock and apply a shortcut or fold
  the children one read at a time and store; read the merged role's state again for ITS parent).
  The theorems below are for EVERY tree, EVERY set of updates and EVERY schedule (any list of
  thread numbers). They start from a configuration in which no thread has started (`allStart`);
  the never-lost ones also assume `errUp` of the start tree.
  The model is tied to the real roles by the controlled-interleaving runs of
  harness/props/c11/conc.go, its locking discipline by `C11_merge_under_lock_is_code`. -/

open RoleTree.Conc

/-- go/ast facts, re-extracted on every run: `SafeState.merge` and `SafeStatus.merge` take the
    role's mutex in their first statement, release it by a `defer` in the second, touch the mutex
    nowhere else, and call the re-aggregation of the children inside that body — the whole merge
    (compare, shortcuts, fold, store) is one critical section, which is what `step` assumes. -/
theorem C11_merge_under_lock_is_code :
    Gen.mergeFacts.map (fun f => (f.1, f.2.1, f.2.2.1, f.2.2.2.1, f.2.2.2.2.1, f.2.2.2.2.2.1)) =
      [("core/workflow/safestate.go", "merge", true, true, 0, true),
       ("core/workflow/safestatus.go", "merge", true, true, 0, true)] :=
  rfl

/-- Never lost, at every aggregator: when all updates have been delivered, an aggregator one of
    whose children (aggregator or critical task/call) is in ERROR reports ERROR — given that this
    held of the tree before any thread started (`errUp T c0.st`). -/
theorem C11_conc_error_propagates (T : Topo) (c0 : Cfg) (sched : List Nat)
    (hs : allStart T c0 = true) (he : errUp T c0.st = true)
    (hq : quiescent T (exec T c0 sched) = true) :
    errUp T (exec T c0 sched).st = true :=
  NL_quiescent T _ (exec_inv T (NL T) (NL_step T) sched c0 (NL_init T c0 hs he)) hq

/-- Never lost at the root: for every loaded tree that starts with `errUp`, every set of updates and every schedule, once
    all updates have been delivered a critical task in ERROR means the root reports ERROR. -/
theorem C11_conc_error_not_lost (T : Topo) (c0 : Cfg) (sched : List Nat) (hwf : T.wf = true)
    (hs : allStart T c0 = true) (he : errUp T c0.st = true)
    (hq : quiescent T (exec T c0 sched) = true) (l : Nat) (hl : T.crit l = true)
    (herr : (exec T c0 sched).st l = .ERROR) : (exec T c0 sched).st 0 = .ERROR :=
  up_to_root T _ hwf ((errUp_iff T _).mp (C11_conc_error_propagates T c0 sched hs he hq))
    l (contrib_of_crit hl) herr

/-- Never invented: from a tree in which nothing that counts is in ERROR, at ANY moment of ANY
    schedule (quiescent or not) the root reports ERROR only if at that or an earlier moment some
    critical task/call role was in ERROR. -/
theorem C11_conc_error_not_invented (T : Topo) (c0 : Cfg) (sched : List Nat) (hroot : T.agg 0 = true)
    (hs : allStart T c0 = true) (hclean : anyErr T c0.st = false)
    (herr : (exec T c0 sched).st 0 = .ERROR) :
    ∃ k, k ≤ sched.length ∧ ∃ l, T.crit l = true ∧ (exec T c0 (sched.take k)).st l = .ERROR :=
  error_needs_critErr T (contrib_of_agg hroot) sched c0 (PcOk_init T c0 hs) (Clean_init T c0 hs hclean) herr

/-- …and that ERROR was DELIVERED: one of the updates puts a critical task/call role into ERROR. -/
theorem C11_conc_error_needs_error_update (T : Topo) (c0 : Cfg) (sched : List Nat) (hroot : T.agg 0 = true)
    (hs : allStart T c0 = true) (hclean : anyErr T c0.st = false)
    (herr : (exec T c0 sched).st 0 = .ERROR) : errUpdate T = true := by
  obtain ⟨k, _, l, hl, hst⟩ := C11_conc_error_not_invented T c0 sched hroot hs hclean herr
  rcases LeafSrc_exec T c0 (sched.take k) hs l (crit_not_agg hl) with h0 | ⟨j, hj⟩
  · exact absurd (h0 ▸ hst) ((anyErr_false_iff T c0.st).mp hclean l (contrib_of_crit hl))
  · rw [hst] at hj
    simp only [errUpdate, List.any_eq_true, Bool.and_eq_true, beq_iff_eq]
    exact ⟨(l, .ERROR), List.mem_of_getElem? hj, hl, rfl⟩

/-- The role's mutex does its job in the model: in every reachable configuration at most one thread
    is folding the children of a given role. (The theorems above do not go through this invariant; they
    read the lock where `step` tests it: nobody stores into a role while another thread folds there.) -/
theorem C11_conc_mutex (T : Topo) (c0 : Cfg) (sched : List Nat) (hs : allStart T c0 = true)
    (j1 j2 : Nat) (h1 : j1 < T.nT) (h2 : j2 < T.nT) (p : Nat) (t1 t2 : List Nat) (a1 a2 : TState)
    (e1 : (exec T c0 sched).pc j1 = .fold p t1 a1) (e2 : (exec T c0 sched).pc j2 = .fold p t2 a2) :
    j1 = j2 :=
  exec_inv T (Mutex T) (Mutex_step T) sched c0 (Mutex_init T c0 hs) j1 j2 h1 h2 p t1 a1 t2 a2 e1 e2

/-- The decidable predicate the harness evaluates on what the REAL roles report when every
    UpdateState has returned (`Conc.concOk`, Spec/C11Conc.lean) holds of the model for every loaded
    tree that starts with `errUp`, every set of updates and every schedule run to quiescence. -/
theorem C11_conc_spec (T : Topo) (c0 : Cfg) (sched : List Nat) (hwf : T.wf = true)
    (hs : allStart T c0 = true) (he : errUp T c0.st = true)
    (hq : quiescent T (exec T c0 sched) = true) :
    concOk T c0.st (exec T c0 sched).st = true := by
  have h1 := C11_conc_error_propagates T c0 sched hs he hq
  have h2 : notLost T (exec T c0 sched).st = true := by
    unfold notLost
    cases hc : critLeafErr T (exec T c0 sched).st with
    | false => rfl
    | true =>
      obtain ⟨l, hl, hst⟩ := (critLeafErr_iff T _).mp hc
      rw [C11_conc_error_not_lost T c0 sched hwf hs he hq l hl hst]; rfl
  have h3 : notInvented T c0.st (exec T c0 sched).st = true := by
    unfold notInvented
    cases hclean : anyErr T c0.st with
    | true => exact Bool.or_true _
    | false =>
      by_cases herr : (exec T c0 sched).st 0 = .ERROR
      · rw [C11_conc_error_needs_error_update T c0 sched (wf_root T hwf) hs hclean herr, herr]; rfl
      · rw [beq_eq_false_iff_ne.mpr herr]; rfl
  have h4 := (LeafSrc_exec T c0 sched hs).leavesOk
  rw [concOk, h1, h2, h3, h4]; rfl

/-- Non-vacuity and a worked schedule: root → [task B, task A], both critical and RUNNING; thread 0
    moves A to CONFIGURED and is in the middle of its fold (it has read B = RUNNING) when thread 1
    puts B into ERROR; thread 1 is blocked by the root's mutex until thread 0 has stored MIXED, then
    overrides it: the hypotheses of the theorems hold and the root ends in ERROR. -/
example :
    let T : Topo := ⟨[⟨none, true, false⟩, ⟨some 0, false, true⟩, ⟨some 0, false, true⟩],
                    [(2, .CONFIGURED), (1, .ERROR)]⟩
    let c0 : Cfg := ⟨fun _ => .RUNNING, fun _ => .start⟩
    let sched := [0, 0, 0, 1, 1, 0, 0, 1]
    T.wf = true ∧ allStart T c0 = true ∧ errUp T c0.st = true ∧ anyErr T c0.st = false ∧
    quiescent T (exec T c0 sched) = true ∧ (exec T c0 sched).st 1 = .ERROR ∧
    (exec T c0 sched).st 0 = .ERROR ∧ (exec T c0 (sched.take 5)).st 0 = .RUNNING := by
  decide

/-- What is NOT true under concurrency (and why the concurrent clause is about ERROR only): the
    full fold can be stale when everything has been delivered. Root → P → [A, B]; thread 0 (A →
    CONFIGURED) merges P to MIXED and reads that MIXED for the root; thread 1 (B → CONFIGURED)
    then brings P and the root to CONFIGURED; thread 0 finally delivers its stale MIXED to the root
    through the MIXED shortcut. All tasks are CONFIGURED, the root says MIXED. (Model-level fact:
    the harness cannot hold a real goroutine between `r.state.get()` and the parent's lock.) -/
theorem C11_conc_stale_aggregate_possible :
    ∃ (T : Topo) (c0 : Cfg) (sched : List Nat), T.wf = true ∧ allStart T c0 = true ∧
      aggOk T c0.st = true ∧ quiescent T (exec T c0 sched) = true ∧
      aggOk T (exec T c0 sched).st = false :=
  ⟨⟨[⟨none, true, false⟩, ⟨some 0, true, false⟩, ⟨some 1, false, true⟩, ⟨some 1, false, true⟩],
     [(2, .CONFIGURED), (3, .CONFIGURED)]⟩,
   ⟨fun _ => .STANDBY, fun _ => .start⟩,
   [0, 0, 0, 0, 0, 0, 1, 1, 1, 1, 1, 1, 1, 1, 1, 0], by decide⟩
