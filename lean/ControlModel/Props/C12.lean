/-
  Props/C12 — "Each control command gets exactly one answer per target, never
  someone else's".

  The decidable predicates (`shapeOk`, `ownOrError`, …) are those of Spec/C12.lean,
  which the driver also evaluates on the real code's behaviour.

  Every theorem about runs (the two refutations aside) is quantified over ALL configurations (where keys must differ:
  distinct command ids and per-command distinct targets, `wfCfg`) and ALL schedules of its layer, at the base `sched : List
  Step`: any interleaving of dequeues, caller steps (register, send ok / send
  failure, receive, time out), completions and response arrivals `deliver r`
  for arbitrary `r` — own, duplicate, late, early, foreign id, unknown sender,
  for other commands, in any order. The model does not even enforce the queue
  mutex, so the theorems also cover commands truly in flight at the same time.

  "Within its response timeout": the model has no clock; what is proved is that
  every target is waited for with the command's OWN response timeout (the
  per-target command is the command restricted to that target —
  `C12_single_target_*`, `C12_waits_own_timeout`, `C12_sends_own_timeout`,
  `C12_timer_is_code`), and that a reply processed while its call is pending is
  never lost (`C12_reply_not_lost`).
-/
import ControlModel.Gen.ServentFacts
import ControlModel.Proofs.CmdQueue
import ControlModel.Proofs.CmdHandover
import ControlModel.Proofs.CmdLock
import ControlModel.Proofs.CmdKey

open CmdQueue

/-! ## the code the model is about (go/ast facts, regenerated on every check)

These record the statements of `Servent` and `consolidateResponses` that the
model's `step` transcribes but that a black-box run cannot fully observe (a
missing `delete` only shows as a leaked goroutine / a growing map). -/

/-- The key is (command id, target) on both sides: `RunCommand` registers
    `CallId{cmd.GetId(), receiver}`, `ProcessResponse` looks up
    `CallId{res.GetCommandId(), sender}` — `keyOf?` / `Resp.key`. -/
theorem C12_key_is_code :
    Gen.C12.callIdFields = ["Id xid.ID", "Target MesosCommandTarget"] ∧
    Gen.C12.runCommandKey = "CallId{ Id: cmdId, Target: receiver, }" ∧
    Gen.C12.processResponseKey = "CallId{ Id: res.GetCommandId(), Target: sender, }" := ⟨rfl, rfl, rfl⟩

/-- `RunCommand`: register under the lock; unregister under the lock on send
    error and on timeout (`finish … true`), and only there; block on exactly
    `call.Done` or the command's response timeout. `ProcessResponse`:
    lookup-and-delete under the lock, then hand over on `call.Done` (`deliver`). -/
theorem C12_servent_is_code :
    Gen.C12.runCommandOps =
      ["s.pending[callId] = call locked=true", "delete(s.pending, callId) locked=true",
       "call.Error = fmt.Errorf(\"%s timed out for task %s\", cmd.GetName(), receiver.TaskId.Value)",
       "delete(s.pending, callId) locked=true"] ∧
    Gen.C12.runCommandSelect = ["<-call.Done", "<-time.After(cmd.GetResponseTimeout())"] ∧
    Gen.C12.processResponseOps =
      ["call, ok := s.pending[callId] locked=true", "delete(s.pending, callId) locked=true",
       "call.Response = res", "call.Done <- empty{}"] := ⟨rfl, rfl, rfl⟩

/-- `consolidateResponses`: 0 ⇒ nil, 1 ⇒ that response, else a multi-response (`consolidate`). -/
theorem C12_consolidate_is_code :
    Gen.C12.consolidateShape =
      ["if len(responses) == 0", "if len(responses) == 1", "return &MesosCommandMultiResponse"] := rfl

/-- Which object is used for what. `commit` makes the per-target command with
    `MakeSingleTarget(receiver)` and hands THAT to `RunCommand`; `RunCommand`
    takes the key's id from it, registers BEFORE it calls the send function,
    hands it to the send function, and arms its timer with ITS response timeout
    (`callCmd`, `keyOf?`, `timerOf`, and the order register → send that
    `C12_reply_not_lost` relies on). -/
theorem C12_timer_is_code :
    Gen.C12.commitCalls =
      ["singleCommand := command.MakeSingleTarget(receiver)",
       "res, err := m.servent.RunCommand(singleCommand, receiver)"] ∧
    Gen.C12.runCommandFlow =
      ["params cmd,receiver", "cmdId := cmd.GetId()", "s.pending[callId] = call",
       "err := s.SendFunc(cmd, receiver)", "case <-call.Done",
       "case <-time.After(cmd.GetResponseTimeout())"] := ⟨rfl, rfl⟩

/-- The consumer goroutine of `CommandQueue.Start`: an endless loop around a
    one-clause select (no default) that receives from the queue channel; under
    the queue lock `commit`, then the answer goes to the caller's channel in a
    statement of its own — a plain BLOCKING send, no select around it, no default,
    no timeout —, and only then the lock is released and the loop goes round
    (`qstep`: `take c` is the only way out of the hand-over, `start` is disabled
    meanwhile). -/
theorem C12_handover_is_code :
    Gen.C12.startLoop =
      ["for", "select cases=1 default=false", "case entry, more := <-m.q", "m.Lock()",
       "response, err := m.commit(entry.cmd)", "stmt entry.callback <- response", "m.Unlock()"] := rfl

/-- What the model's `singleTarget` yields for a tabulated row. -/
def C12_singleView (id : Nat) (targets : List Nat) (tmo : Nat) (args : List (Nat × Nat)) (recv : Nat) :
    Option (Nat × List Nat × Nat × Nat × Bool) :=
  (singleTarget { id := id, targets := targets, tmo := tmo, args := args } recv).map
    (fun sc => (sc.id, sc.targets, sc.tmo, argOf sc recv, true))

/-- `MakeSingleTarget` as LINKED (evaluated by `vh gen` through the
    Transition and TriggerHook wrappers and on the base, for receivers inside
    and outside the target list, with and without an argument map, with
    default / shorter / longer response timeouts) is the model's `singleTarget`:
    nil outside the target list, otherwise the same id, the same response
    timeout, the one receiver, the receiver's own arguments, and name /
    environment / wrapper fields untouched. -/
theorem C12_single_target_is_code :
    Gen.C12.singleTargetTable.length = 16 ∧
    Gen.C12.singleTargetTable.all (fun row =>
      C12_singleView row.2.1 row.2.2.1 row.2.2.2.1 row.2.2.2.2.1 row.2.2.2.2.2.1 == row.2.2.2.2.2.2) = true := by
  decide

/-- Distinct command ids and distinct targets make the keys of different
    callers different. -/
theorem C12_keys_distinct (cmds : List Cmd) (h : wfCfg cmds = true) (i j : Ref) (k : CallId)
    (hi : keyOf? cmds i = some k) (hj : keyOf? cmds j = some k) : i = j :=
  keyOf_inj h hi hj

/-- The Servent invariant, in every reachable state: an entry of `pending`
    belongs to the one caller with that key, which is between register and
    unregister and has no response yet; conversely such a caller owns exactly
    the entry at its own key. -/
theorem C12_pending_owned (cmds : List Cmd) (h : wfCfg cmds = true) (sched : List Step) :
    let s := run cmds init sched
    (∀ k j, s.pending k = some j → keyOf? cmds j = some k ∧
        ((s.call j).pc = .registered ∨ (s.call j).pc = .waiting) ∧ (s.call j).mailbox = none) ∧
    (∀ i k, keyOf? cmds i = some k → ((s.call i).pc = .registered ∨ (s.call i).pc = .waiting) →
        (s.call i).mailbox = none → s.pending k = some i) := by
  have inv := inv_run h sched (inv_init cmds)
  exact ⟨fun k j hp => (inv.pending_iff k j).mp hp, fun i k hk ha hm => (inv.pending_iff k i).mpr ⟨hk, ha, hm⟩⟩

/-- Exactly-once, safety half: in every schedule there is at most one callback
    per command; a callback, once delivered, is never retracted or changed by
    anything that happens later; and a caller that has returned keeps its outcome. -/
theorem C12_completes_once (cmds : List Cmd) (h : wfCfg cmds = true) (sched later : List Step) :
    ((run cmds init sched).callbacks.map (·.1)).Nodup ∧
    (∃ extra, (run cmds init (sched ++ later)).callbacks = (run cmds init sched).callbacks ++ extra) ∧
    (∀ i o, ((run cmds init sched).call i).pc = .finished o →
        ((run cmds init (sched ++ later)).call i).pc = .finished o) := by
  refine ⟨(reach_run h sched (reach_init cmds)).commit.callbacks_nodup, ?_, fun i o hf => ?_⟩
  · rw [run_append]; exact callbacks_run later _
  · rw [run_append]; exact finished_run later hf

/-- Liveness as enabledness: for a caller that is waiting, the timeout step is
    always enabled and makes it return "did not answer". -/
theorem C12_timeout_enabled (cmds : List Cmd) (h : wfCfg cmds = true) (sched : List Step) (i : Ref)
    (hw : ((run cmds init sched).call i).pc = .waiting) :
    ((step cmds (run cmds init sched) (.timeout i)).call i).pc = .finished .timeoutErr := by
  obtain ⟨k, hk⟩ := (inv_run h sched (inv_init cmds)).key_of_active (i := i) (by rw [hw]; nofun)
  simp only [step, hk, hw, finish, upd_same, if_true]

/-- Exactly-once, liveness half: from ANY reachable state in which a command has
    been dequeued and not answered yet, some continuation of the schedule delivers its
    callback (`CmdQueue.can_complete` builds one made only of steps nobody can
    disable — every caller: register, send, time out; then complete). No arrival pattern can wedge a command. -/
theorem C12_can_always_complete (cmds : List Cmd) (h : wfCfg cmds = true) (sched : List Step)
    (c : Nat) (cmd : Cmd) (hc : cmds[c]? = some cmd)
    (hst : (run cmds init sched).started c = true) (hnc : (run cmds init sched).completed c = false) :
    ∃ more res, (c, res) ∈ (run cmds init (sched ++ more)).callbacks := by
  obtain ⟨res, hres⟩ := can_complete h (reach_run h sched (reach_init cmds)) hc hst
  exact ⟨_, res, by rw [run_append]; exact hres⟩

/-- What a caller returns is its own reply or an error, and it has a cause in
    the schedule: a reply `r` is addressed to this caller's (command id, target)
    and was delivered; "could not be sent" needs a failed send of THIS caller;
    "did not answer" needs THIS caller's timeout. -/
theorem C12_call_own_or_error (cmds : List Cmd) (h : wfCfg cmds = true) (sched : List Step) (i : Ref) (o : Outcome)
    (hf : ((run cmds init sched).call i).pc = .finished o) :
    match o with
    | .reply r => keyOf? cmds i = some r.key ∧ Step.deliver r ∈ sched ∧ Step.recv i ∈ sched
    | .sendErr => Step.sendFail i ∈ sched
    | .timeoutErr => Step.timeout i ∈ sched := by
  have inv := inv_run h sched (inv_init cmds)
  have cause := (outcome_run_cause sched init hf).resolve_left nofun
  cases o with
  | reply r =>
    exact ⟨inv.reply_own hf, (mailbox_run_cause sched init ((inv.callOk i).replyHeld r hf)).resolve_left nofun, cause⟩
  | sendErr | timeoutErr => exact cause

/-- The result delivered on the callback channel holds, for each target, that
    target's own reply or an error synthesised for this command — and each entry
    is the outcome of the caller for exactly that target, with its cause in the
    schedule. -/
theorem C12_own_or_error (cmds : List Cmd) (h : wfCfg cmds = true) (sched : List Step) (c : Nat) (res : Result)
    (hcb : (c, res) ∈ (run cmds init sched).callbacks) :
    ∃ cmd, cmds[c]? = some cmd ∧
      ∀ t e, entryOf cmd res t = some e →
        ownOrError cmd t e = true ∧
        ∃ p, cmd.targets[p]? = some t ∧
          match e with
          | .own r => Step.deliver r ∈ sched ∧ Step.recv (c, p) ∈ sched
          | .synth _ .send => Step.sendFail (c, p) ∈ sched
          | .synth _ .timeout => Step.timeout (c, p) ∈ sched := by
  have r := reach_run h sched (reach_init cmds)
  obtain ⟨cmd, hc, _, hent⟩ := r.commit.callback_ok c res hcb
  refine ⟨cmd, hc, fun t e he => ?_⟩
  obtain ⟨o, ho, rfl⟩ := hent t e he
  obtain ⟨p, e2, e3⟩ := r.commit.sem_returned hc t o ho
  refine ⟨ownOrError_returned r.servent hc e2 e3, p, e2, ?_⟩
  have hcause := C12_call_own_or_error cmds h sched (c, p) o e3
  cases o with
  | reply _ => exact hcause.2
  | sendErr | timeoutErr => exact hcause

/-- Shape of every delivered result: nil for a command without targets, the one
    response for one target, and for two or more a multi-response carrying the
    command's id with exactly one own-or-error entry per target (`shapeOk`). -/
theorem C12_result_shape (cmds : List Cmd) (h : wfCfg cmds = true) (sched : List Step) (c : Nat) (res : Result)
    (hcb : (c, res) ∈ (run cmds init sched).callbacks) :
    ∃ cmd, cmds[c]? = some cmd ∧ shapeOk cmd res = true ∧
      (cmd.targets.length = 0 → res = .nil) ∧
      (cmd.targets.length = 1 → ∃ v, res = .single v) ∧
      (2 ≤ cmd.targets.length → ∃ m, res = .multi cmd.id m ∧ m.length = cmd.targets.length) := by
  obtain ⟨cmd, hc, hshape, _⟩ := (reach_run h sched (reach_init cmds)).commit.callback_ok c res hcb
  exact ⟨cmd, hc, hshape, shapeOk_length hshape⟩

/-- A response whose key matches no pending call changes NOTHING (in any state). -/
theorem C12_foreign_inert (cmds : List Cmd) (s : State) (r : Resp) (hnone : s.pending r.key = none) :
    step cmds s (.deliver r) = s := by
  simp only [step, hnone]

/-- A response with a foreign command id or from a sender that is not a target
    of that command is inert in every reachable state. -/
theorem C12_unknown_inert (cmds : List Cmd) (h : wfCfg cmds = true) (sched : List Step) (r : Resp)
    (hunk : ∀ i, keyOf? cmds i ≠ some r.key) :
    step cmds (run cmds init sched) (.deliver r) = run cmds init sched := by
  have inv := inv_run h sched (inv_init cmds)
  exact C12_foreign_inert cmds _ r
    (Option.eq_none_iff_forall_ne_some.mpr fun j hp => hunk j ((inv.pending_iff _ j).mp hp).1)

/-- Early, duplicate and late responses are inert: if the caller the response is
    addressed to has not registered yet, already has a response, or has already
    returned (reply, send error or timeout), the response changes nothing. -/
theorem C12_dup_late_inert (cmds : List Cmd) (h : wfCfg cmds = true) (sched : List Step) (r : Resp)
    (hstate : ∀ i, keyOf? cmds i = some r.key →
      ((run cmds init sched).call i).pc = .idle ∨
      (∃ o, ((run cmds init sched).call i).pc = .finished o) ∨
      ((run cmds init sched).call i).mailbox ≠ none) :
    step cmds (run cmds init sched) (.deliver r) = run cmds init sched := by
  have inv := inv_run h sched (inv_init cmds)
  refine C12_foreign_inert cmds _ r (Option.eq_none_iff_forall_ne_some.mpr fun j hp => ?_)
  obtain ⟨hk, hpc, hmb⟩ := (inv.pending_iff _ j).mp hp
  rcases hstate j hk with h1 | ⟨o, h1⟩ | h1
  · exact hpc.ne_idle h1
  · exact hpc.ne_finished o h1
  · exact h1 hmb

/-- `ProcessResponse` touches only the caller that owns the response's key:
    every other caller's `Call` object and every other `pending` entry stay as
    they are. -/
theorem C12_deliver_local (cmds : List Cmd) (h : wfCfg cmds = true) (sched : List Step) (r : Resp) :
    let s := run cmds init sched
    (∀ j, keyOf? cmds j ≠ some r.key → (step cmds s (.deliver r)).call j = s.call j) ∧
    (∀ k, k ≠ r.key → (step cmds s (.deliver r)).pending k = s.pending k) := by
  have inv := inv_run h sched (inv_init cmds)
  refine ⟨fun j hj => ?_, fun k hk => ?_⟩ <;> simp only [step] <;> split
  · rfl
  · next j' hp => exact upd_other _ _ _ fun e => hj (e ▸ ((inv.pending_iff _ _).mp hp).1)
  · rfl
  · exact upd_other _ _ _ hk

/-- Never someone else's: what happens to a caller — every state it goes through
    and the outcome it returns — is a function of ITS OWN steps and of the
    responses addressed to ITS OWN (command id, target) alone. Deleting from the
    schedule every step of every other caller and every response with another
    key (other targets, other commands in flight, foreign ids, their duplicates
    and late copies, in whatever order) leaves it unchanged. -/
theorem C12_others_irrelevant (cmds : List Cmd) (h : wfCfg cmds = true) (sched : List Step) (i : Ref) (k : CallId)
    (hk : keyOf? cmds i = some k) :
    (run cmds init sched).call i = (run cmds init (sched.filter (concerns cmds i))).call i :=
  congrArg Prod.fst (view_run h hk sched init init (inv_init cmds) rfl)

/-- What `MakeSingleTarget` preserves (the model's transcription; identified
    with the linked code by `C12_single_target_is_code`): defined exactly for the
    command's targets; same id, same response timeout, that one target, that
    target's own arguments. -/
theorem C12_single_target_preserves (c : Cmd) (t : Nat) :
    (t ∈ c.targets → ∃ sc, singleTarget c t = some sc) ∧
    (∀ sc, singleTarget c t = some sc →
      t ∈ c.targets ∧ sc.id = c.id ∧ sc.tmo = c.tmo ∧ sc.targets = [t] ∧ argOf sc t = argOf c t) := by
  refine ⟨fun h => ⟨_, singleTarget_of_mem h⟩, ?_⟩
  intro sc h
  obtain ⟨hm, rfl⟩ := singleTarget_some h
  exact ⟨hm, rfl, rfl, rfl, argOf_single _ _ _ _⟩

/-- The servent waits for target `t` with the command's OWN response timeout:
    the command object the caller for (command `c`, target `t`) registers, sends
    and arms its timer with is the command restricted to `t` — same id (so the
    key is (command id, t)), same response timeout, `t`'s own arguments — and
    that is what the send function is handed. -/
theorem C12_waits_own_timeout (cmds : List Cmd) (c p t : Nat) (cmd : Cmd)
    (hc : cmds[c]? = some cmd) (ht : cmd.targets[p]? = some t) :
    ∃ sc, callCmd cmds (c, p) = some (sc, t) ∧
      sc.id = cmd.id ∧ sc.targets = [t] ∧ sc.tmo = cmd.tmo ∧ argOf sc t = argOf cmd t ∧
      keyOf? cmds (c, p) = some ⟨cmd.id, t⟩ ∧ timerOf cmds (c, p) = some cmd.tmo ∧
      ∀ ok, sendView cmds (c, p) ok = some (.send c t ok cmd.tmo (argOf cmd t)) := by
  refine ⟨_, callCmd_of hc ht, rfl, rfl, rfl, argOf_single _ _ _ _, keyOf_of hc ht, ?_, ?_⟩
  · simp [timerOf, callCmd_of hc ht]
  · intro ok; simp [sendView, callCmd_of hc ht, argOf_single]

/-- In every schedule, every call of the send function carries the command's own
    response timeout and the target's own arguments (`sendsOk`, the clause of
    Spec.C12 evaluated on the real code's send calls). -/
theorem C12_sends_own_timeout (cmds : List Cmd) (sched : List Step) :
    sendsOk cmds (sendTrace cmds init sched) = true :=
  sendTrace_ok cmds sched init

/-- Registration precedes the send. Once the send function for caller `i` has
    been entered (`pre` ends with `i` registered), a reply `r` addressed to `i`'s
    (command id, target) that is processed before `i`'s timeout fires or its send
    fails (`mid`) finds the pending call — unless an earlier reply with the same
    key took it. Whatever happens later (`post`), once the caller has returned: the caller's `Call` object
    holds such a reply `r'` for good; if the caller returns a reply it is `r'`;
    it can only return "did not answer" through a timeout that fires AFTER the
    hand-over (and then `ProcessResponse(r')` is blocked for ever — it never
    returns), or "could not be sent" through a send failure after it. `notLostOk` of
    Spec.C12 reads this on a trace (by no theorem). -/
theorem C12_reply_not_lost (cmds : List Cmd) (h : wfCfg cmds = true) (pre mid post : List Step) (i : Ref) (r : Resp)
    (hk : keyOf? cmds i = some r.key)
    (hreg : ((run cmds init pre).call i).pc = .registered)
    (hto : Step.timeout i ∉ mid) (hsf : Step.sendFail i ∉ mid)
    (o : Outcome)
    (hfin : ((run cmds init (pre ++ mid ++ .deliver r :: post)).call i).pc = .finished o) :
    ∃ r', Step.deliver r' ∈ pre ++ mid ++ [.deliver r] ∧ r'.key = r.key ∧
      ((run cmds init (pre ++ mid ++ .deliver r :: post)).call i).mailbox = some r' ∧
      match (generalizing := false) o with
      | .reply r'' => r'' = r'
      | .sendErr => Step.sendFail i ∈ post
      | .timeoutErr => Step.timeout i ∈ post := by
  -- up to the arrival of `r` the caller has not given up, so `r` finds the call pending or the mailbox filled
  have hl2 : Live (run cmds init (pre ++ mid)) i := by rw [run_append]; exact live_run (.inl (.inl hreg)) hto hsf
  have inv2 := inv_run h (pre ++ mid) (inv_init cmds)
  obtain ⟨r', hm3⟩ := Option.ne_none_iff_exists'.mp (hl2.fills inv2 hk)
  have hl3 := live_step (cmds := cmds) _ (.deliver r) hl2 nofun nofun
  have inv3 := inv_step h inv2 (.deliver r)
  have hin := (mailbox_run_cause (pre ++ mid ++ [.deliver r]) init (by rw [run_append]; exact hm3)).resolve_left nofun
  rw [show run cmds init (pre ++ mid ++ .deliver r :: post) =
      run cmds (step cmds (run cmds init (pre ++ mid)) (.deliver r)) post by rw [run_append]; rfl] at hfin ⊢
  generalize step cmds (run cmds init (pre ++ mid)) (.deliver r) = s3 at *
  -- what sits in the mailbox stays; a caller that had not given up before `post` gives up in `post` or returns a reply
  have hmf := mailbox_stable_run h post inv3 hm3
  have late : (∀ e, o ≠ .reply e) → causeStep i o ∈ post := fun hne =>
    (outcome_run_cause post s3 hfin).resolve_left fun h0 => hl3.elim (fun a => a.ne_finished o h0)
      fun ⟨e, he⟩ => hne e (Pc.finished.inj (h0.symm.trans he))
  refine ⟨r', hin, Option.some.inj (((inv3.callOk i).addressed r' hm3).1.symm.trans hk), hmf, ?_⟩
  cases o with
  | reply r'' => exact (Option.some.inj (hmf.symm.trans (((inv_run h post inv3).callOk i).replyHeld r'' hfin))).symm
  | sendErr | timeoutErr => exact late nofun

/-! ## the hand-over of the answer waits for the caller

`qrun cmds qof qinit qs`: any interleaving of base-layer steps (with `start`
subject to the queue discipline), callers reaching their receive (`listen`),
rendezvous (`take`) and observer probes; `qof` assigns every command its queue. -/

/-- The queue layer only removes behaviours: its states project to states the
    servent/commit layer reaches under some schedule, so every theorem above
    about `run cmds init sched` holds for them too. -/
theorem C12_handover_refines (cmds : List Cmd) (qof : Nat → Nat) (qs : List QStep) :
    ∃ sched, (qrun cmds qof qinit qs).base = run cmds init sched :=
  base_reachable cmds qof qs qinit

/-- A queue waits for its caller. While a command has been dequeued and its
    answer not taken — `commit` still running, or the answer on offer and the
    caller not (yet) receiving — no other command of the same queue is between
    dequeue and hand-over: every other dequeued command of that queue has been
    answered; in particular nothing behind it is committed. -/
theorem C12_queue_waits_for_caller (cmds : List Cmd) (h : wfCfg cmds = true) (qof : Nat → Nat) (qs : List QStep)
    (c c' : Nat) (hne : c ≠ c') (hq : qof c = qof c')
    (hst : (qrun cmds qof qinit qs).base.started c = true) (hnt : (qrun cmds qof qinit qs).taken c = false)
    (hst' : (qrun cmds qof qinit qs).base.started c' = true) :
    (qrun cmds qof qinit qs).taken c' = true ∧
      ∀ p, ((qrun cmds qof qinit qs).base.call (c', p)).pc ≠ .registered ∧
           ((qrun cmds qof qinit qs).base.call (c', p)).pc ≠ .waiting := by
  have inv := qinv_run h qs (qinv_init cmds qof)
  have ht := inv.one_at_a_time c c' hne hq hst hnt hst'
  refine ⟨ht, fun p => ?_⟩
  obtain ⟨res, hres⟩ := inv.taken_received c' ht
  have na := no_caller_left h inv.reach (inv.received_callback c' res hres).2 p
  exact ⟨fun e => na (.inl e), fun e => na (.inr e)⟩

/-- The answer is never dropped, however late the caller listens. Once `commit`
    of `c` has returned `res` (it is in the callback log) and the caller has not
    taken it, NOTHING that happens without the caller's receive — any steps of
    anybody, arrivals of any responses, other callers listening and being
    served, probes — takes it off offer; and when the caller then reaches its
    receive, the rendezvous hands it exactly `res`, and nothing else up to then. -/
theorem C12_answer_waits_for_listener (cmds : List Cmd) (h : wfCfg cmds = true) (qof : Nat → Nat)
    (qs later : List QStep) (c : Nat) (res : Result)
    (hcb : (c, res) ∈ (qrun cmds qof qinit qs).base.callbacks)
    (hnt : (qrun cmds qof qinit qs).taken c = false) (hlater : QStep.take c ∉ later) :
    (qrun cmds qof qinit (qs ++ later)).taken c = false ∧
    offered (qrun cmds qof qinit (qs ++ later)) c = some res ∧
    (qrun cmds qof qinit (qs ++ later ++ [.listen c, .take c])).taken c = true ∧
    ∀ res', (c, res') ∈ (qrun cmds qof qinit (qs ++ later ++ [.listen c, .take c])).received ↔ res' = res := by
  have inv := qinv_run h qs (qinv_init cmds qof)
  obtain ⟨h1, h2⟩ :=
    offered_waits (cmds := cmds) (qof := qof) later (offered_of_mem inv.reach.commit.callbacks_nodup hcb) hnt hlater
  rw [← qrun_append] at h1 h2
  have hrun : qrun cmds qof qinit (qs ++ later ++ [.listen c, .take c]) =
      qstep cmds qof (qstep cmds qof (qrun cmds qof qinit (qs ++ later)) (.listen c)) (.take c) := by
    rw [qrun_append]; rfl
  rw [hrun]
  exact ⟨h2, h1, listen_take (qinv_run h (qs ++ later) (qinv_init cmds qof)) h1 h2⟩

/-- What an observer of ANY execution of the model records — send calls, callers
    starting to listen, answers arriving, probes of where the consumer is once
    `commit` has returned — satisfies the hand-over clause of Spec.C12
    (`handoverOk`, evaluated by the driver on the real code's trace): an answer
    arrives only at a caller that listens; a probe finds the consumer `held`
    unless the caller has its answer; and while a dequeued command's caller has
    not started to listen (it does later in the trace), the send function is entered for no other command of
    its queue. `qs` = the queue of each command. -/
theorem C12_handover_ok (cmds : List Cmd) (h : wfCfg cmds = true) (qs : List Nat) (sched : List QStep) :
    handoverOk qs (qtrace cmds (queueOf qs) qinit sched) = true :=
  handover_trace h qs _ sched qinit [] (qinv_init cmds _) traceInv_init

/-! ## the servent mutex and the two leave windows of `RunCommand`

`lrun cfg cmds qof linit ls` (Model/CmdLock): the queue layer refined by the servent
mutex. "The caller stops listening on `call.Done`" (`expire i`: its send returned an
error, or its timer fired) and "the caller removes its entry and returns"
(`unregister i`, under the mutex) are two steps, so a `deliver r` can fall in between:
the entry is still pending, nobody will ever receive. `codeLock` = the code (the mutex is
released before the hand-over on `call.Done`), `deferLock` = `defer s.mu.Unlock()`. -/

/-- What `ProcessResponse` and `RunCommand` do with `s.mu`, and where they can block, as the
    source says: `ProcessResponse` unlocks BEFORE its blocking send on `call.Done` (no
    `defer s.mu.Unlock()` spanning it); `RunCommand` calls the send function and selects
    outside its three critical sections; no blocking operation of the Servent sits inside a
    critical section of `s.mu` — the lock layer's `codeLock`. -/
theorem C12_process_response_lock_is_code :
    Gen.C12.processResponseLock = ["s.mu.Lock()", "s.mu.Unlock()", "send call.Done <- empty{} locked=false"] ∧
    Gen.C12.runCommandLock =
      ["s.mu.Lock()", "s.mu.Unlock()", "call s.SendFunc locked=false", "s.mu.Lock()", "s.mu.Unlock()",
       "select locked=false", "s.mu.Lock()", "s.mu.Unlock()"] ∧
    Gen.C12.lockSpansBlocking = codeLock.lockSpansSend := ⟨rfl, rfl, rfl⟩

/-- The lock layer only removes behaviours and splits steps: its states project to states
    the queue layer reaches and to states the servent/commit layer reaches, under some
    schedule — for either setting of the switch. Every theorem above applies to them. -/
theorem C12_lock_refines (cfg : LockCfg) (cmds : List Cmd) (qof : Nat → Nat) (ls : List LStep) :
    ∃ qs sched, (lrun cfg cmds qof linit ls).q = qrun cmds qof qinit qs ∧
      (lrun cfg cmds qof linit ls).q.base = run cmds init sched := by
  obtain ⟨qs, hqs⟩ := lrun_refines cfg cmds qof ls linit
  obtain ⟨sched, hs⟩ := base_reachable cmds qof qs qinit
  exact ⟨qs, sched, hqs, hqs ▸ hs⟩

/-- The servent mutex is free whenever anybody is blocked: with the unlock before the
    hand-over, every critical section is one atomic step, so between steps — in particular
    while a `ProcessResponse` is parked in its hand-over, for however long — nobody holds it. -/
theorem C12_lock_free_at_rest (cmds : List Cmd) (qof : Nat → Nat) (ls : List LStep) :
    (lrun codeLock cmds qof linit ls).mu = none :=
  lrun_induction (Q := fun s => s.mu = none) rfl fun _ st _ hm => lmu_none rfl hm st

/-- Exactly-once, liveness half, over the REFINED steps: from any reachable state of the
    lock layer — callers inside their leave windows, replies that arrived there and are
    parked for ever, anything in flight — a command that has been dequeued and not answered
    still gets its callback in some continuation (`CmdQueue.lcan_complete` builds one of steps nobody
    can disable — every caller: register, send, leave, unregister; then complete). A reply that meets a caller on its way out wedges nothing. -/
theorem C12_can_always_complete_in_windows (cmds : List Cmd) (h : wfCfg cmds = true) (qof : Nat → Nat)
    (ls : List LStep) (c : Nat) (cmd : Cmd) (hc : cmds[c]? = some cmd)
    (hst : (lrun codeLock cmds qof linit ls).q.base.started c = true)
    (hnc : (lrun codeLock cmds qof linit ls).q.base.completed c = false) :
    ∃ more res, (c, res) ∈ (lrun codeLock cmds qof linit (ls ++ more)).q.base.callbacks := by
  obtain ⟨res, hres⟩ := lcan_complete h rfl (linv_run h ls (linv_init codeLock cmds qof)) hc hst
  exact ⟨_, res, by rw [lrun_append]; exact hres⟩

/-- A reply that arrives in a leave window is handed to nobody — and fails nobody. In any
    reachable state in which caller `i` has stopped listening while its entry is still
    pending, `deliver r` for its key: takes the entry; `ProcessResponse(r)` is parked in its
    hand-over for ever (`leaked`, in every continuation) holding no mutex; the caller's pc is
    unchanged, and its `unregister` returns exactly what it returns without the reply — the
    send error or "timed out". (A goroutine leak per such reply; harmless to every command.) -/
theorem C12_window_reply_leaks_not_fails (cmds : List Cmd) (h : wfCfg cmds = true) (qof : Nat → Nat)
    (ls later : List LStep) (i : Ref) (r : Resp)
    (hl : (lrun codeLock cmds qof linit ls).left i = true)
    (hp : (lrun codeLock cmds qof linit ls).q.base.pending r.key = some i) :
    let s := lrun codeLock cmds qof linit ls
    let s1 := lstep codeLock cmds qof s (.q (.base (.deliver r)))
    s1.mu = none ∧ (s1.q.base.call i).pc = (s.q.base.call i).pc ∧ s1.q.base.pending r.key = none ∧
      r ∈ (lrun codeLock cmds qof s1 later).leaked ∧
      ∃ o, (o = .sendErr ∨ o = .timeoutErr) ∧
        ((lstep codeLock cmds qof s1 (.unregister i)).q.base.call i).pc = .finished o ∧
        ((lstep codeLock cmds qof s (.unregister i)).q.base.call i).pc = .finished o := by
  have inv := linv_run h ls (linv_init codeLock cmds qof)
  obtain ⟨h1, h2, h3, h4, h5⟩ :=
    window_reply (cfg := codeLock) (cmds := cmds) (qof := qof) rfl inv.queue.reach.servent (inv.mutex_free rfl) hl hp
  exact ⟨h2, h3, h4, leaked_run later h1, h5⟩

/-- Never someone else's, in the refined layer too: whatever happens in the windows — other
    callers leaving, their late replies being parked — caller `i`'s state is a function of
    its own steps and of the responses with its own key in the projected schedule. -/
theorem C12_window_others_irrelevant (cmds : List Cmd) (h : wfCfg cmds = true) (qof : Nat → Nat) (ls : List LStep)
    (i : Ref) (k : CallId) (hk : keyOf? cmds i = some k) :
    ∃ sched, (lrun codeLock cmds qof linit ls).q.base = run cmds init sched ∧
      (lrun codeLock cmds qof linit ls).q.base.call i = (run cmds init (sched.filter (concerns cmds i))).call i := by
  obtain ⟨_, sched, _, hs⟩ := C12_lock_refines codeLock cmds qof ls
  exact ⟨sched, hs, by rw [hs]; exact C12_others_irrelevant cmds h sched i k hk⟩

/-- No goroutine dump ever finds a command wedged: what an observer looking for wedged
    commands records in ANY execution of the lock layer with `codeLock` is nothing — the clause `neverStuck`
    of Spec.C12 that the driver evaluates on the real code's trace. -/
theorem C12_never_stuck (cmds : List Cmd) (h : wfCfg cmds = true) (qof : Nat → Nat) (ls : List LStep) :
    stuckTrace codeLock cmds qof linit ls = [] ∧ neverStuck (stuckTrace codeLock cmds qof linit ls) = true := by
  have this : stuckTrace codeLock cmds qof linit ls = [] := stuckTrace_nil rfl ls linit rfl
  exact ⟨this, by rw [this]; rfl⟩

/-- … and all of this NEEDS the unlock before the hand-over. With `defer s.mu.Unlock()` in
    `ProcessResponse` (`deferLock`): command 0's target answers although the send to it is
    reported as failed — the reply finds the entry still pending, its `ProcessResponse` holds
    the mutex waiting for a receiver that is on its way out and waits for the mutex. The dump
    shows commands 0 AND 1 (another queue, another target) wedged, and in NO continuation does
    either of them ever get a callback. -/
theorem C12_lock_spanning_send_wedges :
    stuckTrace deferLock wedgeCmds id linit (wedgeSched ++ [.look 0, .look 1]) = [.stuck 0, .stuck 1] ∧
    ∀ more, (lrun deferLock wedgeCmds id linit (wedgeSched ++ more)).q.base.callbacks = [] := by
  refine ⟨by decide, ?_⟩
  intro more
  rw [lrun_append]
  exact (wedged_run more wedged_witness).CB

/-! ## non-vacuity

Two commands (ids 7 and 9) over targets {1,2,3} / {1}: while command 0 is in
flight its target 1 answers (tag 40) and a duplicate (41) arrives, target 2 is
silent, the send to target 3 fails, a reply for the queued command 1 arrives
early (dropped) and a foreign id (99) shows up; then command 1 runs and gets a
late reply of command 0 plus its own. -/

def C12_demo_cmds : List Cmd := [{ id := 7, targets := [1, 2, 3], tmo := 40, args := [(2, 5)] }, { id := 9, targets := [1] }]

def C12_demo_sched : List Step :=
  [.start 0, .register (0, 0), .register (0, 2), .register (0, 1), .sendOk (0, 0), .sendFail (0, 2),
   .sendOk (0, 1), .deliver ⟨9, 1, 50, false⟩, .deliver ⟨99, 1, 60, false⟩, .deliver ⟨7, 1, 40, false⟩,
   .deliver ⟨7, 1, 41, true⟩, .recv (0, 0), .timeout (0, 1), .complete 0,
   .start 1, .register (1, 0), .sendOk (1, 0), .deliver ⟨7, 1, 42, true⟩, .deliver ⟨9, 1, 51, true⟩,
   .recv (1, 0), .complete 1, .complete 0, .deliver ⟨9, 1, 52, false⟩]

example : wfCfg C12_demo_cmds = true := by decide

example : (run C12_demo_cmds init C12_demo_sched).callbacks =
    [(0, .multi 7 [(3, .synth 7 .send), (1, .own ⟨7, 1, 40, false⟩), (2, .synth 7 .timeout)]),
     (1, .single (.own ⟨9, 1, 51, true⟩))] := by decide

/-- `C12_reply_not_lost` has realistic instances: command 0's caller for target 1
    is inside its send call, the send returns, an early reply for the queued command 1 is
    dropped, target 1's reply arrives and is received. -/
example : ∃ r', Step.deliver r' ∈ [Step.start 0, .register (0, 0)] ++ [.sendOk (0, 0), .deliver ⟨9, 1, 50, false⟩] ++
      [.deliver ⟨7, 1, 40, false⟩] ∧ r'.key = (⟨7, 1, 40, false⟩ : Resp).key ∧ (⟨7, 1, 40, false⟩ : Resp) = r' := by
  obtain ⟨r', h1, h2, _, h4⟩ := C12_reply_not_lost C12_demo_cmds (by decide) [.start 0, .register (0, 0)]
    [.sendOk (0, 0), .deliver ⟨9, 1, 50, false⟩] [.recv (0, 0)] (0, 0) ⟨7, 1, 40, false⟩
    (by decide) (by decide) (by decide) (by decide) (.reply ⟨7, 1, 40, false⟩) (by decide)
  exact ⟨r', h1, h2, h4⟩

/-- Every call of the send function in the demo schedule carries the command's own
    timeout (40 for command 0) and the target's own arguments (5 for target 2). -/
example : sendTrace C12_demo_cmds init C12_demo_sched =
    [.send 0 1 true 40 0, .send 0 3 false 40 0, .send 0 2 true 40 5, .send 1 1 true 0 0] := by decide

/-! What the clauses `sendsOk` and `notLostOk` of Spec.C12 reject and accept (one command, id 100,
target 2 with arguments 9, response timeout 30): a send call handed another
timeout; a reply that was looked up while the call was pending — its
`ProcessResponse` returned before the timer could fire — and is nevertheless
reported as a timeout. -/

def C12_demo2 : List Cmd := [{ id := 100, targets := [2], tmo := 30, args := [(2, 9)] }]

example : Spec C12_demo2 [0]
    [.send 0 2 true 30 9, .resp ⟨100, 2, 1, false⟩, .ret ⟨100, 2, 1, false⟩ true,
     .done 0 (.single (.own ⟨100, 2, 1, false⟩))]
    [(0, .single (.own ⟨100, 2, 1, false⟩))] = true := by decide

example : Spec C12_demo2 [0]
    [.send 0 2 true 90000 9, .resp ⟨100, 2, 1, false⟩, .ret ⟨100, 2, 1, false⟩ true,
     .done 0 (.single (.own ⟨100, 2, 1, false⟩))]
    [(0, .single (.own ⟨100, 2, 1, false⟩))] = false := by decide

example : Spec C12_demo2 [0]
    [.send 0 2 true 30 9, .resp ⟨100, 2, 1, false⟩, .ret ⟨100, 2, 1, false⟩ true,
     .done 0 (.single (.synth 100 .timeout))]
    [(0, .single (.synth 100 .timeout))] = false := by decide

/-- … while a reply whose `ProcessResponse` did NOT provably return before the
    timer could fire may have come too late: accepted. -/
example : Spec C12_demo2 [0]
    [.send 0 2 true 30 9, .resp ⟨100, 2, 1, false⟩, .ret ⟨100, 2, 1, false⟩ false,
     .done 0 (.single (.synth 100 .timeout))]
    [(0, .single (.synth 100 .timeout))] = true := by decide


/-! The hand-over. Two commands on ONE queue (ids 7 and 9): command 0's only
target fails at send, so `commit` returns at once — nobody listens yet. The
answer stays on offer while command 1 cannot even be dequeued (`start 1` is a
no-op), a late reply is dropped, the OTHER caller starts to listen; then
command 0's caller listens, takes its answer, and command 1 runs. -/

def C12_demo3 : List Cmd := [{ id := 7, targets := [1] }, { id := 9, targets := [2] }]

def C12_demo3_sched : List QStep :=
  [.base (.start 0), .base (.register (0, 0)), .base (.sendFail (0, 0)), .base (.complete 0), .probe 0,
   .base (.start 1), .base (.register (1, 0)), .base (.deliver ⟨7, 1, 5, false⟩), .listen 1, .take 1, .probe 0,
   .listen 0, .take 0, .probe 0,
   .base (.start 1), .base (.register (1, 0)), .base (.sendOk (1, 0)), .base (.deliver ⟨9, 2, 6, false⟩),
   .base (.recv (1, 0)), .base (.complete 1), .take 1]

example : qtrace C12_demo3 (fun _ => 0) qinit C12_demo3_sched =
    [.send 0 1 false 0 0, .probe 0 .held, .listen 1, .probe 0 .held, .listen 0, .done 0 (.single (.synth 7 .send)),
     .probe 0 .passed, .send 1 2 true 0 0, .done 1 (.single (.own ⟨9, 2, 6, false⟩))] := by decide

example : (qrun C12_demo3 (fun _ => 0) qinit C12_demo3_sched).received =
    [(0, .single (.synth 7 .send)), (1, .single (.own ⟨9, 2, 6, false⟩))] := by decide

/-- … and on two DIFFERENT queues the second command does not wait. -/
example : ((qrun C12_demo3 id qinit (C12_demo3_sched.take 7)).base.call (1, 0)).pc = .registered ∧
    ((qrun C12_demo3 (fun _ => 0) qinit (C12_demo3_sched.take 7)).base.call (1, 0)).pc = .idle := by decide

/-- `C12_answer_waits_for_listener` instantiated: the answer of command 0 is
    on offer after five steps and still is after the next six. -/
example : offered (qrun C12_demo3 (fun _ => 0) qinit (C12_demo3_sched.take 5 ++ (C12_demo3_sched.drop 5).take 6)) 0 =
    some (.single (.synth 7 .send)) :=
  (C12_answer_waits_for_listener C12_demo3 (by decide) (fun _ => 0) (C12_demo3_sched.take 5)
    ((C12_demo3_sched.drop 5).take 6) 0 (.single (.synth 7 .send)) (by decide) (by decide) (by decide)).2.1

/-! What the hand-over clause of Spec.C12 accepts and rejects (one queue; command
0: id 100, target 2 fails at send; command 1: id 101, no targets). -/

def C12_demo4 : List Cmd := [{ id := 100, targets := [2] }, { id := 101, targets := [] }]

/-- accepted: held until the late listener comes, then both answers -/
example : Spec C12_demo4 [0, 0]
    [.send 0 2 false 0 0, .probe 0 .held, .listen 0, .done 0 (.single (.synth 100 .send)), .done 1 .nil]
    [(0, .single (.synth 100 .send)), (1, .nil)] = true := by decide

/-- rejected: the consumer is found idle, nothing ever arrived for command 0 -/
example : Spec C12_demo4 [0, 0]
    [.send 0 2 false 0 0, .done 1 .nil, .probe 0 .idle, .listen 0]
    [(1, .nil)] = false := by decide

example : handoverOk [0, 0] [.send 0 2 false 0 0, .done 1 .nil, .probe 0 .idle, .listen 0] = false := by decide

/-- rejected: a command of the same queue is sent while command 0's caller does not listen yet
    (three commands; command 2 has target 3) — even though every answer arrives in the end -/
example : handoverOk [0, 0, 0]
    [.send 0 2 false 0 0, .send 2 3 true 0 0, .listen 0, .done 0 (.single (.synth 100 .send))] = false := by decide

/-- … which is fine on another queue -/
example : handoverOk [0, 0, 1]
    [.send 0 2 false 0 0, .send 2 3 true 0 0, .listen 0, .done 0 (.single (.synth 100 .send))] = true := by decide


/-! The leave windows (one command, id 100, target 2; lock layer, `codeLock`). The send to
target 2 is reported as failed AFTER the target answered: the reply (tag 1) takes the entry
while the caller is on its way out and is parked; the caller returns its send error, the
command completes; a later look finds nothing wedged. -/

def C12_demo5 : List Cmd := [{ id := 100, targets := [2] }]

def C12_demo5_sched : List LStep :=
  [.q (.base (.start 0)), .q (.base (.register (0, 0))), .expire (0, 0), .q (.base (.deliver ⟨100, 2, 1, false⟩)),
   .look 0, .unregister (0, 0), .q (.base (.complete 0)), .look 0]

example : (lrun codeLock C12_demo5 id linit C12_demo5_sched).q.base.callbacks = [(0, .single (.synth 100 .send))] ∧
    (lrun codeLock C12_demo5 id linit C12_demo5_sched).leaked = [⟨100, 2, 1, false⟩] ∧
    stuckTrace codeLock C12_demo5 id linit C12_demo5_sched = [] := by decide

/-- the same schedule with the mutex held across the hand-over: nothing completes, both looks find command 0 wedged -/
example : (lrun deferLock C12_demo5 id linit C12_demo5_sched).q.base.callbacks = [] ∧
    stuckTrace deferLock C12_demo5 id linit C12_demo5_sched = [.stuck 0, .stuck 0] := by decide

/-- the other window: the timer fires (`expire` from `waiting`), the reply arrives, the caller returns "timed out" -/
example : (lrun codeLock C12_demo5 id linit
      [.q (.base (.start 0)), .q (.base (.register (0, 0))), .q (.base (.sendOk (0, 0))), .expire (0, 0),
       .q (.base (.deliver ⟨100, 2, 1, false⟩)), .unregister (0, 0), .q (.base (.complete 0))]).q.base.callbacks =
    [(0, .single (.synth 100 .timeout))] := by decide

/-- `C12_window_reply_leaks_not_fails` has realistic instances -/
example : ∃ o, (o = Outcome.sendErr ∨ o = .timeoutErr) ∧
    ((lstep codeLock C12_demo5 id (lstep codeLock C12_demo5 id (lrun codeLock C12_demo5 id linit (C12_demo5_sched.take 3))
      (.q (.base (.deliver ⟨100, 2, 1, false⟩)))) (.unregister (0, 0))).q.base.call (0, 0)).pc = .finished o :=
  let ⟨_, _, _, _, o, ho, h1, _⟩ := C12_window_reply_leaks_not_fails C12_demo5 (by decide) id (C12_demo5_sched.take 3) []
    (0, 0) ⟨100, 2, 1, false⟩ (by decide) (by decide)
  ⟨o, ho, h1⟩

/-- What the `neverStuck` clause of Spec.C12 rejects: the scenario ends with the proof that
    command 0 is wedged (and so lacks its callback). -/
example : Spec C12_demo5 [0] [.send 0 2 false 0 0, .resp ⟨100, 2, 1, false⟩, .stuck 0] [] = false := by decide

example : neverStuck [.send 0 2 false 0 0, .resp ⟨100, 2, 1, false⟩, .stuck 0] = false := by decide

/-- … while the same scenario on the code is accepted: the send error, the reply parked. -/
example : Spec C12_demo5 [0]
    [.send 0 2 false 0 0, .resp ⟨100, 2, 1, false⟩, .done 0 (.single (.synth 100 .send))]
    [(0, .single (.synth 100 .send))] = true := by decide

/-! ## several tasks behind one executor

A target is the triple {agent id, executor id, task id}; the production layout is one
executor per agent with several tasks behind it, so the targets of ONE command usually
share agent id and executor id and differ only in the task id. `Model/CmdKey` makes the
assignment of targets to executors (`ex`, any partition) a parameter and the components
of the target that enter the key of `Servent.pending` a switch: `codeKey` (the whole
target — the code) and `execKey` (agent + executor only — not the code). -/

/-- The two `CallId{…}` literals of the Servent (go/ast) are the configuration `codeKey`:
    the key holds the WHOLE target, task id included, on both sides. -/
theorem C12_key_cfg_is_code :
    keyCfgOf Gen.C12.runCommandKey Gen.C12.processResponseKey = some codeKey := if_pos ⟨rfl, rfl⟩

/-- With the code's key the assignment of targets to executors does not enter at all:
    for EVERY assignment, configuration, state and schedule the keyed model is the model
    all the theorems above are about. -/
theorem C12_executors_irrelevant (ex : Nat → Nat) (cmds : List Cmd) (s : State) (sched : List Step) :
    runK codeKey ex cmds s sched = run cmds s sched := runK_code ex cmds s sched

/-- "Each target gets its own answer or an error of this command", for a key configuration,
    over every assignment of targets to executors. -/
def C12_own_or_error_keyed (kc : KeyCfg) : Prop :=
  ∀ (ex : Nat → Nat) (cmds : List Cmd), wfCfg cmds = true →
    ∀ (sched : List Step) (c : Nat) (res : Result), (c, res) ∈ (runK kc ex cmds init sched).callbacks →
      ∃ cmd, cmds[c]? = some cmd ∧ shapeOk cmd res = true ∧
        ∀ t e, entryOf cmd res t = some e → ownOrError cmd t e = true

/-- The code: for every partition of the targets into executors — all behind one, each on
    its own, anything between —, single and overlapping commands, every schedule: every
    delivered result has exactly one entry per target, the target's own reply or an error
    synthesised for this command. -/
theorem C12_own_or_error_every_partition : C12_own_or_error_keyed codeKey := by
  intro ex cmds h sched c res hcb
  rw [runK_code] at hcb
  obtain ⟨cmd, hc, hall⟩ := C12_own_or_error cmds h sched c res hcb
  obtain ⟨cmd', hc', hshape, _⟩ := C12_result_shape cmds h sched c res hcb
  cases hc.symm.trans hc'
  exact ⟨cmd, hc, hshape, fun t e he => (hall t e he).1⟩

/-- Exactly once, for every partition: at most one callback per command, never retracted or
    altered, and a caller that has returned keeps its outcome. -/
theorem C12_once_every_partition (ex : Nat → Nat) (cmds : List Cmd) (h : wfCfg cmds = true) (sched later : List Step) :
    ((runK codeKey ex cmds init sched).callbacks.map (·.1)).Nodup ∧
    (∃ extra, (runK codeKey ex cmds init (sched ++ later)).callbacks =
        (runK codeKey ex cmds init sched).callbacks ++ extra) ∧
    (∀ i o, ((runK codeKey ex cmds init sched).call i).pc = .finished o →
        ((runK codeKey ex cmds init (sched ++ later)).call i).pc = .finished o) := by
  simp only [runK_code]
  exact C12_completes_once cmds h sched later

/-- Witness: one command to two tasks behind ONE executor; both callers register and
    send, both tasks answer in time, both callers are ready to receive. -/
def C12_two_tasks : List Cmd := [{ id := 100, targets := [0, 1], tmo := 40 }]

def C12_two_tasks_sched : List Step :=
  [.start 0, .register (0, 0), .register (0, 1), .sendOk (0, 0), .sendOk (0, 1),
   .deliver ⟨100, 0, 1, false⟩, .recv (0, 1), .recv (0, 0),
   .deliver ⟨100, 1, 2, false⟩, .recv (0, 1), .timeout (0, 0), .complete 0]

/-- With a key that drops the task id the property is FALSE: the second registration
    overwrites the first, task 0's reply completes the surviving call — task 1 is answered
    with task 0's reply —, task 1's reply finds nothing pending and is dropped, and the
    overwritten call of task 0, which answered in time, times out. -/
theorem C12_exec_key_refuted : ¬ C12_own_or_error_keyed execKey := by
  intro hall
  obtain ⟨cmd, hc, _, h⟩ := hall (fun _ => 7) C12_two_tasks (by decide) C12_two_tasks_sched 0
    (.multi 100 [(1, .own ⟨100, 0, 1, false⟩), (0, .synth 100 .timeout)]) (by decide)
  have hcmd : cmd = { id := 100, targets := [0, 1], tmo := 40 } := by
    simp [C12_two_tasks] at hc; exact hc.symm
  subst hcmd
  exact absurd (h 1 (.own ⟨100, 0, 1, false⟩) (by decide)) (by decide)

example : sharesExecutor (fun _ => 7) { id := 100, targets := [0, 1], tmo := 40 } = true := by decide

/-- the same schedule on the code's key: each task gets its own reply -/
example : (runK codeKey (fun _ => 7) C12_two_tasks init C12_two_tasks_sched).callbacks =
    [(0, .multi 100 [(0, .own ⟨100, 0, 1, false⟩), (1, .own ⟨100, 1, 2, false⟩)])] := by decide

example : (runK execKey (fun _ => 7) C12_two_tasks init C12_two_tasks_sched).callbacks =
    [(0, .multi 100 [(1, .own ⟨100, 0, 1, false⟩), (0, .synth 100 .timeout)])] := by decide

/-- targets on executors of their own: the two-component key is harmless there (why ordinary
    one-task-per-executor use never shows the difference) -/
example : (runK execKey id C12_two_tasks init C12_two_tasks_sched).callbacks =
    (runK codeKey id C12_two_tasks init C12_two_tasks_sched).callbacks := by decide
