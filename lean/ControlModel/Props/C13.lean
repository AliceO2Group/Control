/-
  Props/C13 — "Outbound channels connect to where the matching inbound channel was bound".

  The theorems on `configure` / `configureP` (witnesses and refutations aside) quantify over
  ALL lists of launched tasks (any number of tasks, channels, aliases, hosts; any local bind
  maps) — `WF` collects what the launch
  guarantees and what a loadable workflow satisfies:
    launchOk      the postcondition of makeTaskForMesosResources (checked on every
                  correspondence case against the real function, see Driver/C13),
    validHost     hostnames are non-empty and not `*`,
    namesDistinct channel names are unique within a task,
    keysSane      a `path:channel` key never looks like a `::alias`.
  Tie to /repo: the correspondence run drives the real role/class unmarshallers,
  GenerateTaskDescriptors, makeTaskForMesosResources and configureTasks.

  `configure` = `configureWith codeCfg` is the code as it is: before a task's local bind
  map is used, configureTasks goes through the task's channel declarations and rejects
  two channels naming one global alias (`aliasScan`). `legacyCfg` is the code before that
  repair (aliases de-duplicated across local bind maps only); the refutation
  `C13_finding_alias_redefined_within_task` is a statement about `legacyCfg`.

  The whole property map: the executor receives ONE map — common properties, the task
  template's `properties:` block, the generated channel keys. `configureP` = `configurePWith codeCfg`
  models all of it (`buildPMap`: the loops of BuildPropertyMap literally); `Cfg.generatedLast` is the
  order of the two steps (declared properties first, generated keys last = the code,
  `C13_property_order_is_code`); theorems: a generated key never depends on what the template
  declares, every declared key that is not a key of one of the task's channels arrives unchanged, the
  map tells every channel what the channel-level model (`configure`) says, and so the model meets
  `SpecP` — the Spec the Driver evaluates on the real maps — for ALL well-formed task lists without
  inbound targets and ALL property blocks.

  Workflows with ITERATORS (targets and aliases are expressions; one
  generated role per value of a range): `expand` — each generated role resolves its
  OWN copy of the declarations against its OWN variables — and the theorems that
  instance i's declarations are the template instantiated with i's variables,
  independent of the sibling instances and of the order in which roles are processed;
  tie: the correspondence run loads rendered templates with the real ProcessTemplates
  under all settings of the loader's concurrency switches.
-/
import ControlModel.Proofs.Channels
import ControlModel.Proofs.ChannelsPMap
import ControlModel.Gen.C13Facts

open Channels

/-- `codeCfg` is what configureTasks does NOW (go/ast over core/task/manager.go, regenerated on every
    check): inside the loop over the tasks, before a task's local bind map is read, a loop over the
    task's channel declarations returns the "illegal redefinition of global channel alias" error for
    a channel whose alias another channel (another name) of the same task has claimed. Breaks if the
    check is removed, moved behind the bind-map loop or loses its guard. The exact behaviour of the
    loop (`aliasScan`) is tied by the differential run. -/
theorem C13_alias_check_is_code : codeCfg.aliasPerTask = Gen.C13.declaredAliasesCheckedPerTask := by decide

/-- The address an outbound channel gets for a TCP binder is `tcp://<binder host>:<allocated port>`,
    for an IPC binder the allocated path; the inbound side binds `tcp://*:<same port>` / the same path. -/
theorem C13_address_shape (h x : String) (p : Nat) (tr : Transport) (path : String) (hv : validHost h = true) :
    ((Endpoint.tcp x p tr).toTarget h).address = "tcp://" ++ h ++ ":" ++ toString p ∧
    (Endpoint.tcp x p tr).toBound.address = "tcp://*:" ++ toString p ∧
    ((Endpoint.ipc path tr).toTarget h).address = "ipc://" ++ path ∧
    (Endpoint.ipc path tr).toBound.address = "ipc://" ++ path := by
  simp only [validHost, Bool.and_eq_true, Bool.not_eq_true', bne_iff_ne, ne_eq] at hv
  refine ⟨?_, ?_, rfl, rfl⟩
  · simp [Endpoint.toTarget, Endpoint.address, hv.1, hv.2]
  · simp [Endpoint.toBound, Endpoint.address]

/-- Clause 1, what IS proved, for every workflow whose configuration succeeds: an outbound
    channel whose target is a `path:channel` key or a `::alias` that some task advertises is sent
    `method = connect`, `address = host(binder) + allocated port` (or the IPC
    path) and the INBOUND side's transport; the inbound channel behind that entry
    has that endpoint in its task's local bind map and — if it was declared
    without a `target` of its own — is sent `method = bind` with exactly that
    endpoint (`tcp://*:port` / the same IPC path) and the same transport. -/
theorem C13_matched (tasks : List Task) (res : List Props) (hwf : WF tasks)
    (h : configure tasks = .ok res) : Matched true tasks res := by
  obtain ⟨bm, hb, hlen, hzip⟩ := configureWith_ok h
  intro p hp o ho hne
  obtain ⟨_, _, hnd⟩ := hwf.1 p.1 (List.of_mem_zip hp).1
  obtain ⟨en, hen, hget⟩ := taskProps_out (hzip p hp) ho
  obtain ⟨e, hge, rfl⟩ := outboundFMQ_ok hne hen
  obtain ⟨b, hbt, kv, hkv, hkey, rfl⟩ := claims_get hb hge
  obtain ⟨rb, hq⟩ := List.exists_zip_of_mem hlen hbt
  obtain ⟨hlb, _, hndb⟩ := hwf.1 b hbt
  obtain ⟨c, hc, hent, hloc, hfresh⟩ := launch_entry hlb hkv
  refine ⟨(b, rb), hq, kv, hkv, hkey, ?_, c, hc, hent, (freshFor_spec hfresh).2.symm, hloc, fun hempty => ?_⟩
  · rw [hget hnd, toTarget_transport]
  · refine taskProps_in (hzip (b, rb) hq) hndb hc ?_
    rw [inboundFMQ_empty (hempty rfl), hloc]
    rfl

/-- FULL-STRENGTH clause 1 (FALSE of the code, see
    `C13_finding_inbound_target_still_advertised`): …and EVERY inbound channel
    behind a matched entry is told to bind exactly the advertised endpoint. -/
def C13_matched_full : Prop :=
  ∀ (tasks : List Task) (res : List Props), WF tasks → configure tasks = .ok res → Matched false tasks res

/-- The same with the excluded hypothesis spelled out: no inbound channel
    declares a `target` of its own. -/
theorem C13_matched_partial (tasks : List Task) (res : List Props) (hwf : WF tasks)
    (hnt : noInboundTarget tasks = true) (h : configure tasks = .ok res) : Matched false tasks res := by
  intro p hp o ho hne
  obtain ⟨q, hq, kv, hkv, h1, h2, c, hc, h3, h4, h5, h6⟩ := C13_matched tasks res hwf h p hp o ho hne
  refine ⟨q, hq, kv, hkv, h1, h2, c, hc, h3, h4, h5, fun _ => h6 (fun _ => ?_)⟩
  have hqt : q.1 ∈ tasks := (List.of_mem_zip hq).1
  simp only [noInboundTarget, List.all_eq_true] at hnt
  exact hnt q.1 hqt c hc

/-- The finding, machine-checked on the model: task `root.a` declares an inbound
    channel `data` with the static target `tcp://*:7777`; the launch still
    allocates port 9000 for it and advertises `root.a:data → h1:9000`; task
    `root.b` connects to `root.a:data` and is sent `tcp://h1:9000`, while
    `root.a` is told to bind `tcp://*:7777`. Nobody listens on 9000. -/
theorem C13_finding_inbound_target_still_advertised : ¬ C13_matched_full := by
  intro h
  -- the witness with everything it has to satisfy, evaluated once, by the kernel
  have hw : ∃ tasks res, WF tasks ∧ configure tasks = .ok res ∧ ¬ Matched false tasks res :=
    ⟨[ { path := "root.a", host := "h1",
         inbound := [⟨"data", .default, .tcp, "tcp://*:7777", "", {}⟩], outbound := [],
         loc := [("data", .tcp "*" 9000 .default)] },
       { path := "root.b", host := "h1", inbound := [],
         outbound := [⟨"o", .default, "root.a:data", {}⟩], loc := [] } ],
     [ [("data", ⟨.bind, "tcp://*:7777", .default⟩)],
       [("o", ⟨.connect, "tcp://h1:9000", .default⟩)] ],
     by decide +kernel⟩
  obtain ⟨tasks, res, hwf, hc, hm⟩ := hw
  exact hm (h tasks res hwf hc)

/-- Clause 2: an explicit `tcp://…` / `ipc://…` target is passed through unchanged, with
    the declaring channel's own transport — outbound (connect) and inbound (bind). -/
theorem C13_explicit_passthrough (tasks : List Task) (res : List Props) (hwf : WF tasks)
    (h : configure tasks = .ok res) : Passthrough tasks res := by
  obtain ⟨bm, _, _, hzip⟩ := configureWith_ok h
  intro p hp
  obtain ⟨_, _, hnd⟩ := hwf.1 p.1 (List.of_mem_zip hp).1
  refine ⟨fun o ho hex => ?_, fun c hc hex => taskProps_in (hzip p hp) hnd hc (inboundFMQ_explicit hex)⟩
  obtain ⟨en, hen, hget⟩ := taskProps_out (hzip p hp) ho
  rw [outboundFMQ_explicit hex] at hen
  cases hen
  exact hget hnd

/-- Clause 3: a target that is neither explicit nor advertised by any task fails the
    whole configuration (no CONFIGURE is sent to anybody). -/
theorem C13_unmatched_fails (tasks : List Task) (hu : Unmatched tasks) :
    ∃ e, configure tasks = .error e := by
  obtain ⟨t, ht, o, ho, hne, hno⟩ := hu
  cases hcfg : configure tasks with
  | error e => exact ⟨e, rfl⟩
  | ok res =>
    -- had it succeeded, `o` would have been given an entry of the bind map, which some task advertises
    obtain ⟨bm, hb, hlen, hzip⟩ := configureWith_ok hcfg
    obtain ⟨r, hr⟩ := List.exists_zip_of_mem hlen ht
    obtain ⟨en, hen, _⟩ := taskProps_out (hzip (t, r) hr) ho
    obtain ⟨e, hg, _⟩ := outboundFMQ_ok hne hen
    obtain ⟨b, hbt, kv, hkv, hkey, _⟩ := claims_get hb hg
    exact absurd hkey (hno b hbt kv hkv)

/-- …and the configuration fails with "unmatched" only if some target really matches nothing. -/
theorem C13_unmatched_only_if (tasks : List Task) (h : configure tasks = .error .unmatched) :
    Unmatched tasks := by
  rcases configureWith_error h with ⟨he, _⟩ | ⟨_, bm, hb, t, ht, o, ho, hx, hg⟩
  · cases he
  · refine ⟨t, ht, o, ho, hx, fun b hbt kv hkv hkey => ?_⟩
    have := claims_present hb hbt hkv
    rw [hkey, hg] at this
    cases this

/-- Two tasks whose local bind maps carry the same global alias with different
    target-form endpoints (TCP: host, port or transport differ; IPC: path or transport): the configuration is
    rejected with "illegal redefinition of global channel alias" — whatever the
    order of the tasks and however many other tasks there are (before and after the
    repair: `cfg` is arbitrary). -/
theorem C13_alias_conflict_rejected (cfg : Cfg) (tasks : List Task) (hwf : WF tasks)
    (b1 b2 : Task) (h1 : b1 ∈ tasks) (h2 : b2 ∈ tasks)
    (kv1 kv2 : String × Endpoint) (hk1 : kv1 ∈ b1.loc) (hk2 : kv2 ∈ b2.loc)
    (ha : isAlias kv1.1 = true) (hsame : kv1.1 = kv2.1)
    (hdiff : kv1.2.toTarget b1.host ≠ kv2.2.toTarget b2.host) :
    configureWith cfg tasks = .error .aliasConflict := by
  cases hb : build [] (claims tasks) with
  | error e => exact configureWith_of_build_error hb
  | ok bm =>
    -- in a bind map that was built the two claims would hold one endpoint
    obtain ⟨hs, hv, hr⟩ := wf_claims hwf
    have ha2 : isAlias kv2.1 = true := hsame ▸ ha
    have := build_alias_same hb hs hv hr (mem_claims.mpr ⟨b1, h1, kv1, hk1, rfl⟩)
      (mem_claims.mpr ⟨b2, h2, kv2, hk2, rfl⟩) ((claimOf_alias _ _ _).trans ha) ((claimOf_alias _ _ _).trans ha2)
      (by rw [claimOf_key_alias _ _ ha, claimOf_key_alias _ _ ha2, hsame])
    rw [claimOf_target, claimOf_target] at this
    exact absurd this hdiff

/-- Conversely the alias error is raised only when an alias is claimed more than once: by the
    local bind maps of two tasks, or by two channels of one task. -/
theorem C13_alias_error_only_if_shared (tasks : List Task) (hwf : WF tasks)
    (h : configure tasks = .error .aliasConflict) :
    shared (claims tasks) = true ∨ ∃ t ∈ tasks, AliasTwice t := by
  rcases configureWith_error h with ⟨_, h2 | ⟨e', hb⟩⟩ | ⟨he, _⟩
  · exact Or.inr h2
  · left
    cases hsh : shared (claims tasks) with
    | true => rfl
    | false =>
      obtain ⟨bm, hok⟩ := build_ok_of_pairwise (bm := []) (claims_alias_key hwf.2)
        ((pairwise_of_not_shared hsh).imp fun h a b k => absurd ⟨a, b, k⟩ h) (fun _ _ _ _ hv => nomatch hv)
      rw [hok] at hb
      cases hb
  · cases he

/-- Equal endpoints are fine: if all claims on each alias hold one and the same
    IPC endpoint, the bind map is built (TCP endpoints of two live tasks are never
    equal: same host means different port). -/
theorem C13_alias_equal_accepted (tasks : List Task) (hk : keysSane (claims tasks) = true)
    (heq : ∀ c ∈ claims tasks, ∀ d ∈ claims tasks, c.alias = true → d.alias = true → c.key = d.key →
      c.raw = d.raw ∧ ∃ p tr, c.raw = .ipc p tr) :
    ∃ bm, build [] (claims tasks) = .ok bm :=
  build_ok_of_pairwise (claims_alias_key hk) (List.pairwise_of_forall_mem_list heq) (fun _ _ _ _ hv => nomatch hv)

/-- FULL-STRENGTH clause 4 at the level of DECLARATIONS: whenever two inbound
    channels — of any tasks, or of ONE task — claim one global alias for different
    endpoints, the configuration is rejected. TRUE of the code as it is
    (`C13_alias_declared_code`), FALSE of the code as it was
    (`C13_finding_alias_redefined_within_task`). -/
def C13_alias_declared_full (cfg : Cfg) : Prop :=
  ∀ (tasks : List Task), WF tasks → clash (allDeclClaims tasks) = true → ∃ e, configureWith cfg tasks = .error e

/-- What held before the repair as well (`cfg` arbitrary): the same whenever every declared
    alias made it into its task's local bind map with the declaring channel's endpoint — which
    the launch guarantees unless two channels of ONE task name the same alias. -/
theorem C13_alias_declared_partial (cfg : Cfg) (tasks : List Task) (hwf : WF tasks)
    (hadv : ∀ t ∈ tasks, aliasesAdvertised t) (hcl : clash (allDeclClaims tasks) = true) :
    configureWith cfg tasks = .error .aliasConflict := by
  obtain ⟨c, hc, d, hd, _, _, hk, hne⟩ := clash_mem hcl
  obtain ⟨t1, ht1, hc1⟩ := mem_allDeclClaims.mp hc
  obtain ⟨t2, ht2, hd2⟩ := mem_allDeclClaims.mp hd
  obtain ⟨ch1, hch1, hg1, hl1, hk1, hh1⟩ := mem_declClaims hc1
  obtain ⟨ch2, hch2, hg2, hl2, hk2, hh2⟩ := mem_declClaims hd2
  obtain ⟨kv1, hkv1, hkk1, hkr1⟩ := hadv t1 ht1 ch1 hch1 hg1 _ hl1
  obtain ⟨kv2, hkv2, hkk2, hkr2⟩ := hadv t2 ht2 ch2 hch2 hg2 _ hl2
  apply C13_alias_conflict_rejected cfg tasks hwf t1 t2 ht1 ht2 kv1 kv2 hkv1 hkv2
  · rw [hkk1]; exact isAlias_aliasKey _
  · rw [hkk1, hkk2, ← hk1, ← hk2, hk]
  · intro heq
    apply hne
    unfold Claim.target
    rw [hh1, hh2, ← hkr1, ← hkr2]
    exact heq.symm

/-- The per-task scan of the declarations (`aliasScan`: the `aliasOwners` loop of configureTasks)
    rejects exactly the tasks two of whose channels, of different names, name one alias. -/
theorem C13_alias_scan_exact (t : Task) : redefines t = true ↔ AliasTwice t := redefines_iff t

/-- A task two of whose inbound channels name one alias is rejected — whatever its local bind
    map kept of the alias, whatever the other tasks. -/
theorem C13_alias_twice_rejected (tasks : List Task) (t : Task) (ht : t ∈ tasks) (h2 : AliasTwice t) :
    configure tasks = .error .aliasConflict := by
  rcases configureWith_cases codeCfg tasks with ⟨_, _, he⟩ | ⟨h | h, _⟩
  · exact he
  · cases h
  · exact absurd h2 (h t ht)

/-- The full-strength statement holds of the code as it is: two declared claims on one
    alias with different endpoints — across tasks or within one — always fail the configuration.
    Either some task names an alias twice (rejected by the scan), or no task does, and then the
    launch postcondition makes every declared alias an entry of its task's local bind map with
    the declaring channel's own endpoint, where the de-duplication of the bind-map loop finds it. -/
theorem C13_alias_declared_code : C13_alias_declared_full codeCfg := by
  intro tasks hwf hcl
  by_cases h2 : ∃ t ∈ tasks, AliasTwice t
  · obtain ⟨t, ht, h2⟩ := h2
    exact ⟨_, C13_alias_twice_rejected tasks t ht h2⟩
  · refine ⟨_, C13_alias_declared_partial codeCfg tasks hwf (fun t ht => ?_) hcl⟩
    exact advertised_of_not_twice (hwf.1 t ht).1 (fun h => h2 ⟨t, ht, h⟩)

/-- The finding (FIXED: a statement about the code as it was, `legacyCfg`), machine-checked on
    the model: one task whose template binds `data` and `mon`, both with `global: g`. The launch
    gives `data` port 9000 and `mon` port 9001 and keeps `::g → 9001`; two different endpoints
    claim `::g`, the configuration went through, and whoever connected to `::g` reached `mon`. -/
theorem C13_finding_alias_redefined_within_task : ¬ C13_alias_declared_full legacyCfg := by
  intro h
  have hw : ∃ tasks res, WF tasks ∧ clash (allDeclClaims tasks) = true ∧ configureWith legacyCfg tasks = .ok res :=
    ⟨[ { path := "root.a", host := "h1",
         inbound := [⟨"data", .default, .tcp, "", "g", {}⟩, ⟨"mon", .default, .tcp, "", "g", {}⟩], outbound := [],
         loc := [("::g", .tcp "*" 9001 .default), ("data", .tcp "*" 9000 .default), ("mon", .tcp "*" 9001 .default)] } ],
     [[("data", ⟨.bind, "tcp://*:9000", .default⟩), ("mon", ⟨.bind, "tcp://*:9001", .default⟩)]],
     by decide +kernel⟩
  obtain ⟨tasks, res, hwf, hcl, hok⟩ := hw
  obtain ⟨e, he⟩ := h tasks hwf hcl
  rw [hok] at he
  cases he

/-- …and the same witness is rejected by the code as it is. -/
theorem C13_witness_alias_redefined_rejected :
    configure
      [ { path := "root.a", host := "h1",
          inbound := [⟨"data", .default, .tcp, "", "g", {}⟩, ⟨"mon", .default, .tcp, "", "g", {}⟩], outbound := [],
          loc := [("::g", .tcp "*" 9001 .default), ("data", .tcp "*" 9000 .default), ("mon", .tcp "*" 9001 .default)] } ]
      = .error .aliasConflict := by decide +kernel

/-- The repair changes nothing for a workflow in which no task names an alias twice: the outcome
    is the one of the code as it was, for every such list of tasks. -/
theorem C13_repair_conservative (tasks : List Task) (h : ∀ t ∈ tasks, ¬ AliasTwice t) :
    configure tasks = configureWith legacyCfg tasks := by
  rw [legacy_eq_wire]
  rcases configureWith_cases codeCfg tasks with ⟨_, ⟨t, ht, h2⟩, _⟩ | ⟨_, he⟩
  · exact absurd h2 (h t ht)
  · exact he

/-- On EVERY well-formed input the model's outcome satisfies the Spec weakened in the bind clause
    only (it is demanded only of target-less inbound channels; alias claims AS DECLARED). -/
theorem C13_model_meets_spec_up_to_inbound_target (tasks : List Task) (hwf : WF tasks) :
    SpecW true false tasks (configure tasks) := by
  cases hcfg : configure tasks with
  | ok res =>
    obtain ⟨_, _, hlen, _⟩ := configureWith_ok hcfg
    refine ⟨hlen, C13_matched tasks res hwf hcfg, C13_explicit_passthrough tasks res hwf hcfg,
      fun hu => ?_, ?_⟩
    · obtain ⟨e, he⟩ := C13_unmatched_fails tasks hu
      rw [hcfg] at he; cases he
    · cases hcl : clash (allDeclClaims tasks) with
      | false => exact hcl
      | true =>
        obtain ⟨e, he⟩ := C13_alias_declared_code tasks hwf hcl
        rw [show configureWith codeCfg tasks = configure tasks from rfl, hcfg] at he; cases he
  | error e =>
    cases e with
    | unmatched => exact C13_unmatched_only_if tasks hcfg
    | aliasConflict => exact C13_alias_error_only_if_shared tasks hwf hcfg

/-- Everything together: outside the ONE excluded class that is left (inbound channels with a
    target of their own) the model's outcome satisfies the full-strength Spec — the predicate
    the correspondence run evaluates on the implementation's outcome. -/
theorem C13_model_meets_spec (tasks : List Task) (hwf : WF tasks) (hnt : noInboundTarget tasks = true) :
    Spec tasks (configure tasks) := by
  have h := C13_model_meets_spec_up_to_inbound_target tasks hwf
  cases hcfg : configure tasks with
  | ok res =>
    rw [hcfg] at h
    exact ⟨h.1, C13_matched_partial tasks res hwf hnt hcfg, h.2.2⟩
  | error e =>
    rw [hcfg] at h
    cases e <;> exact h

/-- …and the doubly weakened Spec (alias claims as they appear in the local bind maps): no two claims of
    one alias hold different target-form endpoints (`clash (claims tasks) = false`, by `build_alias_same`). -/
theorem C13_model_meets_weak_spec (tasks : List Task) (hwf : WF tasks) :
    SpecW true true tasks (configure tasks) := by
  have h := C13_model_meets_spec_up_to_inbound_target tasks hwf
  cases hcfg : configure tasks with
  | ok res =>
    rw [hcfg] at h
    refine ⟨h.1, h.2.1, h.2.2.1, h.2.2.2.1, ?_⟩
    cases hcl : clash (claims tasks) with
    | false => exact hcl
    | true =>
      obtain ⟨bm, hb, _⟩ := configureWith_ok hcfg
      obtain ⟨hs, hv, hr⟩ := wf_claims hwf
      obtain ⟨c, hc, d, hd, hca, hda, hk, hne⟩ := clash_mem hcl
      exact absurd (build_alias_same hb hs hv hr hd hc hda hca hk) hne
  | error e =>
    rw [hcfg] at h
    cases e <;> exact h

/-- `codeCfg.generatedLast` is what BuildPropertyMap does NOW (go/ast over core/task/task.go,
    regenerated on every check): the one loop over `t.GetProperties()` copies into the result map
    and stands, in the same block, before the one statement that calls `ToFMQMap` and copies the
    generated channel keys unconditionally. Breaks if the two steps are swapped, if a second copy of
    the declared properties appears, or if the generated writes become conditional on the map. -/
theorem C13_property_order_is_code :
    codeCfg.generatedLast = Gen.C13.declaredPropertiesBeforeChannelConfig := by decide

/-- BuildPropertyMap, for every task, bind map and `properties:` block: the result is the generated
    channel keys laid over the declared properties laid over the common properties — for every key,
    the generated value if there is one, else the declared one, else the common one. The generated
    keys `g` are a function of the channels and the bind maps alone (`genKVs` has no access to the
    declared properties). -/
theorem C13_generated_keys_win (bm : BindMap) (t : Task) (pm : PMap) (h : buildPMap codeCfg bm t = .ok pm) :
    ∃ g, genKVs bm t.loc t.inbound t.outbound = .ok g ∧
      ∀ k, Assoc.get pm k =
        (Assoc.get (setAll [] g) k).or ((Assoc.get (setAll [] t.props) k).or (Assoc.get baseProps k)) := by
  obtain ⟨g, hg, hpm, _⟩ := buildPMap_ok h
  cases hpm rfl
  exact ⟨g, hg, fun k => by rw [get_setAll_or, get_setAll_or baseProps]⟩

/-- Generated channel keys are independent of the declared properties: replace the `properties:`
    block of a task by ANY other block — BuildPropertyMap fails or succeeds as before, and every
    key the channel configuration writes (address, transport, method, type, buffer sizes, … of
    every configured channel) has the same value, the generated one. -/
theorem C13_generated_keys_independent_of_declared (bm : BindMap) (t : Task) (props' : PMap) :
    (∀ e, buildPMap codeCfg bm t = .error e ↔ buildPMap codeCfg bm { t with props := props' } = .error e) ∧
    ∀ pm pm', buildPMap codeCfg bm t = .ok pm → buildPMap codeCfg bm { t with props := props' } = .ok pm' →
      ∃ g, genKVs bm t.loc t.inbound t.outbound = .ok g ∧
        ∀ k ∈ g.map (·.1), Assoc.get pm k = Assoc.get (setAll [] g) k ∧ Assoc.get pm' k = Assoc.get pm k := by
  refine ⟨fun e => buildPMap_error_iff.trans (buildPMap_error_iff (t := { t with props := props' })).symm,
    fun pm pm' h h' => ?_⟩
  obtain ⟨g, hg, hpm, _⟩ := buildPMap_ok h
  obtain ⟨g', hg', hpm', _⟩ := buildPMap_ok h'
  cases hpm rfl; cases hpm' rfl
  cases Except.ok.inj (hg.symm.trans hg')
  refine ⟨g, hg, fun k hk => ?_⟩
  obtain ⟨v, _, hv⟩ := Assoc.get_setAll_mem [] g k hk
  rw [get_setAll_or, get_setAll_or (setAll baseProps props'), show Assoc.get (setAll [] g) k = some v from hv]
  exact ⟨rfl, rfl⟩

/-- Declared keys that do not collide are delivered unchanged: a key of the `properties:` block
    that is not a key of one of the task's own channels reaches the executor with its declared value. -/
theorem C13_free_declared_keys_delivered (bm : BindMap) (t : Task) (pm : PMap) (hd : propsDistinct t)
    (h : buildPMap codeCfg bm t = .ok pm) :
    ∀ kv ∈ t.props, ownsKey t kv.1 = false → Assoc.get pm kv.1 = some kv.2 := by
  obtain ⟨g, hg, hpm, _⟩ := buildPMap_ok h
  cases hpm rfl
  intro kv hkv hfree
  have hnot : kv.1 ∉ g.map (·.1) := fun hin => Bool.false_ne_true (hfree.symm.trans (genKVs_owned hg hin))
  rw [get_setAll_not_mem _ _ _ hnot]
  exact Assoc.get_setAll_consistent _ _ _ _ hkv (fun v' hv' => congrArg Prod.snd (List.inj_of_nodup_map hd hv' hkv rfl))

/-- The order of the two steps matters only on collisions: for a task none of whose declared keys
    is a key of one of its channels, "declared properties last" yields the same map, key by key. -/
theorem C13_order_matters_only_on_collisions (bm : BindMap) (t : Task)
    (hfree : ∀ kv ∈ t.props, ownsKey t kv.1 = false) (pm pm' : PMap)
    (h : buildPMap codeCfg bm t = .ok pm) (h' : buildPMap declaredLastCfg bm t = .ok pm') :
    ∀ k, Assoc.get pm' k = Assoc.get pm k := by
  obtain ⟨g, hg, hpm, _⟩ := buildPMap_ok h
  obtain ⟨g', hg', _, hpm'⟩ := buildPMap_ok h'
  cases hpm rfl; cases hpm' rfl
  cases Except.ok.inj (hg.symm.trans hg')
  intro k
  rw [get_setAll_or, get_setAll_or baseProps, get_setAll_or (setAll baseProps t.props), get_setAll_or baseProps]
  cases hG : Assoc.get (setAll [] g) k with
  | none => rw [Option.none_or, Option.none_or]
  | some v =>
    cases hP : Assoc.get (setAll [] t.props) k with
    | none => rw [Option.none_or, Option.none_or]
    | some w =>
      -- a key written by both is a channel key that the task was assumed not to declare
      obtain ⟨y, hy, hyk⟩ := List.mem_map.mp (Assoc.mem_keys_of_get_setAll hP)
      have h1 := genKVs_owned hg (Assoc.mem_keys_of_get_setAll hG)
      rw [← hyk, hfree y hy] at h1
      cases h1

/-- The map tells every channel what the channel-level model says: `configureP` and `configure`
    fail together with the same error, or succeed together, and then — task by task — every entry
    `(method, address, transport)` the channel-level model computes for a channel is what the
    property map holds under `chans.<n>.0.{method,address,transport}` (`RelL`, `readEntry`). All the
    channel-level theorems above are therefore theorems about the maps the executors receive. -/
theorem C13_map_tells_channel_model (tasks : List Task) : RelLE (configureP tasks) (configure tasks) :=
  configureP_rel codeCfg rfl tasks

/-- Clause 5 for the model: in every configured task, every generated key other than address /
    transport carries the channel's own declaration (`numSockets = 1`, method, type, buffer sizes,
    rate logging, kernel sizes, `autoBind` for inbound channels) and every declared key that is not
    a key of one of the task's channels arrives unchanged — whatever the `properties:` block holds. -/
theorem C13_rest_of_map_delivered (tasks : List Task) (pms : List PMap) (hwf : WFP tasks)
    (h : configureP tasks = .ok pms) : Delivered tasks pms := by
  obtain ⟨bm, _, _, hzip⟩ := configurePWith_ok h
  intro p hp
  obtain ⟨t, pm⟩ := p
  have htp : buildPMap codeCfg bm t = .ok pm := hzip (t, pm) hp
  have hpt : t ∈ tasks := (List.of_mem_zip hp).1
  obtain ⟨hl, _, hnd⟩ := hwf.1.1 t hpt
  have hfree := C13_free_declared_keys_delivered bm t pm (hwf.2 t hpt) htp
  obtain ⟨g, hg, hpm, _⟩ := buildPMap_ok htp
  cases hpm rfl
  refine ⟨fun c hc hcf => ?_, fun o ho => ?_, hfree⟩
  · obtain ⟨e, he⟩ := inboundFMQ_of_configurable hl hc hcf
    exact inboundFMQ_method he ▸ miscOk_of_configured hg hnd (.inbound hc he) _
  · obtain ⟨e, he⟩ := genKVs_out hg ho
    exact outboundFMQ_method he ▸ miscOk_of_configured hg hnd (.outbound ho he) _

/-- From the channel-level Spec to the Spec of the whole maps (any weakening flags). -/
theorem C13_spec_lifts_to_maps (a b : Bool) (tasks : List Task) (hwf : WFP tasks)
    (hs : SpecW a b tasks (configure tasks)) : SpecPW a b tasks (configureP tasks) := by
  rcases (C13_map_tells_channel_model tasks).cases with ⟨e, hP, hC⟩ | ⟨pms, res, hP, hC, hrel⟩
  · rw [hC] at hs
    rw [hP]
    exact hs
  · rw [hC] at hs
    rw [hP]
    exact ⟨(RelL_length hrel).trans hs.1, SpecW_mono hrel hs, C13_rest_of_map_delivered tasks pms hwf hP⟩

/-- THE PROPERTY OVER THE WHOLE MAP, for all task lists and all `properties:` blocks: on every
    well-formed input without inbound targets the maps the model sends satisfy the full-strength
    `SpecP` — the predicate the correspondence run evaluates on the maps the real code sent: every
    outbound channel is told to connect to where the matching inbound channel was told to bind,
    whatever else the templates declare. -/
theorem C13_model_meets_spec_maps (tasks : List Task) (hwf : WFP tasks) (hnt : noInboundTarget tasks = true) :
    SpecP tasks (configureP tasks) :=
  C13_spec_lifts_to_maps false false tasks hwf (C13_model_meets_spec tasks hwf.1 hnt)

theorem C13_model_meets_spec_maps_up_to_inbound_target (tasks : List Task) (hwf : WFP tasks) :
    SpecPW true false tasks (configureP tasks) :=
  C13_spec_lifts_to_maps true false tasks hwf (C13_model_meets_spec_up_to_inbound_target tasks hwf.1)

theorem C13_model_meets_weak_spec_maps (tasks : List Task) (hwf : WFP tasks) :
    SpecPW true true tasks (configureP tasks) :=
  C13_spec_lifts_to_maps true true tasks hwf (C13_model_meets_weak_spec tasks hwf.1)

/-- What the order is worth (a statement about a configuration that is NOT the code): with the
    declared properties copied AFTER the generated keys the property fails. Witness: template
    `reader` binds `data` (shmem) and still carries `chans.data.0.address: tcp://*:5555` from
    stand-alone running, template `proc` connects `data` to `root.reader:data` and carries
    `chans.data.0.address: tcp://localhost:5555` + `…transport: zeromq`. Nothing fails; the reader
    binds port 5555 instead of the allocated 9000 and the processor connects to localhost:5555. -/
theorem C13_declared_last_breaks_wiring :
    ¬ ∀ tasks, WFP tasks → noInboundTarget tasks = true → SpecP tasks (configurePWith declaredLastCfg tasks) := by
  intro h
  have hw : ∃ tasks, WFP tasks ∧ noInboundTarget tasks = true ∧ ¬ SpecP tasks (configurePWith declaredLastCfg tasks) :=
    ⟨[ { path := "root.reader", host := "flp1",
         inbound := [⟨"data", .shmem, .tcp, "", "", {}⟩], outbound := [],
         loc := [("data", .tcp "*" 9000 .shmem)],
         props := [(.chan "data" .address, "tcp://*:5555"), (.other "severity", "info")] },
       { path := "root.proc", host := "flp1", inbound := [],
         outbound := [⟨"data", .default, "root.reader:data", { type := "pull" }⟩], loc := [],
         props := [(.chan "data" .address, "tcp://localhost:5555"), (.chan "data" .transport, "zeromq")] } ],
     by decide +kernel⟩
  obtain ⟨tasks, hwf, hnt, hs⟩ := hw
  exact hs (h tasks hwf hnt)

/-- Non-vacuity, same witness under the code as it is: the hypotheses hold, the reader is told to
    bind the ALLOCATED port with its own transport, the processor to connect there with the reader's
    transport — the three colliding declarations are gone — and `severity` arrives unchanged. -/
example :
    let reader : Task :=
      { path := "root.reader", host := "flp1",
        inbound := [⟨"data", .shmem, .tcp, "", "", {}⟩], outbound := [],
        loc := [("data", .tcp "*" 9000 .shmem)],
        props := [(.chan "data" .address, "tcp://*:5555"), (.other "severity", "info")] }
    let proc : Task :=
      { path := "root.proc", host := "flp1", inbound := [],
        outbound := [⟨"data", .default, "root.reader:data", { type := "pull" }⟩], loc := [],
        props := [(.chan "data" .address, "tcp://localhost:5555"), (.chan "data" .transport, "zeromq")] }
    WFP [reader, proc] ∧ noInboundTarget [reader, proc] = true ∧
    (configureP [reader, proc]).map (fun pms => pms.map fun pm =>
        (readEntry pm "data", Assoc.get pm (.chan "data" .type), Assoc.get pm (.other "severity"))) =
      .ok [ (some ⟨.bind, "tcp://*:9000", .shmem⟩, some "push", some "info"),
            (some ⟨.connect, "tcp://flp1:9000", .shmem⟩, some "pull", none) ] ∧
    SpecP [reader, proc] (configureP [reader, proc]) := by
  intro reader proc
  have h : WFP [reader, proc] ∧ noInboundTarget [reader, proc] = true ∧
      (configureP [reader, proc]).map (fun pms => pms.map fun pm =>
          (readEntry pm "data", Assoc.get pm (.chan "data" .type), Assoc.get pm (.other "severity"))) =
        .ok [ (some ⟨.bind, "tcp://*:9000", .shmem⟩, some "push", some "info"),
              (some ⟨.connect, "tcp://flp1:9000", .shmem⟩, some "pull", none) ] := by
    decide +kernel
  -- with the list a variable, the theorem is applied without `configureP` being evaluated again
  generalize [reader, proc] = tasks at h ⊢
  exact ⟨h.1, h.2.1, h.2.2, C13_model_meets_spec_maps tasks h.1 h.2.1⟩

/-- The allocation loop of makeTaskForMesosResources (`allocLocal`: for each inbound
    channel in order `bindMap[name] = fresh endpoint`, then `bindMap["::"+global] =
    bindMap[name]`), fed with one endpoint of the right kind per channel, yields a
    local bind map that satisfies `launchOk` — for any number of channels, as long
    as channel names are unique and do not look like an alias. If moreover no two
    channels name the same alias, every declared alias is advertised with its own
    channel's endpoint (`aliasesAdvertised`). The correspondence run checks on
    every case that the REAL function's output is `allocLocal` of the endpoints it
    handed out, and `launchOk` itself. -/
theorem C13_launch_postcondition (path host : String) (inb : List Inbound) (out : List Outbound)
    (eps : List Endpoint)
    (hnd : (inb.map Inbound.name).Nodup) (hna : ∀ c ∈ inb, isAlias c.name = false)
    (hlen : eps.length = inb.length) (hfresh : ∀ p ∈ inb.zip eps, freshFor p.1 p.2 = true) :
    let t : Task := { path := path, host := host, inbound := inb, outbound := out, loc := allocLocal [] inb eps }
    launchOk t = true ∧
    ((∀ c ∈ inb, ∀ c' ∈ inb, c.global.isEmpty = false → c'.global.isEmpty = false →
        aliasKey c.global = aliasKey c'.global → c.name = c'.name) → aliasesAdvertised t) := by
  intro t
  refine ⟨(launchOk_iff t).mpr ⟨fun c hc => ?_, fun kv hkv => ?_, fun c hc hg => ?_, hna⟩, fun hal c hc hg e he => ?_⟩
  · obtain ⟨e, he⟩ := List.exists_zip_of_mem hlen hc
    exact ⟨e, alloc_name hnd hna he, hfresh _ he⟩
  · obtain ⟨p, hp, hpe⟩ := alloc_mem hkv
    have hget : Assoc.get (allocLocal [] inb eps) p.1.name = some p.2 := alloc_name hnd hna hp
    rcases hpe with rfl | ⟨hg, rfl⟩
    · exact ⟨p.1, (List.of_mem_zip hp).1, Or.inl rfl, hget⟩
    · exact ⟨p.1, (List.of_mem_zip hp).1, Or.inr ⟨hg, rfl⟩, hget⟩
  · obtain ⟨e, he⟩ := List.exists_zip_of_mem hlen hc
    exact alloc_alias_present he hg
  · obtain ⟨e', he'⟩ := List.exists_zip_of_mem hlen hc
    cases Option.some.inj ((alloc_name hnd hna he').symm.trans he)
    exact ⟨(aliasKey c.global, e), Assoc.mem_of_get (alloc_alias hnd hna hal he' hg), rfl, rfl⟩

/-- The declaration in force for channel `n` of a task is the first one found
    going from the task role up through its ancestors, and only if no role
    declares `n` the task template's (`Merge(high, low)`: the high-priority
    entry wins WHOLE — transport, target, alias and addressing are never mixed). -/
theorem C13_nearest_declaration_wins (n : String) (own inherited cls : List Inbound)
    (own' inherited' cls' : List Outbound) :
    findName Inbound.name n (mergeIn (mergeIn own inherited) cls) =
      ((findName Inbound.name n own).or (findName Inbound.name n inherited)).or (findName Inbound.name n cls) ∧
    findName Outbound.name n (mergeOut (mergeOut own' inherited') cls') =
      ((findName Outbound.name n own').or (findName Outbound.name n inherited')).or (findName Outbound.name n cls') := by
  exact ⟨by rw [mergeIn, mergeBy_find, mergeBy_find], by rw [mergeOut, mergeBy_find, mergeBy_find]⟩

/-- The hypotheses are met by a realistic workflow: a producer on `flp1` binding
    `data` (TCP, zeromq) and `mon` (IPC, shmem, alias `::mon`), a consumer on
    `epn1` connecting to `root.p:data`, to `::mon` and to an explicit address;
    the configuration succeeds with the expected wiring. -/
example :
    let p : Task :=
      { path := "root.p", host := "flp1",
        inbound := [⟨"data", .zeromq, .tcp, "", "", {}⟩, ⟨"mon", .shmem, .ipc, "", "mon", {}⟩], outbound := [],
        loc := [("::mon", .ipc "@o2ipc-%0" .shmem), ("data", .tcp "*" 9000 .zeromq), ("mon", .ipc "@o2ipc-%0" .shmem)] }
    let c : Task :=
      { path := "root.c", host := "epn1", inbound := [],
        outbound := [⟨"in", .default, "root.p:data", {}⟩, ⟨"m", .default, "::mon", {}⟩, ⟨"x", .nanomsg, "tcp://elsewhere:1", {}⟩],
        loc := [] }
    WF [p, c] ∧ noInboundTarget [p, c] = true ∧ (∀ t ∈ [p, c], aliasesAdvertised t) ∧
    configure [p, c] = .ok
      [ [("data", ⟨.bind, "tcp://*:9000", .zeromq⟩), ("mon", ⟨.bind, "ipc://@o2ipc-%0", .shmem⟩)],
        [("in", ⟨.connect, "tcp://flp1:9000", .zeromq⟩), ("m", ⟨.connect, "ipc://@o2ipc-%0", .shmem⟩),
         ("x", ⟨.connect, "tcp://elsewhere:1", .nanomsg⟩)] ] := by
  decide +kernel

/-- An iterator contributes, for every value `x` of its range and in range order, exactly the
    task declarations of its body loaded with the iteration variable bound to `x` — nothing of
    what instance `x` declares depends on another value of the range. -/
theorem C13_instance_own_variables (c : Ctx) (v : String) (vals : List String) (body next : TForest)
    (pfx : String) (inhB : List Inbound) (inhC : List Outbound) :
    flatten pfx inhB inhC (expand c (.iter v vals body next)) =
      vals.flatMap (fun x => flatten pfx inhB inhC (expand (c.push v x) body)) ++
        flatten pfx inhB inhC (expand c next) := by
  simp only [expand, flatten_append, foldr_append_hom (flatten pfx inhB inhC) rfl (flatten_append pfx inhB inhC)]

/-- …so instance `x` of a range of any length is declared exactly as if `x` were the ONLY
    iteration (the single-host deployment): the declarations of sibling instances are independent. -/
theorem C13_instance_independent_of_siblings (c : Ctx) (v : String) (vals : List String) (body : TForest)
    (pfx : String) (inhB : List Inbound) (inhC : List Outbound) :
    flatten pfx inhB inhC (expand c (.iter v vals body .nil)) =
      vals.flatMap (fun x => flatten pfx inhB inhC (expand c (.iter v [x] body .nil))) := by
  rw [C13_instance_own_variables]
  simp [expand, flatten, Forest.append_nil]

/-- An iterated TASK role: for every range and every target / alias expression, the task
    generated for value `x` declares each `connect` entry with the target expression
    instantiated with `x` (and its own name, its own parent), each `bind` entry with the alias
    expression instantiated likewise; role-level entries win over inherited ones whole. -/
theorem C13_iterated_task_target (c : Ctx) (v : String) (vals : List String) (n : Tmpl) (cls : String) (h : Nat)
    (b : List InT) (co : List OutT) (pfx : String) (inhB : List Inbound) (inhC : List Outbound) :
    flatten pfx inhB inhC (expand c (.iter v vals (.task n cls h b co .nil) .nil)) =
      vals.map fun x =>
        let ci := (c.push v x).named (n.inst (c.push v x))
        { path := joinPath pfx (n.inst (c.push v x)), cls := cls, hostIdx := h,
          roleBind := mergeIn (b.map (InT.inst ci)) inhB,
          roleConnect := mergeOut (co.map (OutT.inst ci)) inhC } := by
  rw [C13_instance_own_variables]
  simp only [expand, flatten, List.append_nil]
  exact List.map_eq_flatMap.symm

/-- An iterated AGGREGATOR role (one sub-tree per host, say): the roles below instance `x` are
    loaded with `x` in their variable stack and with THAT instance as parent, so
    `{{ Parent().Path }}` in a child's target is the path of the child's own instance. -/
theorem C13_iterated_aggregator_children (c : Ctx) (v : String) (vals : List String) (n : Tmpl)
    (b : List InT) (co : List OutT) (kids : TForest) (pfx : String) (inhB : List Inbound) (inhC : List Outbound) :
    flatten pfx inhB inhC (expand c (.iter v vals (.agg n b co kids .nil) .nil)) =
      (vals.flatMap fun x =>
        let cx := c.push v x
        let nm := n.inst cx
        flatten (joinPath pfx nm) (mergeIn (b.map (InT.inst (cx.named nm))) inhB)
          (mergeOut (co.map (OutT.inst (cx.named nm))) inhC) (expand (cx.child nm) kids)) ∧
    ∀ x, Seg.inst ((c.push v x).child (n.inst (c.push v x))) .parentPath =
          joinPath c.parentPath (n.inst (c.push v x)) ∧
         Assoc.get ((c.push v x).child (n.inst (c.push v x))).env v = some x := by
  refine ⟨?_, fun x => ⟨rfl, ?_⟩⟩
  · rw [C13_instance_own_variables]
    simp [expand, flatten]
  · simp [Ctx.child, Ctx.push, Assoc.get]

/-- The STAGE5 pass of a role reads and writes the role's own cell only. -/
theorem C13_pass_touches_own_cell (st : List Cell) (i j : Nat) (h : j ≠ i) :
    (modAt Cell.resolve st i)[j]? = st[j]? := by
  rw [getElem?_modAt, if_neg h]

/-- Processing order is irrelevant: whatever the order in which the generated roles' STAGE5
    passes run (any list that names every role at least once — the sequential loader, or the
    goroutines of the three concurrency switches in any interleaving of whole passes), every
    role ends up holding its own instantiation, and that is what the loaded tree declares. -/
theorem C13_resolution_order_irrelevant (c : Ctx) (f : TForest) (ord : List Nat)
    (hall : ∀ j, j < (cells c f).length → j ∈ ord) :
    processOrder (cells c f) ord = (cells c f).map Cell.resolve ∧
    (processOrder (cells c f) ord).map Cell.read = ownDecls (expand c f) := by
  have h := processOrder_all (cells c f) ord hall
  refine ⟨h, ?_⟩
  rw [h, ownDecls_expand, List.map_map]
  apply List.map_congr_left
  intro x _
  exact Cell.resolve_read x

/-- A workflow without template expressions is its own template: the template form of the
    model extends the plain one. -/
theorem C13_plain_workflow_is_its_own_template (f : Forest) :
    templateDecls f.toT = flatten "" [] [] f := by
  simp [templateDecls, expand_toT]

/-- On input without inbound targets the model of load + CONFIGURE meets the template Spec — the
    predicate the correspondence run evaluates on what the real loader and the real configureTasks did. -/
theorem C13_model_meets_spec_template (classes : List (String × Class)) (root : TForest)
    (launch : List (String × String × BindMap))
    (hwf : WF (templateTasks classes root launch))
    (hnt : noInboundTarget (templateTasks classes root launch) = true) :
    SpecT classes root launch ((templateDecls root).map TaskDecl.seen)
      (configure (templateTasks classes root launch)) :=
  ⟨rfl, C13_model_meets_spec _ hwf hnt⟩

theorem C13_model_meets_spec_up_to_inbound_target_template (classes : List (String × Class)) (root : TForest)
    (launch : List (String × String × BindMap)) (hwf : WF (templateTasks classes root launch)) :
    SpecTW true false classes root launch ((templateDecls root).map TaskDecl.seen)
      (configure (templateTasks classes root launch)) :=
  ⟨rfl, C13_model_meets_spec_up_to_inbound_target _ hwf⟩

theorem C13_model_meets_weak_spec_template (classes : List (String × Class)) (root : TForest)
    (launch : List (String × String × BindMap)) (hwf : WF (templateTasks classes root launch)) :
    SpecTW true true classes root launch ((templateDecls root).map TaskDecl.seen)
      (configure (templateTasks classes root launch)) :=
  ⟨rfl, C13_model_meets_weak_spec _ hwf⟩

/-- …and over the whole property maps (task templates with `properties:` blocks under iterators). -/
theorem C13_model_meets_spec_maps_template (classes : List (String × Class)) (root : TForest)
    (launch : List (String × String × BindMap))
    (hwf : WFP (templateTasks classes root launch))
    (hnt : noInboundTarget (templateTasks classes root launch) = true) :
    SpecTP classes root launch ((templateDecls root).map TaskDecl.seen)
      (configureP (templateTasks classes root launch)) :=
  ⟨rfl, C13_model_meets_spec_maps _ hwf hnt⟩

theorem C13_model_meets_spec_maps_up_to_inbound_target_template (classes : List (String × Class)) (root : TForest)
    (launch : List (String × String × BindMap)) (hwf : WFP (templateTasks classes root launch)) :
    SpecTPW true false classes root launch ((templateDecls root).map TaskDecl.seen)
      (configureP (templateTasks classes root launch)) :=
  ⟨rfl, C13_model_meets_spec_maps_up_to_inbound_target _ hwf⟩

/-- Every task generated from a template carries the template's `properties:` block. -/
theorem C13_template_tasks_carry_class_properties (classes : List (String × Class)) (d : TaskDecl)
    (path host : String) (loc : BindMap) :
    (mkTask classes d path host loc).props = ((Assoc.get classes d.cls).getD { bind := [], connect := [] }).props := rfl

/-- Non-vacuity (the per-host shape): `host-{{ it }}` for it = 1..3, below each a `sink` binding
    `data` and a `source` connecting to `{{ Parent().Path }}.sink:data`; one host per instance,
    port 9000 everywhere. Every source is sent the address of the sink of its OWN host. -/
example :
    let root : TForest :=
      .agg [.lit "root"] [] []
        (.iter "it" ["1", "2", "3"]
          (.agg [.lit "host-", .var "it"] [] []
            (.task [.lit "sink"] "s" 0 [⟨"data", .default, .tcp, "", [], {}⟩] []
              (.task [.lit "source"] "c" 0 [] [⟨"data", .default, [.parentPath, .lit ".sink:data"], {}⟩] .nil))
            .nil)
          .nil)
        .nil
    let classes : List (String × Class) := [("s", ⟨[], [], []⟩), ("c", ⟨[], [], []⟩)]
    let ep : BindMap := [("data", .tcp "*" 9000 .default)]
    let launch : List (String × String × BindMap) :=
      [("root.host-1.sink", "flp1", ep), ("root.host-1.source", "flp1", []),
       ("root.host-2.sink", "flp2", ep), ("root.host-2.source", "flp2", []),
       ("root.host-3.sink", "flp3", ep), ("root.host-3.source", "flp3", [])]
    (templateDecls root).map (fun d => (d.path, d.roleConnect.map Outbound.target)) =
      [("root.host-1.sink", []), ("root.host-1.source", ["root.host-1.sink:data"]),
       ("root.host-2.sink", []), ("root.host-2.source", ["root.host-2.sink:data"]),
       ("root.host-3.sink", []), ("root.host-3.source", ["root.host-3.sink:data"])] ∧
    WF (templateTasks classes root launch) ∧
    configure (templateTasks classes root launch) = .ok
      [ [("data", ⟨.bind, "tcp://*:9000", .default⟩)], [("data", ⟨.connect, "tcp://flp1:9000", .default⟩)],
        [("data", ⟨.bind, "tcp://*:9000", .default⟩)], [("data", ⟨.connect, "tcp://flp2:9000", .default⟩)],
        [("data", ⟨.bind, "tcp://*:9000", .default⟩)], [("data", ⟨.connect, "tcp://flp3:9000", .default⟩)] ] ∧
    -- the wiring in which every later instance keeps the FIRST instance's target is rejected by the Spec
    ¬ SpecT classes root launch ((templateDecls root).map TaskDecl.seen) (.ok
      [ [("data", ⟨.bind, "tcp://*:9000", .default⟩)], [("data", ⟨.connect, "tcp://flp1:9000", .default⟩)],
        [("data", ⟨.bind, "tcp://*:9000", .default⟩)], [("data", ⟨.connect, "tcp://flp1:9000", .default⟩)],
        [("data", ⟨.bind, "tcp://*:9000", .default⟩)], [("data", ⟨.connect, "tcp://flp1:9000", .default⟩)] ]) := by
  decide +kernel
