/-
  Props/C14 — "Variables resolve by documented precedence at every role".

  Property theorems, a few `def`s and examples; lemmas live in Proofs/Vars, VarsTree, VarsEnv. Apart from the
  `_is_code` / table theorems and the witnesses (concrete data), every statement is
  for ALL chains (any depth), ALL maps, ALL keys (for a task's stacks: keys the special
  values do not set) — proofs by induction on the chain / on the merged map.

  Tie to /repo: `Gen.VarsFacts` is re-tabulated on every run — mergo's
  behaviour on one key by evaluating the linked dario.cat/mergo on its 18-cell
  domain, the `mergo.WithOverride` argument of the two gera call sites by
  go/ast, the stage-visibility table by evaluating template.Sequence.Execute,
  the defaults/vars/user-vars ranking by evaluating ConsolidatedVarStack on a
  real role, the ranking workflow / task template vars / task template
  defaults by evaluating BuildTaskCommand and BuildPropertyMap on a real task
  role. The `_is_code` theorems identify the model with those tables, so
  the theorems below are about what the code computes. The model as a
  whole is tied by the correspondence run (harness/props/c14).

  Two configurations of `BuildTaskCommand` (`Vars.TaskCfg`): `codeCfg` — the code
  as it is, with the repair of finding task_template_defaults_over_vars
  (notes/C14.fix-1.patch: workflow ▷ (template vars ▷ template defaults)) — and
  `legacyCfg`, the code before it ((workflow ▷ defaults) ▷ vars).
  `C14_task_rank_is_code` ties `codeCfg` to the linked code: it breaks when the
  repair is reverted. `modelObs` = `modelObsOf codeCfg`.

  Second part (Model/VarsTree, Proofs/VarsTree): the LOADED tree (iterator
  expansion) and histories of runtime writes on it — a write is visible exactly
  in the subtree of the role it was written on, for all trees and all histories;
  tied by differential runs on trees loaded through the real ProcessTemplates.

  Third part (Model/VarsEnv, Proofs/VarsEnv): the writes the ENVIRONMENT itself
  performs on its transitions (run number, run time stamps, copies of
  configuration-store values, …). `Gen.C14EnvWrites.table` enumerates them by go/ast
  with the KIND of map each key is written to; `C14_env_writes_are_code` identifies
  the model's table with it, the model of a transition interprets that table, and
  the theorems say: copies of configuration-store values are vars of the root role,
  a transition never touches the user-var hierarchy of any role for any key but
  the run-time keys, so a user-supplied value keeps winning at every role at every
  moment. Tied by differential runs on a real Environment driven through
  TryTransition.

  Fourth part (Model/VarsTree `Node.site`, `LoadCfg`, `load`): INCLUDE ROLES. An include role
  becomes the root of the loaded sub-workflow; what was written at the include site — its own
  defaults / vars and, when the include role is an iterator's template, the iteration variable —
  is one more level right above it. `Gen.C14Load` (go/ast of the four ProcessTemplates) says where
  each kind of role publishes its iterator Locals; `C14_load_is_code` identifies the model's
  `codeLoad` with it, `C14_load_is_expand` shows that the step-by-step load IS the reading of the
  template the Spec uses (`expand`), and the theorems say: the included root's definitions are
  nearer than the site's, both nearer than everything above; inside every instance of an iterated
  include role the iteration variable is the instance's own value unless something nearer or a
  user var defines it. Tied by differential runs on templates with (iterated, nested) include roles loaded through
  the real ProcessTemplates with an in-memory workflow repository.
-/
import ControlModel.Gen.VarsFacts
import ControlModel.Gen.C14EnvWrites
import ControlModel.Gen.C14LoadFacts
import ControlModel.Proofs.Vars
import ControlModel.Proofs.VarsTree
import ControlModel.Proofs.VarsEnv
import ControlModel.Spec.C14

open Vars

/-- code of a cell of the one-key merge domain: 0 absent, 1 empty, 2 "x", 3 "y" -/
def C14.cellCode : Option String → Nat
  | none => 0
  | some v => if v = "" then 1 else if v = "x" then 2 else 3

def C14.cellMap (i : Nat) (v : String) : KV :=
  match i with
  | 0 => []
  | 1 => [("k", "")]
  | _ => [("k", v)]

/-- The model's one-key merge IS the linked mergo on the whole domain
    {overwrite off/on} × {dst absent, empty, "x"} × {src absent, empty, "y"}. -/
theorem C14_mergo_is_code :
    ∀ ow ∈ [false, true], ∀ d ∈ [0, 1, 2], ∀ s ∈ [0, 1, 2],
      C14.cellCode (lookup (mergo ow (C14.cellMap d "x") (C14.cellMap s "y")) "k")
        = ((Gen.VarsFacts.mergoTable[ow.toNat]!)[d]!)[s]! := by
  decide

/-- Both gera call sites pass `mergo.WithOverride`, as the model assumes. -/
theorem C14_override_is_code :
    Gen.VarsFacts.flattenedOverride = geraOverride ∧ Gen.VarsFacts.wrappedAndFlattenedOverride = geraOverride := by
  decide

/-- The model's stage-visibility table IS what Sequence.Execute shows at stages 0..5. -/
theorem C14_stage_table_is_code : (List.range 6).map stageVis = Gen.VarsFacts.stageTable := by
  decide

/-- On a single role the model ranks user vars over vars over defaults exactly
    as the real ConsolidatedVarStack does (all 8 subsets of defining kinds). -/
theorem C14_kind_rank_is_code :
    (List.range 8).map (fun mask =>
      match lookup (consolidated [{ defaults := if mask % 2 = 1 then [("k", "d")] else [],
                                    vars := if mask / 2 % 2 = 1 then [("k", "v")] else [],
                                    userVars := if mask / 4 % 2 = 1 then [("k", "u")] else [] }]) "k" with
      | none => 0
      | some v => if v = "d" then 1 else if v = "v" then 2 else 3)
    = Gen.VarsFacts.kindRankTable := by
  decide

/-- Under the workflow, the model ranks the task template's vars over its defaults —
    for the command line (`cmdStack`, the code as it is) and for the properties
    (`propStack`) — exactly as the real BuildTaskCommand / BuildPropertyMap do on a real
    task role (all 8 subsets of {template defaults, template vars, workflow} defining the
    key). Reverting the repair of `task_template_defaults_over_vars` makes this false
    (cell 3 of the command line becomes the defaults' value). -/
theorem C14_task_rank_is_code :
    (List.range 8).map (fun mask =>
      let wf : KV := if mask / 4 % 2 = 1 then [("k", "w")] else []
      let td : KV := if mask % 2 = 1 then [("k", "d")] else []
      let tv : KV := if mask / 2 % 2 = 1 then [("k", "v")] else []
      let code : Option String → Nat := fun o =>
        match o with
        | none => 0
        | some v => if v = "d" then 1 else if v = "v" then 2 else 3
      (code (lookup (cmdStackOf codeCfg wf [] td tv) "k"), code (lookup (propStack wf [] td tv) "k")))
    = Gen.VarsFacts.taskRankTable := by
  decide

/-- Flattening a hierarchy agrees with `Get` on it, for every chain and key:
    `Flattened()[k]` is the nearest definition. -/
theorem C14_flatten_get (c : Chain) (k : String) : lookup (flatten c) k = get c k :=
  lookup_flatten c k

/-- Within one kind the nearest level wins, whatever its value. -/
theorem C14_nearest_first (m : KV) (rest : Chain) (k : String) :
    lookup (flatten (m :: rest)) k = (match lookup m k with | some v => some v | none => lookup (flatten rest) k) := by
  rw [lookup_flatten_cons]; cases lookup m k <;> rfl

/-- THE precedence theorem: what a role sees for `k` is the first definition in
    the list [user vars nearest→farthest, vars nearest→farthest, defaults
    nearest→farthest], for every path (any depth) and every key. -/
theorem C14_precedence (p : Path) (k : String) :
    lookup (consolidated p) k = firstDefined (uChain p ++ vChain p ++ dChain p) k :=
  lookup_consolidated p k

/-- The same, kind by kind: user-supplied over vars over defaults. -/
theorem C14_user_over_vars_over_defaults (p : Path) (k : String) :
    lookup (consolidated p) k =
      (match get (uChain p) k with
       | some v => some v
       | none => match get (vChain p) k with
         | some v => some v
         | none => get (dChain p) k) := by
  rw [lookup_consolidated]
  simp only [ranked, get_append]
  cases get (uChain p) k <;> cases get (vChain p) k <;> rfl

/-- `gera.FlattenStack(defaults, vars, userVars)` — the second implementation of
    consolidation, used for iterator range expressions — obeys the same rule. -/
theorem C14_flattenStack (p : Path) (k : String) :
    lookup (flattenStack [dChain p, vChain p, uChain p]) k = firstDefined (ranked p) k :=
  lookup_flattenStack_kinds p k

/-- ConsolidatedVarMaps: each kind is resolved nearest-first on its own hierarchy. -/
theorem C14_maps (p : Path) (k : String) :
    lookup (consolidatedMaps p).1 k = get (dChain p) k ∧
    lookup (consolidatedMaps p).2.1 k = get (vChain p) k ∧
    lookup (consolidatedMaps p).2.2 k = get (uChain p) k := by
  simp [consolidatedMaps, lookup_flatten]

/-- The highest-ranking source that defines the key decides, whatever lower
    sources say and whatever the value is. -/
theorem C14_highest_source_wins (p : Path) (k v : String) (pre post : List KV) (m : KV)
    (hsplit : ranked p = pre ++ m :: post) (hpre : ∀ x ∈ pre, lookup x k = none)
    (hm : lookup m k = some v) : lookup (consolidated p) k = some v := by
  rw [lookup_consolidated, get_eq_findSome?]
  exact List.findSome?_eq_some_iff.mpr ⟨pre, m, post, hsplit, hm, hpre⟩

/-- An empty value is a definition: if the highest-ranking source that mentions
    the key sets it to "", the role sees "" — no lower-ranking non-empty value
    shines through. -/
theorem C14_empty_is_definition (p : Path) (k : String) (pre post : List KV) (m : KV)
    (hsplit : ranked p = pre ++ m :: post) (hpre : ∀ x ∈ pre, lookup x k = none)
    (hm : lookup m k = some "") : lookup (consolidated p) k = some "" :=
  C14_highest_source_wins p k "" pre post m hsplit hpre hm

/-- A key nobody defines is absent (nothing is invented). -/
theorem C14_absent_everywhere (p : Path) (k : String) (h : ∀ x ∈ ranked p, lookup x k = none) :
    lookup (consolidated p) k = none := by
  rw [lookup_consolidated, get_eq_findSome?]
  exact List.findSome?_eq_none_iff.mpr h

/-- The environment-wide maps are the outermost ancestor: appended as the last
    level they are consulted, per kind, only when no role level defines the key. -/
theorem C14_environment_outermost (p : Path) (env : Level) (k : String) :
    get (uChain (p ++ [env])) k = orElse (get (uChain p) k) (lookup env.userVars k) ∧
    get (vChain (p ++ [env])) k = orElse (get (vChain p) k) (lookup env.vars k) ∧
    get (dChain (p ++ [env])) k = orElse (get (dChain p) k) (lookup env.defaults k) := by
  simp [uChain, vChain, dChain, List.map_append, get_append, get_cons, orElse_eq_or]

/-- Template stages: at every stage the same rule, applied to the sources that
    stage can see (locals, then per kind either the whole hierarchy or only the
    ancestors'). -/
theorem C14_stage_visibility (locals : KV) (p : Path) (stage : Nat) (k : String) :
    lookup (staged locals p stage) k = firstDefined (rankedAt locals p stage) k :=
  lookup_staged locals p stage k

/-- Stages 0 and 1 see nothing of the role's own maps: locals, then what the parent sees. -/
theorem C14_stage_early_is_parent_view (locals : KV) (own : Level) (anc : Path) (stage : Nat) (k : String)
    (h : stage ≤ 1) :
    lookup (staged locals (own :: anc) stage) k = orElse (lookup locals k) (lookup (consolidated anc) k) := by
  have hs : stageVis stage = (false, false, false) := by
    match stage, h with
    | 0, _ => rfl
    | 1, _ => rfl
  rw [lookup_staged, lookup_consolidated]
  simp [rankedAt, hs, ranked, uChain, vChain, dChain, get_cons, get_append]

/-- From stage 4 on (and without locals) a field sees the role's consolidated stack. -/
theorem C14_stage_late_is_full_view (p : Path) (stage : Nat) (k : String) (h : 4 ≤ stage) :
    lookup (staged [] p stage) k = lookup (consolidated p) k := by
  have hs : stageVis stage = (true, true, true) := by
    match stage, h with
    | n + 4, _ => rfl
  rw [lookup_staged, lookup_consolidated]
  simp [rankedAt, hs, ranked, get_cons, lookup, get_append]

/-- A task template's own defaults and vars rank below everything coming from
    the workflow, and its vars above its defaults — for the command line and for
    the properties alike (the code as it is), for a key no special value sets. -/
theorem C14_template_below_workflow (wf special td tv : KV) (k : String) (hk : lookup special k = none) :
    lookup (cmdStack wf special td tv) k = orElse (lookup wf k) (orElse (lookup tv k) (lookup td k)) ∧
    lookup (propStack wf special td tv) k = orElse (lookup wf k) (orElse (lookup tv k) (lookup td k)) :=
  ⟨lookup_cmdStack wf special td tv k hk, lookup_propStack wf special td tv k hk⟩

/-- The code as it was (`legacyCfg`): below the workflow too, but the template's
    defaults BEFORE its vars on the command line (for a key no special value sets). -/
theorem C14_legacy_template_below_workflow (wf special td tv : KV) (k : String) (hk : lookup special k = none) :
    lookup (legacyCmdStack wf special td tv) k = orElse (lookup wf k) (orElse (lookup td k) (lookup tv k)) :=
  lookup_legacyCmdStack wf special td tv k hk

/-- In particular: whatever the workflow defines (also as empty) for a key no special
    value sets reaches the task unchanged — in either configuration. -/
theorem C14_workflow_value_reaches_task (cfg : TaskCfg) (wf special td tv : KV) (k v : String)
    (hk : lookup special k = none) (hv : lookup wf k = some v) :
    lookup (cmdStackOf cfg wf special td tv) k = some v ∧ lookup (propStack wf special td tv) k = some v := by
  have h := C14_template_below_workflow wf special td tv k hk
  have hl := C14_legacy_template_below_workflow wf special td tv k hk
  obtain ⟨b⟩ := cfg
  cases b <;> simp [cmdStackOf, h, hl, hv]

/-- Full-strength tie between mechanism and rule: the model's observation at a
    role is what the Spec demands, for every role description, key universe and
    special-value map (in the code: the six special names) that sets none of the probed
    keys. PROVED for the code as it is (`C14_model_meets_spec_code`), REFUTED for the code as it was
    (`C14_finding_task_template_defaults_over_vars`: the command line ranked the
    task template's defaults over its vars). -/
def C14_model_meets_spec_full (cfg : TaskCfg) : Prop :=
  ∀ (keys : List String) (special : KV) (r : RoleIn),
    (∀ k ∈ keys, lookup special k = none) → modelObsOf cfg keys special r = expected keys r

/-- The code as it is meets the Spec at full strength — stack, maps, Get,
    FlattenStack, the six stages, the task's properties AND its command line,
    for ALL inputs whose special values set none of the probed keys, no other class
    excluded. The correspondence run compares the code with `modelObs` (= `modelObsOf
    codeCfg`); this theorem carries that over to `Spec.expected`. -/
theorem C14_model_meets_spec_code : C14_model_meets_spec_full codeCfg := by
  intro keys special r hclear
  refine modelObsOf_eq_expected codeCfg keys special r hclear fun td tv _ k hk => ?_
  rw [get_rankedTask, ← lookup_consolidated]
  exact lookup_cmdStack _ special td tv k (hclear k hk)

/-- The command line of the code as it is follows the documented order: workflow,
    then template vars, then template defaults (probed keys that no special value sets). -/
theorem C14_cmd_follows_rule (keys : List String) (special : KV) (p : Path) (locals td tv : KV)
    (hclear : ∀ k ∈ keys, lookup special k = none) :
    ((modelObs keys special { path := p, locals := locals, tmpl := some (td, tv) }).task.map (·.1))
      = some (tabulate keys (firstDefined (rankedTask p td tv))) := by
  unfold modelObs
  rw [C14_model_meets_spec_code keys special _ hclear]
  rfl

/-- For EITHER configuration (special values again setting none of the probed keys), with
    the class the repair was about spelled out (`tmplOrderIrrelevant`): where the
    relative order of the template's two maps cannot matter, the code as it was met the
    Spec too — the task's command line was the only part that needed that hypothesis. -/
theorem C14_model_meets_spec_partial (cfg : TaskCfg) (keys : List String) (special : KV) (r : RoleIn)
    (hclear : ∀ k ∈ keys, lookup special k = none) (hyp : tmplOrderIrrelevant keys r = true) :
    modelObsOf cfg keys special r = expected keys r := by
  refine modelObsOf_eq_expected cfg keys special r hclear fun td tv ht k hk => ?_
  rw [get_rankedTask, ← lookup_consolidated]
  obtain ⟨_ | _⟩ := cfg
  · -- the code as it was: template defaults before template vars
    refine (lookup_legacyCmdStack _ special td tv k (hclear k hk)).trans ?_
    simp only [tmplOrderIrrelevant, ht, List.all_eq_true] at hyp
    have h := hyp k hk
    simp only [Bool.or_eq_true, Option.isSome_iff_exists, Option.isNone_iff_eq_none, beq_iff_eq,
      ← lookup_consolidated] at h
    rcases h with ((⟨v, hv⟩ | h) | h) | h
    · rw [hv]; rfl
    · rw [h]; simp [orElse_eq_or]
    · rw [h]; simp [orElse_eq_or]
    · rw [h]
  · exact lookup_cmdStack _ special td tv k (hclear k hk)

/-- What the command line saw before the repair: workflow, then template defaults, then
    template vars (probed keys that no special value sets). -/
theorem C14_legacy_cmd_order (keys : List String) (special : KV) (p : Path) (locals td tv : KV)
    (hclear : ∀ k ∈ keys, lookup special k = none) :
    ((modelObsOf legacyCfg keys special { path := p, locals := locals, tmpl := some (td, tv) }).task.map (·.1))
      = some (tabulate keys (firstDefined (rankedCmdLegacy p td tv))) := by
  simp only [modelObsOf, Option.map_some, Option.some.injEq]
  apply tabulate_congr
  intro k hk
  simp only [cmdStackOf, legacyCfg, Bool.false_eq_true, if_false]
  rw [C14_legacy_template_below_workflow _ special td tv k (hclear k hk), lookup_consolidated]
  simp [firstDefined, rankedCmdLegacy, get_append, get_cons, orElse_eq_or]

/-- Finding `task_template_defaults_over_vars` (repaired), refuted for the code as
    it was on a witness: a task under a bare root whose template sets `k` in
    defaults AND in vars. Its properties saw the vars' value, its command line the
    defaults' value. -/
theorem C14_finding_task_template_defaults_over_vars : ¬ C14_model_meets_spec_full legacyCfg := by
  intro h
  have hcmd := congrArg (fun o => o.task.map (·.1))
    (h ["k"] [] { path := [{ defaults := [], vars := [], userVars := [] }, { defaults := [], vars := [], userVars := [] }],
                  locals := [], tmpl := some ([("k", "td")], [("k", "tv")]) } (fun _ _ => rfl))
  simp only [C14_legacy_cmd_order ["k"] [] _ [] _ _ (fun _ _ => rfl)] at hcmd
  revert hcmd
  decide

/-! ## writes after load: visible exactly in the subtree of the role they were written on

  `Forest` = the loaded role tree (iterators expanded, `expand`), `updAt f t r` = what
  `SetRuntimeVar`/`DeleteRuntimeVar` on the role at address `r` does to the tree,
  `applyWrites` = a whole history (with the `Global` variants landing on the root),
  `chainAt t s` = the roles from the root down to `s`: everything observed at `s`
  (`modelObs`) is a function of that chain and the environment. -/

/-- FRAME: a write on `r` leaves every role `s` that is neither `r` nor below `r`
    exactly as it was — for every tree, every map transformation, every pair of roles. -/
theorem C14_write_frame (f : KV → KV) (t : Forest) (r s : Addr) (h : isAnc r s = false) :
    chainAt (updAt f t r) s = chainAt t s := by
  rw [chainAt_updAt]
  simp [h]

/-- … and at `r` itself and everywhere below it, it is a change of `r`'s OWN user
    vars (position `|r| - 1` of the chain), nothing else. -/
theorem C14_write_lands_on_own_level (f : KV → KV) (t : Forest) (r s : Addr) (hr : r ≠ [])
    (h : isAnc r s = true) :
    chainAt (updAt f t r) s = (chainAt t s).map fun c => modUser f c (r.length - 1) := by
  rw [chainAt_updAt]
  simp [hr, h]

/-- HISTORIES: after ANY sequence of writes on ANY roles of ANY tree, role `s` is
    its original chain with exactly those writes replayed that were made on `s` or
    on an ancestor of `s`, each on the level it was made on (`replay`). -/
theorem C14_history_ancestors_only (t : Forest) (ws : List Write) (s : Addr) :
    chainAt (applyWrites t ws) s = (chainAt t s).map fun c => replay s c ws :=
  chainAt_applyWrites ws t s

/-- A history in which no write was made on `s` or above `s` does not exist for `s`:
    a write at role r changes the resolution at role s only if r is s or an ancestor of s. -/
theorem C14_history_untouched (t : Forest) (ws : List Write) (s : Addr) (h : untouched ws s = true) :
    chainAt (applyWrites t ws) s = chainAt t s := by
  rw [chainAt_applyWrites]
  cases chainAt t s with
  | none => rfl
  | some c => simp [replay_untouched s ws h c]

/-- Whole tree: the mechanism (mutate the tree write by write, then look at every role)
    yields the role descriptions the rule prescribes (`rolesReplayed`, what `Spec.writesOk` uses). -/
theorem C14_history_roles (t : Forest) (ws : List Write) (env : Path) (tmpl : Option (KV × KV)) :
    rolesAfter t ws env tmpl = rolesReplayed t ws env tmpl :=
  rolesAfter_eq_rolesReplayed t ws env tmpl

/-- … and so what the model of the code as it is observes at every role after a
    history is what the documented precedence demands of that role's own chain — all
    trees, all histories, special values setting none of the probed keys, no other class
    excluded. -/
theorem C14_history_meets_spec_code (keys : List String) (special : KV) (t : Forest) (ws : List Write)
    (env : Path) (tmpl : Option (KV × KV)) (hclear : ∀ k ∈ keys, lookup special k = none) :
    (rolesAfter t ws env tmpl).map (modelObs keys special) = (rolesReplayed t ws env tmpl).map (expected keys) := by
  rw [C14_history_roles]
  apply List.map_congr_left
  intro r _
  exact C14_model_meets_spec_code keys special r hclear

/-- The same for either configuration under the hypothesis of
    `C14_model_meets_spec_partial` (what held of the code as it was). -/
theorem C14_history_meets_spec_partial (cfg : TaskCfg) (keys : List String) (special : KV) (t : Forest) (ws : List Write)
    (env : Path) (tmpl : Option (KV × KV)) (hclear : ∀ k ∈ keys, lookup special k = none)
    (hyp : ∀ r ∈ rolesReplayed t ws env tmpl, tmplOrderIrrelevant keys r = true) :
    (rolesAfter t ws env tmpl).map (modelObsOf cfg keys special) = (rolesReplayed t ws env tmpl).map (expected keys) := by
  rw [C14_history_roles]
  apply List.map_congr_left
  intro r hr
  exact C14_model_meets_spec_partial cfg keys special r hclear (hyp r hr)

/-- `caseOk` accepts the list of expected observations … -/
theorem C14_caseOk_expected (keys : List String) (rs : List RoleIn) :
    caseOk keys rs (rs.map (expected keys)) = true :=
  caseOk_expected keys rs

/-- … hence the observation the model of the code as it is makes of a loaded tree after
    any history satisfies `Spec.writesOk` — whenever the special values set none of the
    probed keys. -/
theorem C14_history_writesOk_code (keys : List String) (special : KV) (t : Forest) (ws : List Write)
    (env : Path) (tmpl : Option (KV × KV)) (hclear : ∀ k ∈ keys, lookup special k = none) :
    writesOk keys t ws env tmpl ((rolesAfter t ws env tmpl).map (modelObs keys special)) = true := by
  rw [C14_history_meets_spec_code keys special t ws env tmpl hclear]
  exact C14_caseOk_expected keys _

/-- Either configuration, under the hypothesis of the partial theorem. -/
theorem C14_history_writesOk_partial (cfg : TaskCfg) (keys : List String) (special : KV) (t : Forest) (ws : List Write)
    (env : Path) (tmpl : Option (KV × KV)) (hclear : ∀ k ∈ keys, lookup special k = none)
    (hyp : ∀ r ∈ rolesReplayed t ws env tmpl, tmplOrderIrrelevant keys r = true) :
    writesOk keys t ws env tmpl ((rolesAfter t ws env tmpl).map (modelObsOf cfg keys special)) = true := by
  rw [C14_history_meets_spec_partial cfg keys special t ws env tmpl hclear hyp]
  exact C14_caseOk_expected keys _

/-- What role `s` SEES after `SetRuntimeVar(k, v)` on the `i`-th role of its chain
    (itself or an ancestor): for `k`, a user var of a role nearer to `s` still wins,
    otherwise `v` — above every user var further up, every var, every default and the
    environment; every other key resolves as before. -/
theorem C14_set_seen_in_subtree (c : List Node) (env : Path) (i : Nat) (hi : i < c.length) (k v k' : String) :
    lookup (consolidated (pathOf (modUser (Op.set k v).apply c i) env)) k' =
      if k = k' then orElse (get (uChain (pathOf (c.drop (i + 1)) [])) k) (some v)
      else lookup (consolidated (pathOf c env)) k' := by
  rw [lookup_consolidated, lookup_consolidated, get_ranked_modUser _ c env i hi, get_ranked_pathOf c env i hi]
  by_cases h : k = k'
  · subst h
    simp only [Op.apply, lookup_set, if_true]
    cases get (uChain (pathOf (c.drop (i + 1)) [])) k <;> rfl
  · simp only [Op.apply, lookup_set, h, if_false]

/-- `DeleteRuntimeVar(k)` on the `i`-th role of the chain removes exactly that role's
    own definition: `s` then sees what the remaining sources say — nearer user vars,
    user vars further up (environment included), vars, defaults; other keys as before. -/
theorem C14_del_reveals_inherited (c : List Node) (env : Path) (i : Nat) (hi : i < c.length) (k k' : String) :
    lookup (consolidated (pathOf (modUser (Op.del k).apply c i) env)) k' =
      if k = k' then
        orElse (get (uChain (pathOf (c.drop (i + 1)) [])) k)
          (orElse (get (uChain (pathOf (c.take i) env)) k)
            (orElse (get (vChain (pathOf c env)) k) (get (dChain (pathOf c env)) k)))
      else lookup (consolidated (pathOf c env)) k' := by
  rw [lookup_consolidated, lookup_consolidated, get_ranked_modUser _ c env i hi, get_ranked_pathOf c env i hi]
  by_cases h : k = k'
  · subst h
    simp only [Op.apply, lookup_erase, if_true, orElse_none]
  · simp only [Op.apply, lookup_erase, h, if_false]

/-- The path `modelObs` is evaluated on IS the chain's levels, nearest first, then the environment. -/
theorem C14_role_path_is_chain (env : Path) (tmpl : Option (KV × KV)) (c : List Node) (r : RoleIn)
    (h : roleInOf env tmpl c = some r) : r.path = pathOf c env := by
  obtain ⟨r', hr', hp⟩ := roleInOf_isSome env tmpl c fun e => by subst e; cases h
  cases hr'.symm.trans h
  exact hp

/-- Sibling subtrees are isolated: a write on child `i` of a role (or anywhere it
    is the target) changes nothing at child `j ≠ i` of the same role nor below it. -/
theorem C14_sibling_subtrees_isolated (f : KV → KV) (t : Forest) (pre : Addr) (i j : Nat) (rest : Addr)
    (h : i ≠ j) : chainAt (updAt f t (pre ++ [i])) (pre ++ j :: rest) = chainAt t (pre ++ j :: rest) :=
  C14_write_frame f t _ _ (isAnc_sibling pre i j rest h)

/-- Iterator expansion: the `j`-th value of the range yields the `j`-th sibling — the
    template's own maps plus `var = value`, over the same (expanded) children; the
    instances ARE siblings, so by `C14_sibling_subtrees_isolated` a runtime variable
    written on one instance does not exist for the others. -/
theorem C14_iter_instances_are_siblings (var : String) (vals : List String) (n : Node) (kids next : TForest)
    (j : Nat) (hj : j < vals.length) (more : Addr) :
    chainAt (expand (.iter var vals n kids next)) (j :: more)
      = chainAt (.role (withIter n var vals[j]) (expand kids) .nil) (0 :: more) := by
  simp only [expand]
  exact chainAt_instances var n (expand kids) (expand next) vals j hj more

/-- … and the roles after the iterator keep their order behind the instances. -/
theorem C14_iter_then_next (var : String) (vals : List String) (n : Node) (kids next : TForest)
    (j : Nat) (more : Addr) :
    chainAt (expand (.iter var vals n kids next)) ((vals.length + j) :: more) = chainAt (expand next) (j :: more) := by
  simp only [expand]
  exact chainAt_instances_rest var n (expand kids) (expand next) vals j more

/-- The iteration variable is an own VAR of the instance (below its user vars,
    above every inherited var); the template's defaults and user vars do not change. -/
theorem C14_iter_var_is_own_var (n : Node) (var val k : String) :
    lookup (withIter n var val).own.vars k = (if var = k then some val else lookup n.own.vars k) ∧
    (withIter n var val).own.defaults = n.own.defaults ∧ (withIter n var val).own.userVars = n.own.userVars := by
  simp [withIter, lookup_set]

/-- `SetGlobalRuntimeVar` / `DeleteGlobalRuntimeVar` called on any role act on the
    root above it — an ancestor of every role under that root. -/
theorem C14_global_write_reaches_all (a : Nat) (x : Addr) (op : Op) (rest : Addr) :
    (Write.mk (a :: x) true op).target = [a] ∧ isAnc (Write.mk (a :: x) true op).target (a :: rest) = true := by
  simp [Write.target, isAnc]

/-! ## include roles and the load

  A node with `site := true` is the SITE of an include role (the maps written next to `include:`); its
  single child is the root of the included workflow = the include role after the load. `chainAt` /
  `pathOf` pass through the site as through any level, `preorder` (the roles) skips it. -/

/-- The model's placement of the loop that publishes iterator Locals as vars IS the code's: in every
    kind of role it is a statement of ProcessTemplates; the aggregator runs it before descending; the
    include role runs it BEFORE its composed aggregatorRole is replaced by the loaded root, loads the
    sub-workflow under itself, restores nothing but parent and name, and ends in the loaded root's
    own ProcessTemplates. Moving or dropping a loop, restoring more of the site: this breaks. -/
theorem C14_load_is_code :
    Gen.C14Load.localsPublished = [("aggregatorRole", codeLoad.plainPublishes), ("taskRole", codeLoad.plainPublishes),
      ("callRole", codeLoad.plainPublishes), ("includeRole", codeLoad.sitePublishesBeforeSwap)] ∧
    Gen.C14Load.aggregatorPublishesBeforeChildren = codeLoad.plainPublishes ∧
    Gen.C14Load.includePublishesBeforeSwap = codeLoad.sitePublishesBeforeSwap ∧
    Gen.C14Load.includeRestoredAfterSwap = ["parent", "Name"] ∧
    Gen.C14Load.includeLoadsUnderItself = true ∧ Gen.C14Load.includeEndsInLoadedRoot = true := by
  decide

/-- The load as the code performs it (Locals, published where `codeLoad` says) yields, for EVERY
    template — any nesting of roles, iterators, include roles, iterated include roles — the tree the
    rule reads off the template (`expand`, what `Spec.loadedOk` judges against). -/
theorem C14_load_is_expand (t : TForest) : load codeLoad t = expand t :=
  load_eq_expand codeLoad rfl t (.inl rfl)

/-- … and wherever the loop of the include role stands: a template in which no iterator has an
    include role as its template loads to the same tree (plain include roles, iterators over
    aggregator / task / call roles are indifferent to it). -/
theorem C14_load_indifferent_without_iterated_include (cfg : LoadCfg) (hp : cfg.plainPublishes = true) (t : TForest)
    (h : noIteratedSite t = true) : load cfg t = expand t :=
  load_eq_expand cfg hp t (.inr h)

/-- An include site is a LEVEL, not a role: the roles of the tree are the roles below it (first of
    all the included root, its only child here) and after it; every other node is a role. -/
theorem C14_include_site_is_no_role (n : Node) (kids next : Forest) (idx : Nat) (pre : Addr) :
    preorder (.role n kids next) idx pre =
      (if n.site then [] else [pre ++ [idx]]) ++ (preorder kids 0 (pre ++ [idx]) ++ preorder next (idx + 1) pre) :=
  rfl

/-- PRECEDENCE AROUND AN INCLUDE ROLE, per kind of map: for a role whose chain passes through an include
    role (site `s`, included root `r`; `pre` above, `below` below — `below = []` is the include role
    itself) the sources rank: the roles below, then the included root's own map, then the site's, then
    everything above the include role, the environment last. -/
theorem C14_include_root_over_site (pre below : List Node) (s r : Node) (env : Path) (k : String) :
    get (dChain (pathOf (pre ++ s :: r :: below) env)) k =
        orElse (get (dChain (pathOf below [])) k) (orElse (lookup r.own.defaults k)
          (orElse (lookup s.own.defaults k) (get (dChain (pathOf pre env)) k))) ∧
    get (vChain (pathOf (pre ++ s :: r :: below) env)) k =
        orElse (get (vChain (pathOf below [])) k) (orElse (lookup r.own.vars k)
          (orElse (lookup s.own.vars k) (get (vChain (pathOf pre env)) k))) ∧
    get (uChain (pathOf (pre ++ s :: r :: below) env)) k =
        orElse (get (uChain (pathOf below [])) k) (orElse (lookup r.own.userVars k)
          (orElse (lookup s.own.userVars k) (get (uChain (pathOf pre env)) k))) := by
  simp only [pathOf, dChain, vChain, uChain, List.reverse_append, List.reverse_cons, List.map_append, List.map_cons,
    List.append_assoc, List.cons_append, List.nil_append, List.append_nil, get_append, get_cons, and_self]

/-- What any role at or below an include role resolves: all user vars first (nearest first), then the
    vars — below, included root, site, above —, then the defaults in the same order. A var written at the
    include site beats every default of the included workflow and loses against its vars. -/
theorem C14_include_resolution (pre below : List Node) (s r : Node) (env : Path) (k : String) :
    lookup (consolidated (pathOf (pre ++ s :: r :: below) env)) k =
      orElse (get (uChain (pathOf (pre ++ s :: r :: below) env)) k)
        (orElse (orElse (get (vChain (pathOf below [])) k) (orElse (lookup r.own.vars k)
            (orElse (lookup s.own.vars k) (get (vChain (pathOf pre env)) k))))
          (orElse (get (dChain (pathOf below [])) k) (orElse (lookup r.own.defaults k)
            (orElse (lookup s.own.defaults k) (get (dChain (pathOf pre env)) k))))) := by
  obtain ⟨hd, hv, _⟩ := C14_include_root_over_site pre below s r env k
  rw [lookup_consolidated]
  simp only [ranked, get_append, hd, hv, orElse_eq_or, Option.or_assoc]

/-- ITERATION VARIABLE BELOW AN INSTANCE (any kind of template, include sites included): at a role whose
    chain passes through an instance generated for `var = val`, `var` resolves to: a user var of any
    level, else a var of a role NEARER than the instance, else `val` — no var or default of the
    instance's ancestors, of the environment, of the template itself is consulted. -/
theorem C14_iter_var_seen_below (c : List Node) (env : Path) (i : Nat) (hi : i < c.length) (n : Node) (var val : String)
    (hc : c[i] = withIter n var val) :
    lookup (consolidated (pathOf c env)) var =
      orElse (get (uChain (pathOf c env)) var) (orElse (get (vChain (pathOf (c.drop (i + 1)) [])) var) (some val)) := by
  rw [lookup_consolidated]
  simp only [ranked, get_append, get_vChain_withIter c env i hi n var val hc, orElse_eq_or, Option.or_assoc]
  cases get (uChain (pathOf c env)) var <;> cases get (vChain (pathOf (List.drop (i + 1) c) [])) var <;> rfl

/-- … so where nothing nearer and no user var defines it, every role below the instance sees the
    instance's own value: two instances with different values never resolve it alike. -/
theorem C14_iter_var_unshadowed (c : List Node) (env : Path) (i : Nat) (hi : i < c.length) (n : Node) (var val : String)
    (hc : c[i] = withIter n var val) (hu : get (uChain (pathOf c env)) var = none)
    (hv : get (vChain (pathOf (c.drop (i + 1)) [])) var = none) :
    lookup (consolidated (pathOf c env)) var = some val := by
  rw [C14_iter_var_seen_below c env i hi n var val hc, hu, hv]; rfl

/-- ITERATED INCLUDE ROLE: the `j`-th value of the range yields the `j`-th sibling; every role of that
    sibling — the include role `j :: 0`, the roles of the included workflow `j :: 0 :: more` — has the
    SITE carrying `var = vals[j]` in its chain right above the included root, over the same expanded
    sub-workflow for all instances. -/
theorem C14_iterated_include_instance (var : String) (vals : List String) (site root : Node) (kids next : TForest)
    (j : Nat) (hj : j < vals.length) (more : Addr) :
    chainAt (expand (.iter var vals site (.role root kids .nil) next)) (j :: 0 :: more) =
      (chainAt (.role root (expand kids) .nil) (0 :: more)).map (withIter site var vals[j] :: ·) := by
  rw [C14_iter_instances_are_siblings var vals site (.role root kids .nil) next j hj (0 :: more)]
  simp only [expand, chainAt]

/-- … hence inside the `j`-th instance of an iterated include role, at the include role and at every
    role of the included workflow, the iteration variable resolves to `vals[j]` unless a user var of any
    level or a var of the included workflow itself (its root or a role between the root and the observer)
    defines it — whatever vars and defaults the including workflow, its ancestors or the environment
    define for that name. -/
theorem C14_iterated_include_sees_own_value (var : String) (vals : List String) (site root : Node) (kids next : TForest)
    (j : Nat) (hj : j < vals.length) (more : Addr) (c : List Node) (env : Path)
    (hc : chainAt (expand (.iter var vals site (.role root kids .nil) next)) (j :: 0 :: more) = some c) :
    lookup (consolidated (pathOf c env)) var =
      orElse (get (uChain (pathOf c env)) var) (orElse (get (vChain (pathOf (c.drop 1) [])) var) (some vals[j])) := by
  rw [C14_iterated_include_instance var vals site root kids next j hj more] at hc
  cases hin : chainAt (.role root (expand kids) .nil) (0 :: more) with
  | none => simp [hin] at hc
  | some c' =>
    simp only [hin, Option.map_some, Option.some.injEq] at hc
    subst hc
    exact C14_iter_var_seen_below _ env 0 (by simp) site var vals[j] rfl

/-- The template as the rule reads it, loaded as the code loads it, observed after ANY history of
    runtime writes satisfies `Spec.loadedOk` — all templates (iterators, include roles, iterated and
    nested include roles), all histories, all environments, special values setting none of the
    probed keys. -/
theorem C14_loaded_meets_spec (keys : List String) (special : KV) (tf : TForest) (ws : List Write)
    (env : Path) (tmpl : Option (KV × KV)) (hclear : ∀ k ∈ keys, lookup special k = none) :
    loadedOk keys tf ws env tmpl ((rolesAfter (load codeLoad tf) ws env tmpl).map (modelObs keys special)) = true := by
  rw [C14_load_is_expand]
  exact C14_history_writesOk_code keys special (expand tf) ws env tmpl hclear

/-- WHY the include role must publish its Locals BEFORE it replaces its maps: the workflow `root`
    (vars `slot = root-slot`) with `sub-{{ slot }}` for slot in 1, 2 including a sub-workflow with one call
    role `leaf`. As the code loads it, `leaf` of instance j sees `slot = j`. With the loop left to
    aggregatorRole.ProcessTemplates (`lateLoad`: it then iterates the LOADED root's empty Locals) both
    leaves — and both include roles — see the root's `root-slot`: a farther definition wins, and the
    instances are indistinguishable. Iterators over a plain aggregator are unaffected. -/
theorem C14_include_must_publish_before_swap :
    let lv (v : KV) : Level := { defaults := [], vars := v, userVars := [] }
    let plain (v : KV) : Node := { own := lv v, locals := [], task := false }
    let leaf : TForest := .role (plain []) .nil .nil
    let tf : TForest := .role (plain [("slot", "root-slot")])
      (.iter "slot" ["1", "2"] { own := lv [], locals := [], task := false, site := true } (.role (plain []) leaf .nil)
        (.iter "slot" ["1", "2"] (plain []) leaf .nil)) .nil
    let see (cfg : LoadCfg) (a : Addr) : Option String :=
      ((chainAt (load cfg tf) a).map fun c => lookup (consolidated (pathOf c [])) "slot").join
    (preorder (load codeLoad tf) 0 []).length = 9 ∧
    [[0, 0, 0], [0, 0, 0, 0], [0, 1, 0], [0, 1, 0, 0]].map (see codeLoad) = [some "1", some "1", some "2", some "2"] ∧
    [[0, 0, 0], [0, 0, 0, 0], [0, 1, 0], [0, 1, 0, 0]].map (see lateLoad)
      = [some "root-slot", some "root-slot", some "root-slot", some "root-slot"] ∧
    [[0, 2, 0], [0, 3, 0]].map (see lateLoad) = [some "1", some "2"] := by
  decide

/-! ## what the environment itself writes on its transitions

  `envWriteTable` = every write of core/environment to the maps its workflow resolves against, as rows
  (context, guards, target level, KIND of map, set/del, key, value source); `fire` interprets the rows of
  the four FSM callbacks, `create` those of newEnvironment; `snapshots` = the environment after creation and
  after every item of a schedule of transitions and runtime writes. -/

/-- The model's table IS the go/ast enumeration of the code: every write site, in source order, with its
    context, conditions, target, kind, key and value source. Publishing a key through another kind of map
    (`SetRuntimeVar` instead of `GetVars().Set`, …), a new write, a changed condition: this breaks. -/
theorem C14_env_writes_are_code : envWriteTable.map EnvWrite.code = Gen.C14EnvWrites.table := by
  rfl

/-- Every key the environment writes is written to the kind of map documented for it (`Spec.docKind`):
    run number, last run number, cleanup counter and configuration-store copies are vars; the run time
    stamps, state entry time, task results, requesting user and environment id are user kind. -/
theorem C14_env_write_kinds_documented : ∀ w ∈ envWriteTable, docKind w.key = some w.kind := by
  decide +kernel

/-- Hence the documented table (what `Spec.envOk` replays) is the code's table. -/
theorem C14_env_doc_table_is_code : docTable = envWriteTable :=
  (List.map_congr_left fun w hw => by rw [C14_env_write_kinds_documented w hw]; rfl).trans (List.map_id _)

/-- The rule behind the kinds, by VALUE SOURCE rather than by key name: whatever the environment copies
    out of the configuration store (`env.BaseConfigStack[…]`) it publishes as a VAR of the root role —
    the rank of an ancestor's var, below every user var of every level. -/
theorem C14_store_copies_are_vars :
    ∀ w ∈ envWriteTable, (match w.src with | .store _ => true | _ => false) = true → w.kind = .vars ∧ w.tgt = .root := by
  decide

/-- The only user-kind writes of the environment on the root role or on itself carry the run-time keys. -/
theorem C14_env_user_writes_are_runtime_keys : envWriteTable.all (rowOk runtimeUserKeys) = true := by
  decide +kernel

/-- The FSM callbacks and newEnvironment write on the root role and on the environment-wide maps only. -/
theorem C14_env_callbacks_write_root_or_env :
    ∀ w ∈ envWriteTable, w.ctx ∈ ["newEnvironment", "before_event", "leave_state", "enter_state", "after_event"] →
      w.tgt ≠ .role := by
  decide +kernel

/-- FRAME for transitions: whatever the state, the event, the outcome of the task-level body — for every
    key but the run-time keys, the user-var hierarchy of EVERY role (the role, its ancestors, the
    environment) says after the transition what it said before. -/
theorem C14_env_transition_keeps_user_vars (ev : EnvM.Ev) (bodyOk : Bool) (s : EnvSt) (a : Addr) (k : String)
    (hk : runtimeUserKeys.contains k = false) :
    userView (fire envWriteTable ev bodyOk s).1 a k = userView s a k :=
  userView_of_UEq (UEq_fire runtimeUserKeys k hk envWriteTable C14_env_user_writes_are_runtime_keys ev bodyOk s) a

/-- USER-SUPPLIED OUTRANKS CONFIGURATION-STORE COPIES: a role that resolves `k` (not a run-time key) from a
    user var (its own, an ancestor's, or one the user gave the environment) before a transition resolves it
    to the same value after the transition — START_ACTIVITY with the store defining `k` included. -/
theorem C14_user_supplied_outranks_store (ev : EnvM.Ev) (bodyOk : Bool) (s : EnvSt) (a : Addr) (c : List Node) (k v : String)
    (hk : runtimeUserKeys.contains k = false) (hc : chainAt s.t a = some c)
    (hv : get (uChain (pathOf c [s.envLv])) k = some v) :
    ∃ c', chainAt (fire envWriteTable ev bodyOk s).1.t a = some c' ∧
      lookup (consolidated (pathOf c' [(fire envWriteTable ev bodyOk s).1.envLv])) k = some v := by
  have h := C14_env_transition_keeps_user_vars ev bodyOk s a k hk
  simp only [userView, hc, Option.map_some] at h
  cases hc' : chainAt (fire envWriteTable ev bodyOk s).1.t a with
  | none => simp [hc'] at h
  | some c' =>
    simp only [hc', Option.map_some, Option.some.injEq] at h
    exact ⟨c', rfl, consolidated_of_user _ k v (h.trans hv)⟩

/-- WHOLE RUNS: the user supplies `k = v` at environment creation (`k` not a run-time key, no role / call /
    plugin writes `k` during the run). Then at every moment — after creation, after every transition, legal
    or not, completed or failed, after every runtime write — EVERY role resolves `k` to a user-kind value:
    the one its user-var hierarchy gave right after the load, whatever the configuration store holds. -/
theorem C14_env_run_user_value_wins (sd sv u : KV) (t : Forest) (items : List Item) (k v : String)
    (hk : runtimeUserKeys.contains k = false) (hitems : items.all (Item.avoids k) = true) (hu : lookup u k = some v) :
    ∀ p ∈ snapshots envWriteTable sd sv u t items, ∀ a c, chainAt p.1.t a = some c →
      ∃ x, lookup (consolidated (pathOf c [p.1.envLv])) k = some x ∧
        userView (create envWriteTable sd sv u t) a k = some (some x) :=
  user_value_wins runtimeUserKeys k hk envWriteTable C14_env_user_writes_are_runtime_keys sd sv u t items hitems v hu

/-- The model's record of one moment (the triple `snapSx` of Driver/C14 prints). -/
def C14.modelSnap (keys : List String) (special : KV) (tmpl : Option (KV × KV)) (p : EnvSt × String) : SnapObs :=
  { state := p.1.st.name, res := p.2, roles := (p.1.roles tmpl).map (modelObs keys special) }

/-- What the model of the code as it is observes over a whole run of an environment satisfies
    `Spec.envOk` — at every moment every role shows what the precedence rule demands with the
    environment's writes on their documented kinds, and no user-supplied value is ever displaced — for ALL
    stores, user inputs, workflows and schedules, the probed keys containing every key the user supplies
    and none the special values set. -/
theorem C14_env_run_envOk (keys : List String) (special : KV) (sd sv u : KV) (t : Forest) (items : List Item)
    (tmpl : Option (KV × KV)) (hclear : ∀ k ∈ keys, lookup special k = none) (hkeys : ∀ k ∈ u.map (·.1), k ∈ keys) :
    envOk keys sd sv u t items tmpl ((snapshots envWriteTable sd sv u t items).map (C14.modelSnap keys special tmpl)) = true := by
  unfold envOk
  rw [C14_env_doc_table_is_code, Bool.and_eq_true]
  exact ⟨snapsOk_expected keys tmpl _
      (fun p => List.map_congr_left fun r _ => C14_model_meets_spec_code keys special r hclear) _,
    userStable_snapshots envWriteTable C14_env_user_writes_are_runtime_keys keys special sd sv u t items tmpl hkeys _
      (fun _ => rfl)⟩

/-- The kind is what the property hangs on: the SAME rows with the configuration-store copies published as
    user vars of the root (`SetRuntimeVar` instead of `GetVars().Set`) violate the hypothesis of the frame
    theorem, and a user-supplied value IS displaced — store `lhc_period = LHCstore`, user
    `lhc_period = LHCuser`, DEPLOY, CONFIGURE, START_ACTIVITY: from START on the root resolves `LHCstore`. -/
theorem C14_env_needs_store_copies_as_vars :
    let bad := envWriteTable.map fun w => match w.src with
      | .store _ => { w with kind := MapKind.user }
      | _ => w
    let root : Forest := .role { own := { defaults := [], vars := [], userVars := [] }, locals := [], task := false } .nil .nil
    let run (table : List EnvWrite) := snapshots table [] [("lhc_period", "LHCstore")] [("lhc_period", "LHCuser")] root
      [.trans .DEPLOY true, .trans .CONFIGURE true, .trans .START_ACTIVITY true]
    let seen (table : List EnvWrite) := (run table).map fun p =>
      ((chainAt p.1.t [0]).map fun c => lookup (consolidated (pathOf c [p.1.envLv])) "lhc_period").join
    bad.all (rowOk runtimeUserKeys) = false ∧
    seen bad = [some "LHCuser", some "LHCuser", some "LHCuser", some "LHCstore"] ∧
    seen envWriteTable = [some "LHCuser", some "LHCuser", some "LHCuser", some "LHCuser"] := by
  decide +kernel

/-- A realistic path: task role under an aggregator under the root, environment
    last. `detector` is a default at the root, overridden by vars at the
    aggregator and by a user var at the root; `cfg` is a global default that the
    aggregator's vars blank out — the task sees the blank. -/
example :
    let task : Level := { defaults := [("n", "1")], vars := [], userVars := [] }
    let agg : Level := { defaults := [], vars := [("detector", "TPC"), ("cfg", "")], userVars := [] }
    let root : Level := { defaults := [("detector", "ITS"), ("n", "4")], vars := [], userVars := [("detector", "MFT")] }
    let env : Level := { defaults := [("cfg", "consul://x")], vars := [], userVars := [("user", "flp")] }
    let p := [task, agg, root, env]
    lookup (consolidated p) "detector" = some "MFT" ∧ lookup (consolidated p) "cfg" = some "" ∧
    lookup (consolidated p) "n" = some "1" ∧ lookup (consolidated p) "user" = some "flp" ∧
    lookup (consolidated p) "nope" = none := by
  decide

/-- An environment's life: the configuration store says `lhc_period = LHCstore` (vars) and
    `pdp_n_hbf_per_tf = 128` (defaults), the user supplies `lhc_period = LHCuser`; workflow root → sub → call.
    DEPLOY, CONFIGURE, START_ACTIVITY, STOP_ACTIVITY: five moments. The call role sees the user's `lhc_period`
    at every moment; `pdp_n_hbf_per_tf` (no user value) is the store's; the run number exists while RUNNING
    and becomes `last_run_number`; the cleanup counter counts; time stamps are user vars of the root. -/
example :
    let leaf : TForest := .role { own := { defaults := [], vars := [], userVars := [] }, locals := [], task := false } .nil .nil
    let tf : TForest := .role { own := { defaults := [], vars := [], userVars := [] }, locals := [], task := false }
      (.role { own := { defaults := [], vars := [], userVars := [] }, locals := [], task := false } leaf .nil) .nil
    let snaps := snapshots envWriteTable [("pdp_n_hbf_per_tf", "128")] [("lhc_period", "LHCstore")] [("lhc_period", "LHCuser")]
      (expand tf) [.trans .DEPLOY true, .trans .CONFIGURE true, .trans .START_ACTIVITY true, .trans .STOP_ACTIVITY true]
    let see (i : Nat) (k : String) : Option String :=
      (snaps[i]?).bind fun p => ((chainAt p.1.t [0, 0, 0]).map fun c => lookup (consolidated (pathOf c [p.1.envLv])) k).join
    snaps.map (·.1.st.name) = ["STANDBY", "DEPLOYED", "CONFIGURED", "RUNNING", "CONFIGURED"] ∧
    (List.range 5).map (see · "lhc_period") = List.replicate 5 (some "LHCuser") ∧
    (List.range 5).map (see · "pdp_n_hbf_per_tf") = List.replicate 5 (some "128") ∧
    (List.range 5).map (see · "run_number") = [none, none, none, some "1", none] ∧
    see 4 "last_run_number" = some "1" ∧ see 3 "__fmq_cleanup_count" = some "1" ∧
    see 3 "run_end_time_ms" = some "" ∧ see 4 "run_end_time_ms" = some "T" ∧
    (snaps[3]?).map (fun p => lookup p.1.t.rootLevel.vars "lhc_period") = some (some "LHCstore") ∧
    (snaps[3]?).map (fun p => lookup p.1.t.rootLevel.userVars "lhc_period") = some none := by
  decide +kernel

/-- Contrast: WITHOUT `WithOverride` the empty-is-a-definition clause would fail —
    a child's empty value would lose against the parent's non-empty one. -/
example : lookup (mergo false [("k", "parent")] [("k", "")]) "k" = some "parent" := by decide

/-- The scenario of a call returning a value inside an iterated role: root (default
    `result`) over an iterator `host-{{ it }}` for a, b, each instance with a call role
    `hook` and a task role `readout`. `hook` of host-a gets `result` (SetRuntimeVar, as
    callable.Call does), host-a gets `flag`, some role calls SetGlobalRuntimeVar.
    host-a's subtree sees them; host-b, its hook and its readout see the root default,
    no `flag`, and the global value; `it` stays the instance's own value. -/
example :
    let leaf (task : Bool) : TForest → TForest := .role { own := { defaults := [], vars := [], userVars := [] }, locals := [], task := task } .nil
    let tf : TForest :=
      .role { own := { defaults := [("result", "from-root")], vars := [], userVars := [] }, locals := [], task := false }
        (.iter "it" ["a", "b"] { own := { defaults := [], vars := [("host_var", "hv")], userVars := [] }, locals := [], task := false }
          (leaf false (leaf true .nil)) .nil) .nil
    let ws : List Write := [⟨[0, 0, 0], false, .set "result" "returned-on-a"⟩, ⟨[0, 0], false, .set "flag" "a-only"⟩,
                            ⟨[0, 1, 1], true, .set "run" "42"⟩]
    let see (a : Addr) (k : String) : Option String :=
      ((chainAt (applyWrites (expand tf) ws) a).map fun c => lookup (consolidated (pathOf c [])) k).join
    (preorder (expand tf) 0 []).length = 7 ∧
    see [0, 0, 0] "result" = some "returned-on-a" ∧ see [0, 0, 1] "result" = some "from-root" ∧
    see [0, 0, 1] "flag" = some "a-only" ∧
    see [0, 1] "result" = some "from-root" ∧ see [0, 1, 0] "result" = some "from-root" ∧ see [0, 1, 1] "result" = some "from-root" ∧
    see [0, 1] "flag" = none ∧ see [0, 1, 0] "flag" = none ∧ see [0, 1, 1] "flag" = none ∧
    see [0, 0, 0] "run" = some "42" ∧ see [0, 1, 0] "run" = some "42" ∧ see [0] "run" = some "42" ∧
    see [0, 0, 1] "it" = some "a" ∧ see [0, 1, 1] "it" = some "b" ∧
    untouched ws [0, 1, 0] = false ∧ untouched (ws.take 2) [0, 1, 0] = true := by
  decide +kernel

/-- An include role with opinions on both sides: the including workflow `root` (default `detector = ITS`)
    has `dpl` = `include: sub` with vars `detector = TPC` and defaults `n = 4` written at the include
    site, and a plain task role next to it; `sub`'s root declares defaults `detector = MFT`, `n = 1` and
    has one task role. Inside the included workflow the site's VAR beats the included root's DEFAULT
    (kind first), the included root's default beats the site's default (nearest first); the neighbour
    sees neither. `SetRuntimeVar(detector, EMC)` on the include role (address `[0,0,0]`: the site is a
    step, not a role) reaches the included workflow only. The tree has 4 roles, the site is none. -/
example :
    let nd (d v : KV) (task site : Bool) : Node :=
      { own := { defaults := d, vars := v, userVars := [] }, locals := [], task := task, site := site }
    let tf : TForest :=
      .role (nd [("detector", "ITS")] [] false false)
        (.role (nd [("n", "4")] [("detector", "TPC")] false true)
          (.role (nd [("detector", "MFT"), ("n", "1")] [] false false) (.role (nd [] [] true false) .nil .nil) .nil)
          (.role (nd [] [] true false) .nil .nil)) .nil
    let see (ws : List Write) (a : Addr) (k : String) : Option String :=
      ((chainAt (applyWrites (load codeLoad tf) ws) a).map fun c => lookup (consolidated (pathOf c [])) k).join
    let w : List Write := [⟨[0, 0, 0], false, .set "detector" "EMC"⟩]
    preorder (load codeLoad tf) 0 [] = [[0], [0, 0, 0], [0, 0, 0, 0], [0, 1]] ∧
    see [] [0, 0, 0, 0] "detector" = some "TPC" ∧ see [] [0, 0, 0] "detector" = some "TPC" ∧
    see [] [0, 0, 0, 0] "n" = some "1" ∧ see [] [0, 1] "detector" = some "ITS" ∧ see [] [0, 1] "n" = none ∧
    see w [0, 0, 0, 0] "detector" = some "EMC" ∧ see w [0, 1] "detector" = some "ITS" ∧ see w [0] "detector" = some "ITS" := by
  decide
