/-
  Props/C15 — "Loading a workflow is deterministic and prunes disabled roles".

  Tie to /repo: the correspondence run (harness/props/c15) executes the real
  ProcessTemplates on generated YAML under all 8 settings of the three concurrency switches
  and compares the whole processed tree with `Load.load`; `Gen.loadGoroutines` is extracted
  with go/ast on every run and identified below with what the interleaving model assumes.

  Configurations. Three statements of the property were FALSE of the code (findings
  iterator_enabled_expr, hollow_iterator, enabled_error_masked). Two repairs in /repo removed
  them (notes/C15.fix-1.patch: `iteratorRole.IsEnabled()` = "still holds a generated role";
  notes/C15.fix-2.patch: the stage-0 callback passes a template error on). `Load.codeCfg` is
  the code as it is — tied to the source by `C15_pruning_is_code` —, `Load.legacyCfg` the
  code as it was. The three statements stay visible as `def …_full (cfg) : Prop`; they are
  PROVED for `codeCfg` (`C15_*_code`, all templates), still refuted for `legacyCfg` on the
  concrete witnesses (`C15_finding_*`), and the `…_partial` theorems (excluding hypothesis
  spelled out) hold for both, as does every theorem that takes `cfg`.
-/
import ControlModel.Gen.LoadFacts
import ControlModel.Proofs.Load

open Load

variable {cfg : Cfg}

/-- What the interleaving model relies on, per `go func` of the template processing:
    the switch that enables it; the captured variables it assigns — only the error
    accumulator (`roleErrors`, and the enclosing function's `err`, which is overwritten from the
    accumulator after `wg.Wait()`) and, in the expansion, the goroutine's OWN slot
    `roles[rangeIdx]`; everything else goes through calls on the goroutine's own child role
    (`role.ProcessTemplates`, `role.setParent`) or on the read-only template
    (`generateRole` copies). No goroutine takes a lock: the accumulator is NOT
    mutex-protected (a data race on `roleErrors`/`err`; only its nil-ness is used afterwards). -/
def Load.expectedGoroutines : List (String × String × List String × List String × Bool) := [
  ("aggregatorRole.ProcessTemplates", "concurrentWorkflowTemplateProcessing", ["roleErrors"],
    ["multierror.Append", "role.ProcessTemplates", "role.setParent", "wg.Done"], false),
  ("iteratorRole.ProcessTemplates", "concurrentWorkflowTemplateIteratorProcessing", ["err", "roleErrors"],
    ["multierror.Append", "role.ProcessTemplates", "wg.Done"], false),
  ("iteratorRole.expandTemplate", "concurrentIteratorRoleExpansion", ["err", "roleErrors", "roles[rangeIdx]"],
    ["i.For.GetVar", "i.template.generateRole", "make", "multierror.Append", "wg.Done"], false)
]

/-- The goroutines of the code, as extracted, are the ones the model was written for:
    three switches, writes only to the error accumulator and the goroutine's own slot. -/
theorem C15_goroutines_is_code : Gen.loadGoroutines = Load.expectedGoroutines := rfl

def Load.posOf (x : String) : List String → Option Nat
  | [] => none
  | y :: ys => if y = x then some 0 else (Load.posOf x ys).map (· + 1)

/-- The steps of `includeRole.ProcessTemplates` the model of an include role is written for, in
    source order: its own template sequence (Locals on the VarStack), the Locals written to its
    Vars, `enabled` trimmed, return when disabled (the sub-workflow is not even looked up),
    `loadSubworkflow(include, r)` (the loaded root's maps wrap the role's own), the replacement of
    the composed aggregatorRole by the loaded root, `parent` and `Name` put back, the loaded root's
    own `ProcessTemplates`. -/
def Load.expectedIncludeSteps : List String :=
  ["sequence", "publish-locals", "trim-enabled", "return-if-disabled", "load-under-self", "swap",
   "restore:parent", "restore:Name", "descend-into-loaded-root"]

/-- Reading of three source facts as a configuration of the model: what `iteratorRole.IsEnabled()`
    returns, under which conditions `MakeDisabledRoleCallback` replaces the error of a stage by
    `RoleDisabledError`, and whether the include role publishes its Locals before the swap (the position
    of the two steps in `inclSteps`). Anything but the two known shapes of each spot reads as `none`. -/
def Load.cfgOfSource (iterIsEnabled : String) (guards : List String) (inclSteps : List String) : Option Cfg :=
  let late : Option Bool :=
    match Load.posOf "publish-locals" inclSteps, Load.posOf "swap" inclSteps with
    | some p, some s => some (decide (s < p))
    | _, _ => none
  let byRaw : Option Bool :=
    if iterIsEnabled = "len(i.Roles) > 0" then some false
    else if iterIsEnabled = "i.template.IsEnabled()" then some true
    else none
  let mask : Option Bool :=
    if guards = ["stage == template.STAGE0 && err == nil", "!r.IsEnabled()"] then some false
    else if guards = ["stage == template.STAGE0", "!r.IsEnabled()"] then some true
    else none
  match mask, byRaw, late with
  | some m, some r, some l => some { maskEnabledError := m, iterByRawText := r, inclPublishLate := l }
  | _, _, _ => none

/-- The code, as extracted, is `codeCfg`: an iterator counts as enabled iff it still holds a
    generated role, and the stage-0 callback reports "role disabled" only when evaluating
    `enabled` succeeded. Moreover the two spots the model takes as they are: both
    `ProcessTemplates` keep exactly the children with `IsEnabled()`, and an aggregator disables
    itself iff `len(r.Roles) == 0` (`aggOut`). (Reverting either repair in /repo breaks this.) -/
theorem C15_pruning_is_code :
    Load.cfgOfSource Gen.loadIteratorIsEnabled Gen.loadDisabledRoleGuards Gen.loadIncludeSteps = some codeCfg ∧
    Gen.loadChildFilters = [("aggregatorRole", "role.IsEnabled()"), ("iteratorRole", "role.IsEnabled()")] ∧
    Gen.loadSelfDisable = "len(r.Roles) == 0" := ⟨by decide +kernel, rfl, rfl⟩

/-- …and the source as it was before the two repairs reads as `legacyCfg`. -/
theorem C15_legacy_is_former_code :
    Load.cfgOfSource "i.template.IsEnabled()" ["stage == template.STAGE0", "!r.IsEnabled()"] Load.expectedIncludeSteps =
      some legacyCfg := by decide +kernel

/-- The include role of the code, as extracted, is the one `proc` models (`inclHdr`, `docHdr`):
    the steps and their ORDER — in particular the iterator Locals are written to the role's Vars
    BEFORE the composed aggregatorRole (Locals and Vars included) is replaced by the loaded root
    —, the `include:` expression is a stage-4 field next to the name, and the role's own sequence
    runs with its Locals on the VarStack. -/
theorem C15_include_steps_is_code :
    Gen.loadIncludeSteps = Load.expectedIncludeSteps ∧ Gen.loadIncludeStage4 = ["&r.Name", "&r.Include"] ∧
    Gen.loadIncludeSequenceLocals = "r.Locals" := ⟨rfl, rfl, rfl⟩

/-- …and the order with the publishing loop after the replacement reads as `lateInclCfg`, which is
    NOT what the property wants (`C15_include_must_publish_before_swap`). -/
theorem C15_late_publication_is_not_code :
    Load.cfgOfSource Gen.loadIteratorIsEnabled Gen.loadDisabledRoleGuards
      ["sequence", "trim-enabled", "return-if-disabled", "load-under-self", "swap", "restore:parent", "restore:Name",
       "publish-locals", "descend-into-loaded-root"] = some lateInclCfg ∧ lateInclCfg ≠ codeCfg :=
  ⟨by decide +kernel, by decide⟩

/-- Whatever the interleaving of the children's goroutines (any sequence of scheduler
    decisions: run the first pending role of any pending sibling group, or let any later
    sibling go first), the concurrent load yields exactly what `load` yields — same roles,
    order, names, variables, constraints, channels, traits, or the same failure. -/
theorem C15_schedule_indep (sched : List Step) (t : Tmpl) : loadConc cfg sched t = load cfg t :=
  loadConc_eq sched t

/-- Stronger form on the machine state: no scheduler decision taken from ANY reachable
    partial tree changes the final outcome (the invariant behind `C15_schedule_indep`). -/
theorem C15_step_invariant (s : PT) (sched : List Step) : finish cfg (run cfg s sched) = finish cfg s :=
  finish_run s sched

/-- The sequential code path (first error returns, later siblings are never processed)
    computes the same as the accumulating concurrent one. -/
theorem C15_sequential_eq_concurrent (t : Tmpl) : loadSeq cfg t = load cfg t := loadSeq_eq t

/-- Same template + same variables ⇒ same result under every setting of the three
    switches and every schedule. -/
theorem C15_deterministic (sw sw' : Switches) (sched sched' : List Step) (t : Tmpl) :
    loadWith cfg sw sched t = loadWith cfg sw' sched' t := by
  rw [loadWith_eq, loadWith_eq]

/-- A role whose `enabled` evaluates to anything but true/1 is absent together with its
    whole subtree: the sibling list is processed as if the role were not written — whatever
    its children, variables or other fields contain (they are never evaluated). -/
theorem C15_pruned (ctx : Ctx) (loc : Env) (h : Hdr) (en : String)
    (he : evalField (ctx.look loc) h.enabled = some en) (hf : truthy en = false) :
    (∀ kids next, proc cfg ctx loc (.agg h kids next) = proc cfg ctx loc next) ∧
    (∀ x c next, proc cfg ctx loc (.task h x c next) = proc cfg ctx loc next) ∧
    (∀ x c next, proc cfg ctx loc (.call h x c next) = proc cfg ctx loc next) := by
  have hd : ∀ x, procHdr ctx loc h x = .disabled := fun x => procHdr_disabled he hf
  exact ⟨fun _ _ => by rw [proc_agg, hd]; exact Out.empty_seq _, fun _ _ _ => by rw [proc_task, hd]; exact Out.empty_seq _,
    fun _ _ _ => by rw [proc_call, hd]; exact Out.empty_seq _⟩

/-- Every role left in a loaded tree has an `enabled` that reads true/1 (all templates). -/
theorem C15_only_enabled_remain (t : Tmpl) : (load cfg t).all allEnabled = true :=
  loaded_all (allEnabled_flatten _ (proc_allEnabled t {} []))

/-- An enabled aggregator all of whose children were pruned disappears itself. -/
theorem C15_empty_agg_gone (ctx : Ctx) (loc : Env) (h : Hdr) (kids next : Tmpl) (i : Info) (c' : Ctx) (ex : List String)
    (hh : procHdr ctx loc h [] = .ok i c' ex) (hk : (proc cfg c' [] kids).f = .nil) :
    (proc cfg ctx loc (.agg h kids next)).f = (proc cfg ctx loc next).f := by
  rw [proc_agg, hh, roleOut_ok, Out.seq_f, aggOut_f, hk]; rfl

/-- In the tree as the code stores it (iterator nodes are members of `Roles`) no aggregator
    has an empty `Roles` — for every template. -/
theorem C15_no_empty_roles (ctx : Ctx) (loc : Env) (t : Tmpl) : noEmptyAgg (proc cfg ctx loc t).f = true :=
  proc_noEmptyAgg t ctx loc

/-- FULL-STRENGTH statement (true of the code as it is: `C15_empty_agg_gone_code`; false of the
    code as it was: `C15_finding_hollow_iterator`): in the loaded tree, as `GetRoles` shows it, no
    aggregator is without roles. -/
def C15_empty_agg_gone_full (cfg : Cfg) : Prop := ∀ t : Tmpl, (load cfg t).all noEmptyAgg = true

/-- For every configuration: the same, for loads in which no aggregator was kept whose `Roles`
    held nothing but iterators that yielded no role (`ev.hollow = false`, a computable predicate
    of the template). -/
theorem C15_empty_agg_gone_partial (t : Tmpl) (h : (proc cfg {} [] t).ev.hollow = false) :
    (load cfg t).all noEmptyAgg = true :=
  loaded_all (proc_flat_noEmptyAgg t {} [] h)

/-- An iterator whose range evaluates to `vals` and which its parent keeps (`iterKeep`: for the
    code as it is, at least one generated role is left; for the code as it was, the template's
    raw `enabled` text reads true) is stored as ONE iterator node holding the concatenation, in
    range order, of what its template yields with the iteration variable bound to each element —
    nothing else, nothing reordered. -/
theorem C15_iterator_expansion (ctx : Ctx) (loc : Env) (rng : RangeT) (var : String) (body next : Tmpl) (vals : List String)
    (hr : evalRange ctx.lookRange rng = some vals)
    (hen : iterKeep cfg (rawEnabled body) (vals.foldr (fun v acc => (proc cfg ctx [(var, v)] body).f ++ acc) .nil) = true) :
    (proc cfg ctx loc (.iter rng var body next)).f =
      .iter (vals.foldr (fun v acc => (proc cfg ctx [(var, v)] body).f ++ acc) .nil) .nil ++ (proc cfg ctx loc next).f := by
  rw [proc_iter, hr, Out.seq_f, iterOut_f, fold_f, hen]; rfl

/-- THE CODE AS IT IS, no side condition: seen through `GetRoles` (iterator nodes transparent) an
    iterator whose range evaluates to `vals` contributes exactly the concatenation, in range
    order, of what its template yields per element — whatever the template's `enabled` looks
    like (it is each generated role's own `enabled`), also when nothing is left. -/
theorem C15_iterator_expansion_code (ctx : Ctx) (loc : Env) (rng : RangeT) (var : String) (body next : Tmpl) (vals : List String)
    (hr : evalRange ctx.lookRange rng = some vals) :
    (proc codeCfg ctx loc (.iter rng var body next)).f.flatten =
      (vals.foldr (fun v acc => (proc codeCfg ctx [(var, v)] body).f ++ acc) .nil).flatten ++
        (proc codeCfg ctx loc next).f.flatten := by
  rw [proc_iter, hr, Out.seq_f, Tree.flatten_append, iterOut_f, fold_f]
  congr 1
  -- the iterator node is dropped only when it holds nothing, and is transparent otherwise
  generalize vals.foldr (fun v acc => (proc codeCfg ctx [(var, v)] body).f ++ acc) .nil = kf
  cases kf <;> simp [iterKeep, codeCfg, Tree.isNil, Tree.flatten]

/-- …exactly one child per element, in order, with the iteration variable bound, when the iterator's
    template is one aggregator, task or call role (`single`; not an include role): reading the
    iterator's children by their own binding of the iteration variable gives the range elements
    whose instance was not pruned, in range order; in particular, if no instance is pruned, the
    children are in one-to-one, order-preserving correspondence with the range. -/
theorem C15_iterator_one_per_element_in_order (ctx : Ctx) (var : String) (body : Tmpl) (hs : single body = true)
    (vals : List String) :
    let kids := (vals.foldr (fun v acc => (proc cfg ctx [(var, v)] body).seq acc) Out.empty).f
    kids.infos.map (fun i => lookup i.ownV var) =
      (vals.filter fun v => !(proc cfg ctx [(var, v)] body).f.isNil).map some ∧
    ((∀ v ∈ vals, (proc cfg ctx [(var, v)] body).f.isNil = false) →
      kids.infos.map (fun i => lookup i.ownV var) = vals.map some) := by
  have h := iter_bindings (cfg := cfg) ctx var body hs vals
  refine ⟨h, fun hall => ?_⟩
  rw [h]
  congr 1
  rw [List.filter_eq_self]
  intro v hv; simp [hall v hv]

/-- A `begin`/`end` range is the integers begin, begin+1, …, end in ascending order (empty
    when end < begin), each printed in decimal. -/
theorem C15_range_order (ρ : Look) (b e : Field) (bs es : String) (bi ei : Int)
    (hb : evalField ρ b = some bs) (he : evalField ρ e = some es)
    (hbi : parseInt bs = some bi) (hei : parseInt es = some ei) :
    evalRange ρ (.fromTo b e) = some ((List.range (ei - bi + 1).toNat).map fun k => toString (bi + Int.ofNat k)) := by
  simp [evalRange, hb, he, hbi, hei, intRange]

/-- The iteration variable reaches the generated role's children: in the stack the role hands
    down — the one a nested iterator's `begin` / `end` / `range` is evaluated against — the
    variable reads the element THIS role was generated for (unless a user variable of the same
    name overrides it, as `FlattenStack(defaults, vars, uservars)` has it). -/
theorem C15_iteration_var_reaches_children (ctx : Ctx) (var v : String) (h : Hdr) (x : List Field)
    (i : Info) (c' : Ctx) (ex : List String)
    (hh : procHdr ctx [(var, v)] h x = .ok i c' ex) (hu : lookup (h.uvars ++ ctx.U) var = none) :
    c'.lookRange var = some v ∧ lookup i.ownV var = some v :=
  ⟨(procHdr_publishes hh var v (lookup_loc var v []) hu).lookRange, procHdr_ownV hh (lookup_loc var v [])⟩

/-- Depth 2, spelled out: the role generated by an outer iterator for element `v` (an
    aggregator `h` whose first child is an inner iterator it keeps, `iterKeep`) gets, in range
    order, one instance of the inner template per element of the inner range AS EVALUATED IN ITS OWN STACK `c'` — the
    stack produced by its own header under `var := v` — followed by its other children. Nothing
    of a sibling generated for another element enters: the statement mentions `v` only. -/
theorem C15_nested_iterator_own_range (ctx : Ctx) (var v : String) (h : Hdr) (rng2 : RangeT) (var2 : String)
    (body2 knext : Tmpl) (i : Info) (c' : Ctx) (ex : List String) (ws : List String)
    (hh : procHdr ctx [(var, v)] h [] = .ok i c' ex)
    (hr : evalRange c'.lookRange rng2 = some ws)
    (hen : iterKeep cfg (rawEnabled body2) (ws.foldr (fun w acc => (proc cfg c' [(var2, w)] body2).f ++ acc) .nil) = true) :
    (proc cfg ctx [(var, v)] (.agg h (.iter rng2 var2 body2 knext) .nil)).f =
      .agg i (.iter (ws.foldr (fun w acc => (proc cfg c' [(var2, w)] body2).f ++ acc) .nil) .nil ++ (proc cfg c' [] knext).f) .nil := by
  rw [proc_agg, hh, roleOut_ok, proc_nil, Out.seq_empty, aggOut_f,
    C15_iterator_expansion c' [] rng2 var2 body2 knext ws hr hen]
  rfl

/-- …and when the inner range does not evaluate in that child's stack (e.g. a bound that is not
    an integer for THIS element), the load fails. -/
theorem C15_nested_iterator_range_error (ctx : Ctx) (var v : String) (h : Hdr) (rng2 : RangeT) (var2 : String)
    (body2 knext next : Tmpl) (i : Info) (c' : Ctx) (ex : List String)
    (hh : procHdr ctx [(var, v)] h [] = .ok i c' ex) (hr : evalRange c'.lookRange rng2 = none) :
    (proc cfg ctx [(var, v)] (.agg h (.iter rng2 var2 body2 knext) next)).err = true := by
  rw [proc_agg, hh, roleOut_ok, Out.seq_err, aggOut_err, proc_iter, hr]; rfl

/-- Sibling copies of an iterator's template do not influence each other (no state is shared
    between the copies): the outcome over a concatenated range is the concatenation of the
    outcomes, so what is generated for one element — nested iterators at any depth included,
    `body` is arbitrary — is a function of that element and the parent's stack alone. -/
theorem C15_iterator_children_independent (ctx : Ctx) (var : String) (body : Tmpl) (vs₁ vs₂ : List String) :
    (vs₁ ++ vs₂).foldr (fun v acc => (proc cfg ctx [(var, v)] body).seq acc) Out.empty =
      (vs₁.foldr (fun v acc => (proc cfg ctx [(var, v)] body).seq acc) Out.empty).seq
        (vs₂.foldr (fun v acc => (proc cfg ctx [(var, v)] body).seq acc) Out.empty) :=
  fold_append _ vs₁ vs₂

/-- EVERY nesting depth: in a nest of n iterators (`nest`, n = `ls.length + 1`; for the code as
    it was — and only for it — each over an aggregator with a plain truthy `enabled`, see
    `C15_nested_every_depth_code`) the task / call roles are, in order, those of the
    innermost template instantiated once per stack of `nestCtxs` — i.e. one instance per tuple
    (w₁, …, wₙ) with wₖ ranging, in range order, over level k's range evaluated in the stack of
    the role generated for (w₁, …, wₖ₋₁). -/
theorem C15_nested_every_depth (ctx : Ctx) (loc : Env) (l : Level) (ls : List Level) (inner : Tmpl)
    (hen : cfg.iterByRawText = true → nestEnabled (l :: ls) = true) :
    (proc cfg ctx loc (nest (l :: ls) inner)).f.leaves =
      (nestCtxs ctx (l :: ls)).flatMap fun c => (proc cfg c [] inner).f.leaves := by
  -- a nest of at least one level is an iterator without later siblings: `loc` is not read
  rw [← nest_leaves inner (l :: ls) ctx hen]; rfl

/-- THE CODE AS IT IS, no side condition on the `enabled` fields of the levels: they may be
    expressions, also over the iteration variables; a generated aggregator whose `enabled` is
    false (or fails) simply has no stack in `nestCtxs`. -/
theorem C15_nested_every_depth_code (ctx : Ctx) (loc : Env) (l : Level) (ls : List Level) (inner : Tmpl) :
    (proc codeCfg ctx loc (nest (l :: ls) inner)).f.leaves =
      (nestCtxs ctx (l :: ls)).flatMap fun c => (proc codeCfg c [] inner).f.leaves :=
  C15_nested_every_depth ctx loc l ls inner (fun h => by cases h)

/-- …under every schedule and every setting of the three switches (nests are templates). -/
theorem C15_nested_schedule_indep (sw : Switches) (sched : List Step) (root : Hdr) (ls : List Level) (inner : Tmpl) :
    loadWith cfg sw sched (.agg root (nest ls inner) .nil) = load cfg (.agg root (nest ls inner) .nil) :=
  loadWith_eq sw sched _

/-- FULL-STRENGTH statement (true of the code as it is: `C15_iterator_code`; false of the code as
    it was: `C15_finding_iterator_enabled_expr`): the code's loader yields what the ideal loader yields whenever no `enabled` fails to
    evaluate and no hollow aggregator is kept — i.e. iterators contribute one child per
    surviving element whatever their template's `enabled` looks like. -/
def C15_iterator_full (cfg : Cfg) : Prop :=
  ∀ t : Tmpl, (proc cfg {} [] t).ev.masked = false → (proc cfg {} [] t).ev.hollow = false → load cfg t = idealLoad t

/-- An error in any field other than `enabled` of a role that is processed makes the
    sibling list's result an error, whatever the other siblings yield. -/
theorem C15_error_propagates (ctx : Ctx) (loc : Env) :
    (∀ h kids next, procHdr ctx loc h [] = .error → (proc cfg ctx loc (.agg h kids next)).err = true) ∧
    (∀ h x c next, procHdr ctx loc h x = .error → (proc cfg ctx loc (.task h x c next)).err = true) ∧
    (∀ h x c next, procHdr ctx loc h x = .error → (proc cfg ctx loc (.call h x c next)).err = true) ∧
    (∀ rng var body next, evalRange ctx.lookRange rng = none → (proc cfg ctx loc (.iter rng var body next)).err = true) ∧
    (∀ h kids next i c' ex, procHdr ctx loc h [] = .ok i c' ex → (proc cfg c' [] kids).err = true →
        (proc cfg ctx loc (.agg h kids next)).err = true) := by
  refine ⟨?_, ?_, ?_, ?_, ?_⟩
  · intro h kids next hh; rw [proc_agg, hh]; rfl
  · intro h x c next hh; rw [proc_task, hh]; rfl
  · intro h x c next hh; rw [proc_call, hh]; rfl
  · intro rng var body next hr; rw [proc_iter, hr]; rfl
  · intro h kids next i c' ex hh hk; rw [proc_agg, hh, roleOut_ok, Out.seq_err, aggOut_err, hk]; rfl

/-- A failed load exposes no tree, and a load that hands back a tree had no error anywhere. -/
theorem C15_error_no_partial_tree (t : Tmpl) : (proc cfg {} [] t).err = true ↔ load cfg t = .error := by
  unfold load Out.loaded
  constructor
  · intro h; simp [h]
  · intro h
    split at h
    · assumption
    · split at h <;> cases h

/-- If, under ANY schedule, some goroutine has hit a template error, the load fails: no
    partial tree is handed back. -/
theorem C15_error_fails_load (sched : List Step) (t : Tmpl)
    (h : hasFailed (run cfg (.pend {} [] t .nil) sched) = true) : load cfg t = .error := by
  have := hasFailed_err (cfg := cfg) _ h
  rw [finish_run, finish_init] at this
  exact (C15_error_no_partial_tree t).1 this

/-- FULL-STRENGTH statement (true of the code as it is: `C15_error_code`; false of the code as it
    was: `C15_finding_enabled_error_masked`): ANY template error — also one in an `enabled` expression — fails the load. -/
def C15_error_full (cfg : Cfg) : Prop := ∀ t : Tmpl, (ideal {} [] t).err = true → load cfg t = .error

/-- For every configuration that publishes before the swap: every template error fails the load, for loads free of the three
    recorded behaviours (`ev.none`; for the legacy code the one that matters is `ev.masked`). -/
theorem C15_error_partial (hl : cfg.inclPublishLate = false) (t : Tmpl) (hm : (proc cfg {} [] t).ev.none = true)
    (he : (ideal {} [] t).err = true) : load cfg t = .error := by
  rw [proc_agrees hl t {} [] hm] at he
  exact (C15_error_no_partial_tree t).1 he

/-- For every configuration that publishes before the swap: when none of the three recorded behaviours occurs in a load (no `enabled` expression
    fails to evaluate, no iterator with surviving children is dropped because of its
    template's raw `enabled`, no aggregator is kept over iterators that yielded nothing), the
    code's loader returns exactly what the property demands (`Spec`). -/
theorem C15_code_meets_spec_partial (hl : cfg.inclPublishLate = false) (t : Tmpl) (h : (proc cfg {} [] t).ev.none = true) :
    Spec t (load cfg t) = true := by
  rw [Spec, load_ideal hl t h]; exact beq_self_eq_true _

/-- For every configuration that publishes before the swap, the code as it was included: the conclusion of `C15_iterator_full`, for
    templates in which every iterator's template is one role whose `enabled` is plain text (a purely
    syntactic, decidable condition) — then the dropped-iterator behaviour cannot occur. -/
theorem C15_iterator_partial (hp : cfg.inclPublishLate = false) (t : Tmpl) (hl : iterEnabledLiteral t = true)
    (hm : (proc cfg {} [] t).ev.masked = false) (hh : (proc cfg {} [] t).ev.hollow = false) : load cfg t = idealLoad t := by
  apply load_ideal hp
  rw [Events.none, hm, hh, proc_no_iterDrop t {} [] hl]; rfl

/-- For THE CODE AS IT IS none of the three recorded behaviours exists: whatever the template,
    whatever stack and locals a sibling list is processed under, no `enabled` error is swallowed,
    no iterator is dropped although it generated a role that is left, no aggregator is kept over
    iterators that yielded nothing. -/
theorem C15_no_recorded_behaviour_code (t : Tmpl) (ctx : Ctx) (loc : Env) : (proc codeCfg ctx loc t).ev = {} :=
  (proc_code_solid rfl t ctx loc).2 rfl

/-- In the tree as the code stores it NOW a sibling list `ProcessTemplates` yields that is not empty
    contains a real (non-iterator) role (iterator nodes transparent). -/
theorem C15_no_hollow_iterator_code (t : Tmpl) (ctx : Ctx) (loc : Env) :
    hasNode (proc codeCfg ctx loc t).f = !(proc codeCfg ctx loc t).f.isNil :=
  (proc_code_solid rfl t ctx loc).1

/-- THE PROPERTY, for the code as it is, ALL templates, no hypothesis: the loader returns exactly
    what the ideal loader of `Spec/C15.lean` returns — disabled roles absent with their subtree,
    aggregators left empty gone, one instance of an iterator's template per range element in order
    (each instance deciding its own `enabled`), and ANY template error fails the load. -/
theorem C15_code_meets_spec (t : Tmpl) : Spec t (load codeCfg t) = true :=
  C15_code_meets_spec_partial rfl t (proc_code_none t {} [])

/-- …under every setting of the three switches and every schedule. -/
theorem C15_code_meets_spec_all_schedules (sw : Switches) (sched : List Step) (t : Tmpl) :
    Spec t (loadWith codeCfg sw sched t) = true := by
  rw [loadWith_eq]; exact C15_code_meets_spec t

/-- `C15_iterator_full`, PROVED for the code as it is (was finding iterator_enabled_expr). -/
theorem C15_iterator_code : C15_iterator_full codeCfg := fun t _ _ => load_code_ideal t

/-- `C15_empty_agg_gone_full`, PROVED for the code as it is (was finding hollow_iterator). -/
theorem C15_empty_agg_gone_code : C15_empty_agg_gone_full codeCfg := fun t =>
  C15_empty_agg_gone_partial t (by rw [C15_no_recorded_behaviour_code])

/-- The ideal loader's result never contains an empty aggregator or an iterator node (all templates). -/
theorem C15_ideal_wellformed (t : Tmpl) :
    (idealLoad t).all noEmptyAgg = true ∧ (idealLoad t).all noIter = true := by
  -- the ideal loader returns what the code as it is returns, seen through `GetRoles`
  rw [← load_code_ideal t]
  exact ⟨C15_empty_agg_gone_code t, loaded_all (noIter_flatten _)⟩

/-- `C15_error_full`, PROVED for the code as it is (was finding enabled_error_masked): a template
    error in ANY field of a role that is reached, `enabled` included, fails the load. -/
theorem C15_error_code : C15_error_full codeCfg := fun t he =>
  C15_error_partial rfl t (proc_code_none t {} []) he

/-- An `enabled` expression that does not evaluate fails the load of its sibling list (stated on
    the role itself; `C15_error_code` is the statement for whole templates). -/
theorem C15_enabled_error_propagates_code (ctx : Ctx) (loc : Env) (h : Hdr)
    (he : evalField (ctx.look loc) h.enabled = none) :
    (∀ kids next, (proc codeCfg ctx loc (.agg h kids next)).err = true) ∧
    (∀ x c next, (proc codeCfg ctx loc (.task h x c next)).err = true) ∧
    (∀ x c next, (proc codeCfg ctx loc (.call h x c next)).err = true) := by
  have hm : ∀ x, procHdr ctx loc h x = .masked := fun x => procHdr_masked he
  exact ⟨fun _ _ => by rw [proc_agg, hm]; rfl, fun _ _ _ => by rw [proc_task, hm]; rfl,
    fun _ _ _ => by rw [proc_call, hm]; rfl⟩

/-- The two repairs are conservative: a load that was free of the three behaviours under the
    code as it was gives exactly the same result under the code as it is. -/
theorem C15_repair_conservative (t : Tmpl) (h : (proc legacyCfg {} [] t).ev.none = true) :
    load codeCfg t = load legacyCfg t := by
  rw [load_code_ideal t, load_ideal rfl t h]

/-- …and, syntactically: templates in which every iterator's template carries a literal
    `enabled`, loaded without a swallowed `enabled` error and without a hollow aggregator. -/
theorem C15_repair_conservative_literal (t : Tmpl) (hl : iterEnabledLiteral t = true)
    (hm : (proc legacyCfg {} [] t).ev.masked = false) (hh : (proc legacyCfg {} [] t).ev.hollow = false) :
    load codeCfg t = load legacyCfg t := by
  rw [load_code_ideal t, C15_iterator_partial rfl t hl hm hh]

/-! ## include roles

  An include role (`Tmpl.incl`) carries the header written at the include site, the `include:`
  expression and the documents of the workflow repository it can name (`Tmpl.doc`). The theorems
  above that quantify over ALL templates cover include roles — plain, under iterators,
  nested in included documents — without further ado: one result under every schedule and
  switch setting (`C15_schedule_indep`, `C15_deterministic`), the sequential path equals the
  concurrent one, the code returns what the ideal loader demands (`C15_code_meets_spec`), no empty
  aggregator, only enabled roles, any error fails the load. What follows says what an include
  role IS and what its place under an iterator means. -/

/-- An include role whose own header evaluates: the sibling list continues with the documents
    it can name, read in the SITE's stack `cw` — the header's own defaults / user vars in front of
    the parent's, exactly as for the children of an aggregator (`cw.V` is left open here), plus the
    note which document is wanted (the evaluated `include:` expression) under which name (the role's evaluated name);
    the document exists. The role contributes whatever that document's root contributes. -/
theorem C15_include_is_loaded_root (ctx : Ctx) (loc : Env) (h : Hdr) (inc : Field) (docs next : Tmpl)
    (i : Info) (cw : Ctx) (ex : List String) (hh : inclHdr cfg ctx loc h inc docs = .ok i cw ex) :
    proc cfg ctx loc (.incl h inc docs next) = (proc cfg cw [] docs).seq (proc cfg ctx loc next) ∧
    (∃ c', procHdr ctx loc h [inc] = .ok i c' ex ∧ cw.D = c'.D ∧ cw.U = c'.U ∧
      cw.want = some (ex.headD "", i.name)) ∧
    hasDoc (ex.headD "") docs = true := by
  obtain ⟨c', hp, hd, rfl⟩ := inclHdrP_ok hh
  exact ⟨by rw [proc_incl, hh, roleOut_ok], ⟨c', hp, rfl, rfl, rfl⟩, hd⟩

/-- The wanted document's root is processed as an AGGREGATOR with the document's own `enabled`,
    defaults, vars, constraints, channels and children, no Locals, and the include role's name in
    the name field — against the site's stack; every other document is not there. (So: the
    included root's `enabled` and variables are evaluated below the include role's, its name is
    the include role's, and it disappears like any aggregator when disabled or left empty.) -/
theorem C15_included_root (ctx : Ctx) (loc : Env) (f nm : String) (hw : ctx.want = some (f, nm))
    (hd : Hdr) (kids more : Tmpl) :
    proc cfg ctx loc (.doc f hd kids more) =
      (proc cfg ctx [] (.agg { hd with name := [.text nm] } kids .nil)).seq (proc cfg ctx loc more) ∧
    (∀ f', f' ≠ f → proc cfg ctx loc (.doc f' hd kids more) = proc cfg ctx loc more) := by
  refine ⟨by rw [proc_doc, docHdr_want hw, if_pos (beq_self_eq_true f), proc_agg, proc_nil, Out.seq_empty], ?_⟩
  intro f' hne
  rw [proc_doc, docHdr_want hw, if_neg (by simpa using fun h => hne h.symm)]
  exact Out.empty_seq _

/-- A document outside an include (no include role asked for it) is no role. -/
theorem C15_document_alone_is_no_role (ctx : Ctx) (loc : Env) (hw : ctx.want = none) (f : String) (hd : Hdr)
    (kids more : Tmpl) : proc cfg ctx loc (.doc f hd kids more) = proc cfg ctx loc more := by
  rw [proc_doc, docHdr_none f hd hw]; exact Out.empty_seq _

/-- A disabled include role is absent with everything it would have included: the sub-workflow
    is not even looked up (an unknown document, or an error inside it, goes unnoticed). -/
theorem C15_include_pruned (ctx : Ctx) (loc : Env) (h : Hdr) (en : String)
    (he : evalField (ctx.look loc) h.enabled = some en) (hf : truthy en = false) (inc : Field) (docs next : Tmpl) :
    proc cfg ctx loc (.incl h inc docs next) = proc cfg ctx loc next := by
  rw [proc_incl, inclHdr, inclHdrP, procHdr_disabled he hf]; exact Out.empty_seq _

/-- An include role whose loaded root ends up without roles disappears (the root is an aggregator). -/
theorem C15_include_empty_root_gone (ctx : Ctx) (loc : Env) (f : String) (h : Hdr) (kids next : Tmpl)
    (i : Info) (c' : Ctx) (ex : List String)
    (hh : docHdr ctx f h = .ok i c' ex) (hk : (proc cfg c' [] kids).f = .nil) :
    (proc cfg ctx loc (.doc f h kids next)).f = (proc cfg ctx loc next).f := by
  rw [proc_doc, hh, roleOut_ok, Out.seq_f, aggOut_f, hk]; rfl

/-- Template errors around an include fail the load: in the include role's own fields (name,
    `include:` expression, variables, constraints, channels), an `include:` that names no document,
    and ANY error inside the included tree. -/
theorem C15_include_error_propagates (ctx : Ctx) (loc : Env) (h : Hdr) (inc : Field) (docs next : Tmpl) :
    (procHdr ctx loc h [inc] = .error → (proc cfg ctx loc (.incl h inc docs next)).err = true) ∧
    (∀ i c' ex, procHdr ctx loc h [inc] = .ok i c' ex → hasDoc (ex.headD "") docs = false →
      (proc cfg ctx loc (.incl h inc docs next)).err = true) ∧
    (∀ i cw ex, inclHdr cfg ctx loc h inc docs = .ok i cw ex → (proc cfg cw [] docs).err = true →
      (proc cfg ctx loc (.incl h inc docs next)).err = true) := by
  refine ⟨?_, ?_, ?_⟩
  · intro hh; rw [proc_incl, inclHdr, inclHdrP, hh]; rfl
  · intro i c' ex hh hd
    rw [proc_incl, inclHdr, inclHdrP, hh]
    simp only [hd, Bool.false_eq_true, if_false]; rfl
  · intro i cw ex hh he; rw [proc_incl, hh, roleOut_ok, Out.seq_err, he]; rfl

/-- …also in its `enabled` (the code as it is). -/
theorem C15_include_enabled_error_code (ctx : Ctx) (loc : Env) (h : Hdr)
    (he : evalField (ctx.look loc) h.enabled = none) (inc : Field) (docs next : Tmpl) :
    (proc codeCfg ctx loc (.incl h inc docs next)).err = true := by
  rw [proc_incl, inclHdr, inclHdrP, procHdr_masked he]; rfl

/-- ITERATED INCLUDE, the code as it is: the role generated for element `v` reads the documents in a
    stack in which the iteration variable IS `v` — for the included root's `enabled` and defaults
    (stage 0/1 view, `look []`) and for whatever a role or a nested iterator below resolves
    (`lookRange`) — unless a user variable of that name overrides it. -/
theorem C15_iterated_include_binds_code (ctx : Ctx) (var v : String) (h : Hdr) (inc : Field) (docs : Tmpl)
    (i : Info) (cw : Ctx) (ex : List String)
    (hh : inclHdr codeCfg ctx [(var, v)] h inc docs = .ok i cw ex) (hu : lookup (h.uvars ++ ctx.U) var = none) :
    cw.binds var v ∧ cw.lookRange var = some v ∧ cw.look [] var = some v := by
  have hb := inclHdrP_binds (show inclHdrP true ctx [(var, v)] h inc docs = .ok i cw ex from hh) var v (lookup_loc var v []) hu
  exact ⟨hb, hb.lookRange, hb.look⟩

/-- EVERY DEPTH, every configuration: below a stack that binds `var := v`, every role the load
    keeps — through aggregators, iterators, include roles and the documents they load, to any
    depth — reads `v` under that name in its consolidated variable stack, as long as no role in
    between gives the name a nearer value (`noRebind`: no `vars` / user variable of that name, no
    iterator over that name). -/
theorem C15_iteration_var_every_depth (var v : String) (t : Tmpl) (ctx : Ctx) (loc : Env)
    (hn : noRebind var t = true) (hb : ctx.binds var v) (hl : lookup loc var = none ∨ lookup loc var = some v) :
    ∀ i ∈ (proc cfg ctx loc t).f.allInfos, lookup i.stack var = some v :=
  proc_keeps var v t ctx loc hn hb hl

/-- …hence, for THE CODE AS IT IS: every role of the sub-workflow an iterated include role loads for
    element `v` — the loaded root itself, its tasks, calls, aggregators, the roles nested iterators
    and further includes generate, at every depth — sees the iteration variable bound to `v`, as long
    as nothing in the documents gives the name a nearer value (`noRebind`) and no user variable has it. -/
theorem C15_iterated_include_var_every_depth_code (ctx : Ctx) (var v : String) (h : Hdr) (inc : Field) (docs : Tmpl)
    (hu : lookup (h.uvars ++ ctx.U) var = none) (hn : noRebind var docs = true) :
    ∀ j ∈ (proc codeCfg ctx [(var, v)] (.incl h inc docs .nil)).f.allInfos, lookup j.stack var = some v := by
  rw [proc_incl, proc_nil, Out.seq_empty]
  exact roles_roleOut fun i cw ex hh =>
    proc_keeps var v docs cw [] hn (C15_iterated_include_binds_code ctx var v h inc docs i cw ex hh hu).1 (Or.inl rfl)

/-- An include role no iterator generated has no Locals: WHEN they are published is immaterial
    (every configuration computes the header the property describes). -/
theorem C15_include_order_immaterial_without_locals (ctx : Ctx) (h : Hdr) (inc : Field) (docs : Tmpl) :
    inclHdr cfg ctx [] h inc docs = inclHdrP true ctx [] h inc docs := by
  unfold inclHdr
  cases cfg.inclPublishLate
  · rfl
  · exact inclHdrP_nolocals ctx h inc docs

/-- Includes under every schedule and every setting of the three switches (they are templates). -/
theorem C15_include_deterministic (sw sw' : Switches) (sched sched' : List Step) (root : Hdr) (rng : RangeT) (var : String)
    (h : Hdr) (inc : Field) (docs more : Tmpl) :
    loadWith cfg sw sched (.agg root (.iter rng var (.incl h inc docs .nil) more) .nil) =
      loadWith cfg sw' sched' (.agg root (.iter rng var (.incl h inc docs .nil) more) .nil) :=
  C15_deterministic sw sw' sched sched' _

namespace Load.Witness

def hdr (name : String) (enabled : Field) (vars : List (String × Field) := []) : Hdr :=
  { name := [.text name], enabled := enabled, defaults := [], vars := vars, uvars := [], cons := [], binds := [], connects := [] }

def lit (s : String) : Field := [.text s]

def taskX : List Field := [lit "readout", lit "0s", [], []]

/-- root → iterator (i in 1..2) over task `t-{{ i }}` with `enabled: "{{ e == 'on' }}"`, e = on -/
def iterExpr : Tmpl :=
  .agg (hdr "wf" (lit "true") [("e", lit "on")])
    (.iter (.fromTo (lit "1") (lit "2")) "i"
      (.task { hdr "t" [.bool (.eq (.var "e") (.lit "on"))] with name := [.text "t-", .str (.var "i")] } taskX true .nil) .nil) .nil

/-- root → [task a, aggregator g → iterator over an empty range] -/
def hollow : Tmpl :=
  .agg (hdr "wf" (lit "true"))
    (.task (hdr "a" (lit "true")) taskX true
      (.agg (hdr "g" (lit "true"))
        (.iter (.fromTo (lit "1") (lit "0")) "i" (.task (hdr "t" (lit "true")) taskX true .nil) .nil) .nil)) .nil

/-- root → [task a, task b with `enabled: "{{ typo == 'true' }}"`] -/
def masked : Tmpl :=
  .agg (hdr "wf" (lit "true"))
    (.task (hdr "a" (lit "true")) taskX true
      (.task (hdr "b" [.bool (.eq (.var "typo") (.lit "true"))]) taskX true .nil)) .nil

/-- root → for i in 1..3: aggregator `o-{{ i }}` with `vars: {n: "{{ i }}"}` → for j in 1..{{ n }}:
    aggregator `p-{{ j }}` → task `t-{{ i }}-{{ j }}`  (the inner range differs per outer child) -/
def nestLevels : List Level := [
  ⟨.fromTo (lit "1") (lit "3"), "i", { hdr "o" (lit "true") [("n", [.str (.var "i")])] with name := [.text "o-", .str (.var "i")] }⟩,
  ⟨.fromTo (lit "1") [.str (.var "n")], "j", { hdr "p" (lit "true") with name := [.text "p-", .str (.var "j")] }⟩]

def nested : Tmpl :=
  .agg (hdr "wf" (lit "true"))
    (nest nestLevels
      (.task { hdr "t" (lit "true") with name := [.text "t-", .str (.var "i"), .text "-", .str (.var "j")] } taskX true .nil)) .nil

/-- the document `readout`: root with `vars: {tag: "cfg-{{ det }}"}` → task `reader-{{ det }}`, aggregator `proc` →
    for n in 1..2: task `w{{ n }}-{{ det }}` -/
def readout : Tmpl :=
  .doc "readout" (hdr "readout" (lit "true") [("tag", [.text "cfg-", .str (.var "det")])])
    (.task { hdr "r" (lit "true") with name := [.text "reader-", .str (.var "det")] } taskX true
      (.agg (hdr "proc" (lit "true"))
        (.iter (.fromTo (lit "1") (lit "2")) "n"
          (.task { hdr "w" (lit "true") with name := [.text "w", .str (.var "n"), .text "-", .str (.var "det")] } taskX true .nil)
          .nil) .nil)) .nil

/-- root (`defaults: {det: NONE}` iff `shadowed`) → for det in ["TPC","ITS"]: include role `sub-{{ det }}`, `include: readout` -/
def iterIncl (shadowed : Bool) : Tmpl :=
  .agg { hdr "root" (lit "true") with defaults := if shadowed then [("det", lit "NONE")] else [] }
    (.iter (.list (lit "[\"TPC\",\"ITS\"]")) "det"
      (.incl { hdr "sub" (lit "true") with name := [.text "sub-", .str (.var "det")] } (lit "readout") readout .nil) .nil) .nil

end Load.Witness

/-- Finding `iterator_enabled_expr` (the code AS IT WAS, repaired by C15.fix-1): an iterator whose
    template carries `enabled: "{{ e == 'on' }}"` (true for every element) contributed NO role: the
    parent aggregator asks `iteratorRole.IsEnabled()`, which looked at the template's unprocessed text. -/
theorem C15_finding_iterator_enabled_expr : ¬ C15_iterator_full legacyCfg := by
  intro h
  have := h Load.Witness.iterExpr (by decide) (by decide)
  revert this; decide

/-- Finding `hollow_iterator` (the code AS IT WAS, repaired by C15.fix-1): an aggregator whose only
    child is an iterator over an empty range stayed in the tree, enabled, with no roles. -/
theorem C15_finding_hollow_iterator : ¬ C15_empty_agg_gone_full legacyCfg := by
  intro h
  have := h Load.Witness.hollow
  revert this; decide

/-- Finding `enabled_error_masked` (the code AS IT WAS, repaired by C15.fix-2): an unknown variable
    in an `enabled` expression did not fail the load; the role was silently dropped. -/
theorem C15_finding_enabled_error_masked : ¬ C15_error_full legacyCfg := by
  intro h
  have := h Load.Witness.masked (by decide)
  revert this; decide

/-- The three former witnesses under the code as it is: the iterator with a templated `enabled`
    yields its two tasks, the aggregator over an empty iterator is gone, the typo in `enabled`
    fails the load. -/
example :
    (match load codeCfg Load.Witness.iterExpr with | .tree tr => tr.leaves.map (·.name) | _ => []) = ["t-1", "t-2"] ∧
    (match load codeCfg Load.Witness.hollow with | .tree (.agg _ k _) => k.infos.map (·.name) | _ => []) = ["a"] ∧
    load codeCfg Load.Witness.masked = .error ∧
    load legacyCfg Load.Witness.iterExpr = .none ∧
    (match load legacyCfg Load.Witness.hollow with | .tree (.agg _ k _) => k.infos.map (·.name) | _ => []) = ["a", "g"] ∧
    (match load legacyCfg Load.Witness.masked with | .tree (.agg _ k _) => k.infos.map (·.name) | _ => []) = ["a"] := by
  decide +kernel

/-- Non-vacuity: a realistic template (variables across levels, an iterator over a list held
    in a variable, a disabled role, a role enabled by an expression) triggers none of the three
    behaviours, loads to a tree, and that tree has three roles under the root — for the code as
    it is and, identically, for the code as it was. -/
example :
    let t : Tmpl :=
      .agg { Load.Witness.hdr "wf" (Load.Witness.lit "true") [("hosts", Load.Witness.lit "[\"h1\",\"h2\"]"), ("qc", Load.Witness.lit "false")]
             with uvars := [("run", "7")] }
        (.iter (.list [.str (.var "hosts")]) "it"
          (.agg { Load.Witness.hdr "x" (Load.Witness.lit "true") with name := [.text "host-", .str (.var "it")] }
            (.task (Load.Witness.hdr "readout" (Load.Witness.lit " TRUE ")) Load.Witness.taskX true
              (.task (Load.Witness.hdr "qc" [.bool (.eq (.var "qc") (.lit "true"))]) Load.Witness.taskX false .nil)) .nil)
          (.call (Load.Witness.hdr "cfg" [.bool (.ne (.var "run") (.lit "0"))]) [Load.Witness.lit "f()", [], Load.Witness.lit "0s", [], []] true .nil)) .nil
    (proc codeCfg {} [] t).ev.none = true ∧ (proc codeCfg {} [] t).err = false ∧
      (match load codeCfg t with | .tree (.agg _ k _) => k.len | _ => 0) = 3 ∧
      (proc legacyCfg {} [] t).ev.none = true ∧ load legacyCfg t = load codeCfg t := by decide +kernel

/-- Non-vacuity for the nested-iterator theorems: a depth-2 nest whose inner range is
    `1..{{ n }}` with `n` set by each generated child from the outer iteration variable loads
    without any of the three recorded behaviours; outer child i gets exactly i grandchildren, in
    order; `nestCtxs` has the 1 + 2 + 3 = 6 stacks, the last of which binds i = 3, j = 3. -/
example :
    nestEnabled Load.Witness.nestLevels = true ∧
    (proc codeCfg {} [] Load.Witness.nested).ev.none = true ∧ (proc codeCfg {} [] Load.Witness.nested).err = false ∧
    (proc legacyCfg {} [] Load.Witness.nested).ev.none = true ∧
    (match load codeCfg Load.Witness.nested with | .tree tr => tr.leaves.map (·.name) | _ => []) =
      ["t-1-1", "t-2-1", "t-2-2", "t-3-1", "t-3-2", "t-3-3"] ∧
    (nestCtxs {} Load.Witness.nestLevels).map (fun c => (c.lookRange "i", c.lookRange "j")) =
      [(some "1", some "1"), (some "2", some "1"), (some "2", some "2"),
       (some "3", some "1"), (some "3", some "2"), (some "3", some "3")] := by decide +kernel

/-- WHY the include role publishes its Locals BEFORE it replaces its composed aggregatorRole (the
    order `C15_include_steps_is_code` ties to the source): with the loop after the replacement (`lateInclCfg`,
    not the code) the iteration variable never reaches the included sub-workflow. On the witness
    `for det in [TPC, ITS]: include readout` the code builds reader-TPC, w1-TPC, w2-TPC, reader-ITS,
    …; the late order builds every copy with the value of a `det` defined further up (reader-NONE twice) and, when there is none, fails to load a valid workflow
    — not what the property demands (`Spec`). -/
theorem C15_include_must_publish_before_swap :
    (match load codeCfg (Load.Witness.iterIncl true) with | .tree tr => tr.leaves.map (·.name) | _ => []) =
      ["reader-TPC", "w1-TPC", "w2-TPC", "reader-ITS", "w1-ITS", "w2-ITS"] ∧
    (match load lateInclCfg (Load.Witness.iterIncl true) with | .tree tr => tr.leaves.map (·.name) | _ => []) =
      ["reader-NONE", "w1-NONE", "w2-NONE", "reader-NONE", "w1-NONE", "w2-NONE"] ∧
    load codeCfg (Load.Witness.iterIncl false) ≠ .error ∧ load lateInclCfg (Load.Witness.iterIncl false) = .error ∧
    ¬ (∀ t : Tmpl, Spec t (load lateInclCfg t) = true) := by
  have four : ∀ {A B C D E : Prop}, A ∧ B ∧ C ∧ D → (C → D → E) → A ∧ B ∧ C ∧ D ∧ E :=
    fun ⟨a, b, c, d⟩ f => ⟨a, b, c, d, f c d⟩
  refine four (by decide +kernel) fun hcode hlate h => ?_
  -- the late order fails where the code, hence the ideal loader, does not
  have := h (Load.Witness.iterIncl false)
  rw [hlate, Spec, ← load_code_ideal] at this
  exact hcode (eq_of_beq this).symm

/-- Non-vacuity for the include theorems: the witness loads, under the code as it is, to a root with
    two include roles named after their element, each the loaded root of `readout` (its own var `tag`
    derived from the iteration variable) over a task and an aggregator; every role below the
    include sees `det` of ITS iteration; the hypotheses of `C15_iterated_include_var_every_depth_code`
    hold for it; a disabled include role and one naming an unknown document behave as stated. -/
example :
    (match load codeCfg (Load.Witness.iterIncl true) with
     | .tree (.agg _ k _) => k.infos.map (fun i => (i.name, lookup i.ownV "tag", lookup i.stack "det"))
     | _ => []) = [("sub-TPC", some "cfg-TPC", some "TPC"), ("sub-ITS", some "cfg-ITS", some "ITS")] ∧
    (match load codeCfg (Load.Witness.iterIncl true) with
     | .tree tr => tr.allInfos.map (fun i => lookup i.stack "det") | _ => []) =
      [some "NONE", some "TPC", some "TPC", some "TPC", some "TPC", some "TPC", some "ITS", some "ITS", some "ITS", some "ITS", some "ITS"] ∧
    noRebind "det" Load.Witness.readout = true ∧
    load codeCfg (.agg (Load.Witness.hdr "root" (Load.Witness.lit "true"))
      (.task (Load.Witness.hdr "a" (Load.Witness.lit "true")) Load.Witness.taskX true
        (.incl (Load.Witness.hdr "off" (Load.Witness.lit "false")) (Load.Witness.lit "nowhere") Load.Witness.readout .nil)) .nil) =
      load codeCfg (.agg (Load.Witness.hdr "root" (Load.Witness.lit "true"))
        (.task (Load.Witness.hdr "a" (Load.Witness.lit "true")) Load.Witness.taskX true .nil) .nil) ∧
    load codeCfg (.agg (Load.Witness.hdr "root" (Load.Witness.lit "true"))
      (.incl (Load.Witness.hdr "on" (Load.Witness.lit "true")) (Load.Witness.lit "nowhere") Load.Witness.readout .nil) .nil) = .error := by
  decide +kernel
