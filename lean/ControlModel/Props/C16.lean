/-
  Props/C16 — "The task state reported after a transition is the device's real state".

  A theorem with arguments `strict evt src script` is about ALL scripts (lists of outcomes of any length over
  {done, refused, errorState, reqLost, replyLost, errorNoState}), all seven O² events, all five source states,
  and both device flavours (`strict` = the device rejects a request that names a source state it is
  not in with a gRPC error, as the repository's own OCC plugin and OCC library do).
  The FAIRMQ ones are read off `runFMQ_rowOk` (Proofs/FairMQ: the run of any script satisfies `RowOk`,
  decided on the COMPLETE table of behaviours of every cell — 6 outcomes at every request actually issued —
  not on a sample), the DIRECT ones off `direct_row` (a single request, by argument, whatever the device
  graph).

  Tie to /repo: the state-name maps are tabulated by `vh gen` from the linked transitioner on every
  run (`Gen.fromDeviceStateFMQ` …) and identified with the model's maps by the `…_is_code` theorems;
  `commitFMQ codeCfg` / `commitDirect` / `Dev.step` are tied by the exhaustive correspondence run; the branch
  of `Commit` for the two events fairmq.go does not implement is, in addition, evaluated by `vh gen` on
  its whole domain (`Gen.unimplementedFMQ`) and identified with the model by `C16_unimplemented_is_code`.

  What the faithful model does NOT satisfy is kept visible as `C16_…_full` and refuted on a witness
  (`C16_finding_…`): see notes/C16.md.
-/
import ControlModel.Gen.FairMQMaps
import ControlModel.Proofs.FairMQ

open FairMQ

/-- The model's FairMQ state names are the constants of fairmq/states.go. -/
theorem C16_state_names_are_code : FState.all.map FState.name = Gen.fmqStateNames := rfl

/-- The model's FairMQ event names are the constants of fairmq/transitions.go. -/
theorem C16_event_names_are_code : FEvent.all.map FEvent.name = Gen.fmqEventNames := rfl

/-- `o2Of` IS `(*FairMQ).FromDeviceState` (all nine device states; `""` for the four intermediate
    ones), and `""` — what a transport error yields — is mapped to `""`. -/
theorem C16_fromDeviceState_is_code :
    (∀ s : FState, lookup Gen.fromDeviceStateFMQ s.name = some (nameOrEmpty (o2Of s))) ∧
    lookup Gen.fromDeviceStateFMQ "" = some "" := by
  decide +kernel

/-- `fmqOf` IS the state name the FairMQ transitioner puts on the wire for an O² state. -/
theorem C16_toDeviceState_is_code (s : O2State) :
    lookup Gen.toDeviceStateFMQ s.name = some (fmqOf s).name := by
  revert s
  decide

/-- The DIRECT transitioner's maps are the identity. -/
theorem C16_direct_maps_are_code (s : O2State) :
    lookup Gen.fromDeviceStateDirect s.name = some s.name ∧ lookup Gen.toDeviceStateDirect s.name = some s.name := by
  revert s
  decide

/-- Cross-check of the trusted device graphs with the repository's OCC sources: whenever the model
    device performs an event it lands in the state `EXPECTED_FINAL_STATE` (occ/plugin/OccFMQCommon.h,
    occ/occlib/OccServer.h) names for that event. (WHICH events a FairMQ device accepts in which
    state stays trusted.) -/
theorem C16_device_targets_match_occ :
    (∀ s e d, fmqNext s e = some d → lookup Gen.occFmqExpectedFinal e.name = some d.name) ∧
    (∀ s e d, directNext s e = some d → lookup Gen.occDirectExpectedFinal e.name = some d.name) := by
  decide +kernel

/-- The branch of `(*FairMQ).Commit` for GO_ERROR and RECOVER, evaluated by `vh gen` on the linked code for
    every source state (what is reported, which kind of error, how many requests reached the device), IS what
    the model of the code as it is does: the source state, the error "transition not implemented", no
    request. (On a tree without the `fix:` commit the table says `nil` and this theorem fails.) -/
theorem C16_unimplemented_is_code :
    Gen.unimplementedFMQ =
      [O2Event.GO_ERROR, O2Event.RECOVER].flatMap fun e => O2State.all.map fun s =>
        let r := runFMQ codeCfg false e s []
        (e.name, s.name, nameOrEmpty r.reported, r.err.name, r.steps.length) := by
  rfl

/-! The code as it is (`codeCfg`, after the `fix:` commits "FairMQ transitioner stops after a roll-back and
     sends END from the state the reset reached" and "FairMQ transitioner reports GO_ERROR and RECOVER as
     not implemented instead of as done") and as it was (`legacyCfg`, `originalCfg`): a theorem with an
     argument `cfg` holds of all of them. -/

/-- IMAGE. Whenever the last request the transitioner issued was answered with a state (or it issued none), the state
    `Commit` reports is exactly `FromDeviceState` of the state the device is really in — whatever
    happened to the earlier requests (refused, error state, lost), for every event, source and script,
    lenient or strict device. -/
theorem C16_image_partial (cfg : Cfg) (strict : Bool) (evt : O2Event) (src : O2State) (script : List Outcome)
    (h : lastReceived strict (runFMQ cfg strict evt src script) = true) :
    imageOk o2Of (runFMQ cfg strict evt src script) = true :=
  ((runFMQ_rowOk cfg strict evt src script).received h).1

/-- IMAGE, DIRECT control mode. -/
theorem C16_image_direct_partial (strict : Bool) (evt : O2Event) (src : O2State) (script : List Outcome)
    (h : lastReceived strict (runDirect strict evt src script) = true) :
    imageOk some (runDirect strict evt src script) = true :=
  (direct_row directDev strict evt src (dstOf evt) script).2.2.1 h

/-- SUCCESS. For the five events fairmq.go implements, `err = nil` is returned only with the device in the
    image of the destination — for every script, including those with lost messages. -/
theorem C16_success_partial (cfg : Cfg) (strict : Bool) (evt : O2Event) (src : O2State) (script : List Outcome)
    (h : implemented evt = true) :
    successOk fmqOf (dstOf evt) (runFMQ cfg strict evt src script) = true :=
  ((runFMQ_rowOk cfg strict evt src script).answered (.inl h)).1

/-- SUCCESS, DIRECT control mode: unconditionally. -/
theorem C16_success_direct (strict : Bool) (evt : O2Event) (src : O2State) (script : List Outcome) :
    successOk id (dstOf evt) (runDirect strict evt src script) = true :=
  (direct_row directDev strict evt src (dstOf evt) script).2.1

/-- ROLLBACK. Whenever the last request was answered, the device is not left in an intermediate state
    it would have let the transitioner leave: if CONFIGURE / RESET / EXIT end with the device in a state
    without O² name from which its graph accepts RESET DEVICE (resp. INIT TASK), that roll-back was
    requested in that very state and the device did not perform it. -/
theorem C16_rollback_partial (cfg : Cfg) (strict : Bool) (evt : O2Event) (src : O2State) (script : List Outcome)
    (h : lastReceived strict (runFMQ cfg strict evt src script) = true) :
    rollbackOk fmqDev o2Of (rollbackEvt evt) (runFMQ cfg strict evt src script) = true :=
  ((runFMQ_rowOk cfg strict evt src script).received h).2

/-- ROLLBACK, positive form. With a device that performs or refuses requests (no ERROR, no lost message)
    and performs every roll-back request, CONFIGURE from STANDBY, RESET and EXIT from CONFIGURED end at the
    destination with `err = nil` or back in the SOURCE state with an error, with two exceptions:
    EXIT from CONFIGURED (= RESET, then END) can also end in IDLE after the completed reset, and a CONFIGURE
    whose COMPLETE INIT is refused stays in INITIALIZING DEVICE, from which the device graph offers no
    roll-back (and none is attempted). -/
theorem C16_rollback_reaches_source (cfg : Cfg) (strict : Bool) (evt : O2Event) (src : O2State) (script : List Outcome)
    (hcell : (evt = .CONFIGURE ∧ src = .STANDBY) ∨ ((evt = .RESET ∨ evt = .EXIT) ∧ src = .CONFIGURED))
    (hcalm : calm (runFMQ cfg strict evt src script) = true)
    (hrb : acceptsRollback (rollbackEvt evt) (runFMQ cfg strict evt src script) = true) :
    let r := runFMQ cfg strict evt src script
    (r.final = fmqOf (dstOf evt) ∧ r.err = .nil) ∨ (r.final = fmqOf src ∧ r.err ≠ .nil) ∨
      (evt = .EXIT ∧ r.final = .IDLE ∧ r.err ≠ .nil) ∨
      (evt = .CONFIGURE ∧ r.final = .INITIALIZING_DEVICE ∧ r.err ≠ .nil) := by
  have himpl : implemented evt = true := by rcases hcell with ⟨rfl, -⟩ | ⟨rfl | rfl, -⟩ <;> rfl
  exact ((runFMQ_rowOk cfg strict evt src script).answered (.inl himpl)).2 hcalm hrb

/-- ALL THREE CLAUSES, FAIRMQ: for an implemented event, if no request was lost and none was answered
    "state mismatch", the call satisfies the full Spec. The last two hypotheses are exactly the classes the
    driver reports as `hyp` (`stale_src_request`, `lost_reply`: `hypOf`); the first is needed only for the code
    before the second repair (`C16_spec_code`). -/
theorem C16_spec_partial (cfg : Cfg) (strict : Bool) (evt : O2Event) (src : O2State) (script : List Outcome)
    (himpl : implemented evt = true)
    (hstale : noStale strict (runFMQ cfg strict evt src script) = true)
    (hloss : noLoss strict (runFMQ cfg strict evt src script) = true) :
    specFMQ evt (runFMQ cfg strict evt src script) = true :=
  runFMQ_spec (.inl himpl) hstale hloss

/-- ALL CLAUSES, DIRECT: a single verbatim request never names a stale source; if it was not lost the
    Spec holds. -/
theorem C16_spec_direct_partial (strict : Bool) (evt : O2Event) (src : O2State) (script : List Outcome) :
    noStale strict (runDirect strict evt src script) = true ∧
    (noLoss strict (runDirect strict evt src script) = true → specDirect evt (runDirect strict evt src script) = true) := by
  have ⟨hstale, hsucc, himg, _⟩ := direct_row directDev strict evt src (dstOf evt) script
  exact ⟨hstale, fun hloss => Bool.and_eq_true_iff.mpr ⟨himg (lastReceived_of_noLoss hstale hloss), hsucc⟩⟩

/-- A lenient device (one that does not look at `SrcState`) never produces the `stale_src_request`
    class (by definition of `Step.srcOk`: `noStale false` holds of any run). -/
theorem C16_lenient_never_stale (cfg : Cfg) (evt : O2Event) (src : O2State) (script : List Outcome) :
    noStale false (runFMQ cfg false evt src script) = true :=
  noStale_lenient _

/-- The acceptance rule of client.go doTransition, for every reply shape: the model's `accept` reports no
    error exactly when ok ∧ trigger = EXECUTOR ∧ same event ∧ state = destination. -/
theorem C16_accept_rule (ok trigExecutor sameEvent stateIsDst : Bool) :
    ruleOk ok trigExecutor sameEvent stateIsDst true (accept ok trigExecutor sameEvent stateIsDst) = true := by
  unfold ruleOk accept
  generalize (ok && trigExecutor && sameEvent && stateIsDst) = c
  cases c <;> rfl

/-- TRANSPORT IRRELEVANT. What `doTransition` sees of a device reply is the reply, on both transports: the JSON
    document leaves out the zero-valued fields, and decoding it into the FRESH reply object that
    `nopb.occClient.Transition` allocates for the call restores exactly them (freshness is built into
    `deliver`: it decodes into `Msg.zero`). (Tie: the exhaustive correspondence run drives every cell × script
    through the protobuf client and through the JSON client with the real codec.) -/
theorem C16_transport_irrelevant {σ ε : Type} (t : Transport) (m : Msg σ ε) : t.deliver m = m := by
  cases t
  · rfl
  · rcases m with ⟨st, ok, trig, evt⟩
    simp only [Transport.deliver, jsonDecodeInto, jsonDoc, Msg.zero, Msg.mk.injEq]
    refine ⟨?_, ?_, ?_, ?_⟩
    · cases st <;> rfl
    · cases ok <;> rfl
    · split
      · simp [*]
      · rfl
    · cases evt <;> rfl

/-- …and the reply of `Dev.step`, the model's request/reply step that `run` / `runs` are built on, IS client.go's acceptance
    rule applied to what the transport delivers of the device's message (or the transport error when there is
    none) — for every device, flavour, request, outcome and transport. -/
theorem C16_step_is_delivered_reply {σ ε : Type} [DecidableEq σ] [DecidableEq ε] (D : Dev σ ε) (t : Transport)
    (strict : Bool) (dev : σ) (a : Ask σ ε) (o : Outcome) :
    (D.step strict dev a o).2 =
      match D.msg strict dev a o with
      | some m => replyOf a (t.deliver m)
      | none => ⟨none, .transport⟩ := by
  simp only [C16_transport_irrelevant]
  unfold Dev.step Dev.msg
  split
  · rfl
  · cases o
    case done =>
      cases D.next dev a.evt
      · rfl
      · simp [replyOf]
    all_goals rfl

/-- A reply that arrives WITHOUT a state (`errorNoState`: the device fell into ERROR and could not say so) is
    never turned into a state or into success: if it answers the last request, `Commit` reports `""` together
    with an error — for every cell, script and flavour. (`""` is then not the image of ERROR: the class is
    excluded by `noLoss` / `lastReceived` like a lost reply, and reported as `lost_reply`.) -/
theorem C16_stateless_reply_explicit_error (strict : Bool) (evt : O2Event) (src : O2State) (script : List Outcome) :
    let r := runFMQ codeCfg strict evt src script
    (r.steps.getLast?.map (fun s => s.srcOk strict && decide (s.out = .errorNoState))) = some true →
      r.reported = none ∧ r.err ≠ .nil :=
  (runFMQ_rowOk codeCfg strict evt src script).stateless

/-- The same, DIRECT control mode. -/
theorem C16_stateless_reply_explicit_error_direct (strict : Bool) (evt : O2Event) (src : O2State) (script : List Outcome) :
    let r := runDirect strict evt src script
    (r.steps.getLast?.map (fun s => s.srcOk strict && decide (s.out = .errorNoState))) = some true →
      r.reported = none ∧ r.err ≠ .nil :=
  (direct_row directDev strict evt src (dstOf evt) script).2.2.2

/-- FULL image clause, as the property text has it — over every script, lost messages included. FALSE for `codeCfg`
    (`C16_finding_lost_reply`). -/
def C16_image_full (cfg : Cfg) : Prop :=
  ∀ (strict : Bool) (evt : O2Event) (src : O2State) (script : List Outcome),
    imageOk o2Of (runFMQ cfg strict evt src script) = true

/-- FULL roll-back clause over every script. FALSE for `codeCfg` (`C16_finding_lost_reply`). -/
def C16_rollback_full (cfg : Cfg) : Prop :=
  ∀ (strict : Bool) (evt : O2Event) (src : O2State) (script : List Outcome),
    rollbackOk fmqDev o2Of (rollbackEvt evt) (runFMQ cfg strict evt src script) = true

/-- Finding `lost_reply`: when the reply to the last request is lost `Commit` reports `""`, which is no
    state's image, while the device is in a named state (START from CONFIGURED, reply lost: the device is
    RUNNING, `""` is reported); and a lost reply in the middle of CONFIGURE leaves the device in an
    intermediate state (BOUND) that RESET DEVICE would have left, without trying. -/
theorem C16_finding_lost_reply : ¬ C16_image_full codeCfg ∧ ¬ C16_rollback_full codeCfg := by
  constructor
  · intro h
    have := h false .START .CONFIGURED [.replyLost]
    revert this; decide
  · intro h
    have := h false .CONFIGURE .STANDBY [.done, .done, .replyLost]
    revert this; decide

/-- FULL image clause restricted to scripts in which every request got a reply that carried a state (`noLoss`).
    FALSE for the code as it was, against a strict device (`C16_finding_stale_src_request`), TRUE for the code as
    it is (`C16_image_noloss_code`). -/
def C16_image_noloss_full (cfg : Cfg) : Prop :=
  ∀ (strict : Bool) (evt : O2Event) (src : O2State) (script : List Outcome),
    noLoss strict (runFMQ cfg strict evt src script) = true →
    imageOk o2Of (runFMQ cfg strict evt src script) = true

/-- Finding `stale_src_request`: the transitioner itself sends requests that name a source state the
    device cannot be in — END after the implicit reset of EXIT-from-CONFIGURED still says READY, and
    doConfigure goes on with CONNECT / INIT TASK after a successful roll-back to IDLE. A device that checks
    `SrcState` (the repository's OCC plugin and OCC library do) answers with a gRPC error, so `""` is
    reported although the device is in IDLE = STANDBY and no message was lost. Witness: EXIT from
    CONFIGURED against a device that performs every request. -/
theorem C16_finding_stale_src_request : ¬ C16_image_noloss_full originalCfg := by
  intro h
  have := h true .EXIT .CONFIGURED [.done, .done, .done] (by decide)
  revert this; decide

/-- FULL success clause over all seven events, every script, both device flavours. FALSE for the code as it
    was (`C16_finding_unimplemented_event`), TRUE for the code as it is (`C16_success_code`). -/
def C16_success_full (cfg : Cfg) : Prop :=
  ∀ (strict : Bool) (evt : O2Event) (src : O2State) (script : List Outcome),
    successOk fmqOf (dstOf evt) (runFMQ cfg strict evt src script) = true

/-- Finding `unimplemented_event` (REPAIRED in /repo; this is the statement about the code as it was):
    GO_ERROR and RECOVER are "not implemented yet" in fairmq.go, yet `Commit` returned `err = nil` (and the
    source state) without asking the device anything: success was reported with the device not at the
    destination (GO_ERROR from RUNNING: device RUNNING, dst ERROR). -/
theorem C16_finding_unimplemented_event : ¬ C16_success_full legacyCfg := by
  intro h
  have := h false .GO_ERROR .RUNNING []
  revert this; decide

/-- FIRST repair (`stopsAfterRollback`: return after a roll-back; END after the implicit reset names IDLE):
    no request ever names a stale source — against a strict device too — and the full Spec holds for every
    implemented event whenever no message is lost: `stale_src_request` disappears. -/
theorem C16_fix_sufficient (u strict : Bool) (evt : O2Event) (src : O2State) (script : List Outcome) :
    noStale strict (runFMQ ⟨true, u⟩ strict evt src script) = true ∧
    (implemented evt = true → noLoss strict (runFMQ ⟨true, u⟩ strict evt src script) = true →
      specFMQ evt (runFMQ ⟨true, u⟩ strict evt src script) = true) := by
  have hstale := (runFMQ_rowOk ⟨true, u⟩ strict evt src script).fresh rfl
  exact ⟨hstale, fun hi hl => runFMQ_spec (.inl hi) hstale hl⟩

/-- SECOND repair (`refusesUnimplemented`) changes NOTHING but the answer to GO_ERROR and RECOVER: for the five
    events fairmq.go implements the transitioner is the same program with and without it. -/
theorem C16_second_repair_touches_only_unimplemented (f : Bool) (evt : O2Event) (src dst : O2State)
    (h : implemented evt = true) : commitFMQ ⟨f, true⟩ evt src dst = commitFMQ ⟨f, false⟩ evt src dst := by
  cases evt
  case GO_ERROR | RECOVER => cases h
  all_goals rfl

/-- What the code as it is answers to the two events it does not implement — for every source state, every
    script, both device flavours: it asks the device NOTHING (the device stays where it was), reports the
    source state, and says so with an explicit error; so all three clauses of the Spec hold of these calls. -/
theorem C16_unimplemented_refused_code (strict : Bool) (evt : O2Event) (src : O2State) (script : List Outcome)
    (h : implemented evt = false) :
    runFMQ codeCfg strict evt src script = ⟨some src, .unimplemented, [], fmqOf src⟩ ∧
    specFMQ evt (runFMQ codeCfg strict evt src script) = true := by
  have run_eq : runFMQ codeCfg strict evt src script = ⟨some src, .unimplemented, [], fmqOf src⟩ := by
    cases evt
    case GO_ERROR | RECOVER => rfl
    all_goals cases h
  refine ⟨run_eq, runFMQ_spec (.inr rfl) ?_ ?_⟩ <;> rw [run_eq] <;> rfl

/-- **The success clause for the code as it is, in full**: over all seven events, every source state,
    every script (lost messages included), lenient and strict device, `err = nil` is returned only with the
    device at the destination (the statement that finding `unimplemented_event` refuted for the code as
    it was). -/
theorem C16_success_code : C16_success_full codeCfg := by
  intro strict evt src script
  exact ((runFMQ_rowOk codeCfg strict evt src script).answered (.inr rfl)).1

/-- **The image clause for the code as it is, in full over every script without a lost message**
    (the statement that finding `stale_src_request` refuted for the code as it was). -/
theorem C16_image_noloss_code : C16_image_noloss_full codeCfg := by
  intro strict evt src script h
  have row := runFMQ_rowOk codeCfg strict evt src script
  exact (row.received (lastReceived_of_noLoss (row.fresh rfl) h)).1

/-- **All three clauses for the code as it is**: for EVERY event (the two unimplemented ones included),
    whenever no message is lost, the full Spec holds — against lenient and strict devices — and the
    transitioner never names a source state the device cannot be in. The only hypothesis left is the one of
    the open finding `lost_reply`. -/
theorem C16_spec_code (strict : Bool) (evt : O2Event) (src : O2State) (script : List Outcome) :
    noStale strict (runFMQ codeCfg strict evt src script) = true ∧
    (noLoss strict (runFMQ codeCfg strict evt src script) = true →
      specFMQ evt (runFMQ codeCfg strict evt src script) = true) := by
  have hstale := (runFMQ_rowOk codeCfg strict evt src script).fresh rfl
  exact ⟨hstale, runFMQ_spec (.inr rfl) hstale⟩

/-- The hypotheses of `C16_spec_partial` are met by realistic, non-trivial calls: a CONFIGURE whose CONNECT
    is refused and rolled back (6 requests, lenient device), and a complete RESET against a strict device. -/
example :
    let r := runFMQ originalCfg false .CONFIGURE .STANDBY [.done, .done, .done, .refused, .done, .refused]
    implemented .CONFIGURE = true ∧ noStale false r = true ∧ noLoss false r = true ∧ r.steps.length = 6 ∧
      r.final = .IDLE ∧ r.reported = some .STANDBY ∧ r.err = .rejected := by decide

example :
    let r := runFMQ codeCfg true .RESET .CONFIGURED [.done, .done]
    noStale true r = true ∧ noLoss true r = true ∧ r.final = .IDLE ∧ r.reported = some .STANDBY ∧ r.err = .nil := by
  decide

/-- …and of `C16_rollback_reaches_source`: RESET DEVICE refused, INIT TASK roll-back performed. -/
example :
    let r := runFMQ codeCfg true .RESET .CONFIGURED [.done, .refused, .done]
    calm r = true ∧ acceptsRollback (rollbackEvt .RESET) r = true ∧ r.final = .READY ∧ r.reported = some .CONFIGURED := by
  decide

/-- …and the hypothesis of `C16_unimplemented_refused_code` by both events; the answer the former code gave
    differs exactly in the error. -/
example :
    implemented .GO_ERROR = false ∧ implemented .RECOVER = false ∧
    (runFMQ codeCfg false .GO_ERROR .RUNNING []).err = .unimplemented ∧
    (runFMQ legacyCfg false .GO_ERROR .RUNNING []).err = .nil ∧
    (runFMQ legacyCfg false .GO_ERROR .RUNNING []).reported = (runFMQ codeCfg false .GO_ERROR .RUNNING []).reported := by
  decide

/-- The fresh reply object matters: the same JSON document decoded into an object that still holds the previous
    step's reply (READY / ok) yields that previous state — `C16_transport_irrelevant` is about `Msg.zero`. And a
    stateless reply after full ones: CONFIGURE whose BIND is answered without a state reports `""` with an error
    while the device is in ERROR (class `lost_reply`). -/
example :
    let stateless : Msg FState FEvent := ⟨none, false, 0, some .RUN⟩
    let previous : Msg FState FEvent := ⟨some .READY, true, 0, some .INIT_TASK⟩
    jsonDecodeInto previous (jsonDoc stateless) = ⟨some .READY, true, 0, some .RUN⟩ ∧
    Transport.json.deliver stateless = stateless ∧
    (let r := runFMQ codeCfg false .CONFIGURE .STANDBY [.done, .done, .errorNoState]
     r.reported = none ∧ r.err = .rejected ∧ r.final = .ERROR ∧ r.steps.length = 3 ∧ noLoss false r = false) := by
  decide
