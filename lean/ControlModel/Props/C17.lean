/-
  Props/C17 — "Every launched task ends with exactly one terminal status and no survivors".

  Property theorems (names `C17_*` are the proof obligations counted in the
  evidence file), the `def C17_…_full` and examples; lemmas live in Proofs/ExecTask.lean, Proofs/ExecGiveUp.lean (the launch
  failure) and Proofs/ExecOverlap.lean (overlapping requests).

  The model (Model/ExecTask.lean) is one task inside the real executor event loop;
  a schedule is any list of steps from {tick, start, stop, conf, trigger, kill,
  await, giveup} after the LAUNCH. The theorems quantify over ALL task kinds, ALL child
  behaviours and ALL schedules of any length.

  Tie to /repo: the correspondence run drives the real eventLoop + handlers +
  executable.NewTask with real child processes on the same schedules; the
  constants, the teardown table and the shape facts of the code are re-extracted
  on every run (`Gen.ExecTask`) and identified with the model below.

  Three configurations of the model stand for versions of the code (`reapingCfg`, used for the launch that is
  given up, does not): `codeCfg` = the code as it is, `legacyCfg` = the
  code before seven `fix:` commits (ensureBasicTaskKilled nil tests + non-blocking
  push, handleLaunchEvent nil task, Launch goroutine nil Process, KILL of an inactive
  task ignored, Kill stops the TASK_RUNNING timer, handleKillEvent takes the entry out
  in the section that looks it up, startBasicTask works on its own command pointer),
  `overlapLegacyCfg` = the code before the last two (which matter only when requests
  overlap). Every switch of `codeCfg` is identified with a fact read off the source
  (`C17_repairs_are_code`): reverting a repair breaks that theorem and the
  correspondence.

  The statements the repairs made true are proved for `codeCfg` at full strength
  (`…_code`) and refuted for `legacyCfg` / `overlapLegacyCfg` on the witness schedules
  of the eight repaired findings (`C17_finding_*`). Four findings are still open
  (`kill_unready_ctl_panics`, `basic_kill_spares_child`, `ctl_kill_spares_helpers`,
  `basic_stop_spares_helpers`): their full-strength statements stay `def …_full`,
  refuted for `codeCfg`, proved under the hypothesis that excludes exactly that
  request state (`…_partial`, `…_code`).
-/
import ControlModel.Gen.ExecTask
import ControlModel.Proofs.ExecTask
import ControlModel.Proofs.ExecGiveUp
import ControlModel.Proofs.ExecOverlap

open ExecTask

/-- The teardown walk of ControllableTask.Kill in the model IS the switch in the source. -/
theorem C17_kill_walk_is_code : killWalk = Gen.ExecTask.killWalk := by decide

/-- From RUNNING, CONFIGURED, STANDBY and ERROR, the walk reaches DONE in at most three transitions
    (on a device that obeys). -/
theorem C17_kill_walk_reaches_done :
    walkToDone Gen.ExecTask.killWalk 3 "RUNNING" = true ∧ walkToDone Gen.ExecTask.killWalk 3 "CONFIGURED" = true ∧
    walkToDone Gen.ExecTask.killWalk 3 "STANDBY" = true ∧ walkToDone Gen.ExecTask.killWalk 3 "ERROR" = true := by decide

/-- pendingFinalTaskStateCh holds one value in both task types, as `St.pending : Option Fin` does. -/
theorem C17_pending_cap_is_code :
    (pendingCap : Int) = Gen.ExecTask.pendingCapBasic ∧ (pendingCap : Int) = Gen.ExecTask.pendingCapCtl := by decide

/-- TASK_RUNNING of a basic/hook task is sent by a timer after Launch returned (the `tick` step); its delay is
    at least the 200 ms the harness uses to recognise a timer that was due while a KILL was carried out. -/
theorem C17_running_timer_is_code : 200 ≤ Gen.ExecTask.runningDelayMs := by decide

/-- The model of the code as it is has exactly the repairs the source has: each switch of `codeCfg` equals
    what go/ast reads off /repo — ensureBasicTaskKilled tests taskCmd.ProcessState and taskCmd.Process for nil
    and sends on pendingFinalTaskStateCh only as a select case next to a default; handleLaunchEvent returns when
    NewTask gave nil, before calling Launch; ControllableTask.Launch tests taskCmd.Process for nil;
    handleKillEvent returns nil when the task is not in activeTasks; doLaunch keeps the TASK_RUNNING timer in a
    field that basicTaskBase.Kill stops; handleKillEvent looks the task up and deletes its entry in one critical
    section of the handler itself (and no longer leaves the first removal to the goroutine); startBasicTask keeps
    the command prepareTaskCmd returned in a local variable, calls StdoutPipe/StderrPipe/Start/Wait on it only and
    never reads the field t.taskCmd (no call through the field, no copy of the field inside the reaper goroutine).
    Reverting one of the repairs flips a fact and breaks this theorem. -/
theorem C17_repairs_are_code :
    codeCfg = { stopNilSafe := Gen.ExecTask.stopChecksProcessStateNil && Gen.ExecTask.stopChecksProcessNil &&
                  Gen.ExecTask.stopPushNonBlocking,
                launchNilSafe := Gen.ExecTask.launchReturnsOnNilTask,
                startFailSafe := Gen.ExecTask.launchChecksProcessNil,
                killInactiveIgnored := Gen.ExecTask.killInactiveReturnsNil,
                killStopsTimer := Gen.ExecTask.basicKillStopsTimer,
                killClaimsEntry := Gen.ExecTask.killClaimsEntryInHandler && !Gen.ExecTask.killRemovesEntryInGoroutine,
                startOwnsCmd := Gen.ExecTask.startOwnsCmd && !Gen.ExecTask.startThroughField &&
                  !Gen.ExecTask.reaperCopiesCmdInGoroutine,
                launchFailKeepsLeader := Gen.ExecTask.launchEscalates && !Gen.ExecTask.launchReapsBeforeEscalation } := by
  decide

/-- What the model of the launch failure assumes about the escalation IS what the source says (go/ast):
    ControllableTask.Launch terminates the task with doTermIntKill on its launch-failure paths, and pidExists, the
    test doTermIntKill makes before SIGINT and before SIGKILL, turns the negative pid of a process GROUP into the pid
    of the group's LEADER and asks for that one process (`Grp.leaderSeen`). (That no `Wait()` of Launch comes before a
    doTermIntKill — nobody reaps the command before or while its group is escalated — is the switch
    `launchFailKeepsLeader` of `C17_repairs_are_code`.) A pidExists that looks at the whole group flips the fact:
    the model of the escalation then has to be redone. -/
theorem C17_group_escalation_is_code :
    Gen.ExecTask.launchEscalates = true ∧ Gen.ExecTask.pidExistsLooksAtLeader = true := by decide

/-- The two shape facts behind the model's remaining crash / survivor steps (open findings), read off the
    source: ControllableTask.Kill uses t.rpc without a nil test, basicTaskBase.Kill signals nothing.
    A repair flips one of these and this theorem (and the correspondence) must be redone. -/
theorem C17_defects_are_code :
    Gen.ExecTask.killChecksRpcNil = false ∧ Gen.ExecTask.basicKillSignals = false := by decide

/-- prepareTaskCmd makes every child the leader of a process group of its own, whatever the shape of the
    command (through a shell or exec'd directly, with or without arguments): `Setpgid` is the constant `true` in
    the source. Every termination site addresses the task by that group (-pid) or by the device's own pid; the
    model's operating-system facts are about that group. A change that makes the group depend on the command
    flips the fact and breaks this theorem (and the correspondence on the commands that lose their group). -/
theorem C17_own_group_is_code (shp : Shape) : ownGroup shp = Gen.ExecTask.setpgidUnconditional := by
  cases shp <;> decide

/-- The command shape has no influence on what the executor does with the task: same kind, behaviour and
    schedule, same observation — for every configuration, all kinds, behaviours, schedules and shapes. (The
    model does not look at the shape; the correspondence run holds the real executor to this for every shape.) -/
theorem C17_shape_irrelevant (c : Cfg) (k : Kind) (b : Beh) (ops : List Op) (x y : Shape) :
    (runIn c k b x ops).obs = (runIn c k b y ops).obs := rfl

/-- Escalation after DONE, for every device behaviour: the signals sent are a prefix of TERM, INT, KILL,
    the child is gone afterwards, and with the code's timeouts it takes at most DONE+TERM+INT = 6 s. -/
theorem C17_escalation_bounded (b : Beh) :
    (escalate b).1 <+: [Sig.TERM, Sig.INT, Sig.KILL] ∧ (escalate b).2 ≠ Child.running ∧
    escalateMs Gen.ExecTask.doneTimeoutMs Gen.ExecTask.sigtermTimeoutMs Gen.ExecTask.sigintTimeoutMs b ≤ 6000 := by
  cases b <;> decide

/-- For every configuration, kind, behaviour and schedule: the executor sends at most one terminal status update. -/
theorem C17_one_terminal (c : Cfg) (k : Kind) (b : Beh) (ops : List Op) :
    oneTerminal (run c k b ops).obs.emits = true := by
  have := (run_inv c k b ops).le1
  simpa [oneTerminal, Outcome.obs] using this

/-- FULL-STRENGTH (false of the code as it is and as it was): nothing at all leaves the executor for the task
    after its terminal status. -/
def C17_nothing_after_full (c : Cfg) : Prop :=
  ∀ (k : Kind) (b : Beh) (ops : List Op), nothingAfter (run c k b ops).obs.emits = true

/-- FULL-STRENGTH, TRUE of the code as it is (`C17_running_first_code`), false of the code before Kill stopped
    the timer: TASK_RUNNING never follows the terminal status. -/
def C17_running_first_full (c : Cfg) : Prop :=
  ∀ (k : Kind) (b : Beh) (ops : List Op), noRunningAfter (run c k b ops).obs.emits = true

/-- Whenever Kill stops the timer: TASK_RUNNING never follows the terminal status — all kinds, behaviours, schedules. -/
theorem C17_running_first (c : Cfg) (hc : c.killStopsTimer = true) : C17_running_first_full c := by
  intro k b ops
  exact (run_always c Armed (fun _ _ _ e h => e.armed h (killArmedIn_off hc _ _)) k b ops (init_launched c k b).armed).nr

/-- **For the code as it is**, at full strength: TASK_RUNNING never follows the terminal status. -/
theorem C17_running_first_code : C17_running_first_full codeCfg :=
  C17_running_first codeCfg rfl

/-- What IS proved about everything that could follow: nothing follows the terminal status, for every schedule
    that never kills a basic/hook task one of whose processes is still alive, nor (only where Kill does not stop
    the timer) one whose TASK_RUNNING timer is still armed. -/
theorem C17_nothing_after_partial (c : Cfg) (k : Kind) (b : Beh) (ops : List Op)
    (ha : never c (killArmedIn c) k b ops = true) (hl : never c killLive k b ops = true) :
    nothingAfter (run c k b ops).obs.emits = true :=
  have l := init_launched c k b
  (run_keeps c (fun s => Inv s ∧ Armed s ∧ Quiet s) (fun s op => killArmedIn c s op || killLive s op)
    (fun s op s' e hq h => by
      rw [Bool.or_eq_false_iff] at hq
      exact ⟨e.inv h.1, e.armed h.2.1 hq.1, e.quiet h.1 h.2.1 h.2.2 hq.2⟩)
    (fun _ => by simp [killArmedIn, killArmed, killLive]) k b ops (never_or c _ _ k b ops ha hl)
    ⟨l.inv, l.armed, l.quiet⟩).2.2.na

/-- **For the code as it is** one hypothesis is left (the open finding `basic_kill_spares_child`): nothing
    follows the terminal status for every schedule that never kills a basic/hook task with a live process. -/
theorem C17_nothing_after_code (k : Kind) (b : Beh) (ops : List Op)
    (hl : never codeCfg killLive k b ops = true) :
    nothingAfter (run codeCfg k b ops).obs.emits = true :=
  C17_nothing_after_partial codeCfg k b ops
    (never_of_false codeCfg _ (killArmedIn_off rfl) k b ops) hl

/-- Finding (repaired, true of the code as it was): KILL within 200 ms of LAUNCH — TASK_FINISHED is followed
    by TASK_RUNNING. -/
theorem C17_finding_kill_before_running_timer :
    ¬ C17_running_first_full legacyCfg ∧ ¬ C17_nothing_after_full legacyCfg := by
  constructor <;> intro h <;> have := h .basic .ok [.kill] <;> revert this <;> decide

/-- For every schedule: once a KILL has been carried out, no TASK_FAILED is ever reported for the task. -/
theorem C17_killed_not_failed (c : Cfg) (k : Kind) (b : Beh) (ops : List Op) :
    killedNotFailed ops (run c k b ops).obs = true := by
  simp only [killedNotFailed, Bool.or_eq_true, Bool.not_eq_true']
  cases hk : killOk ops (run c k b ops).obs.res
  · exact Or.inl rfl
  · right
    obtain ⟨hh, hkilled⟩ := run_killOk c k b ops hk
    have := (run_inv c k b ops).nof (by rw [run_of_not_halts c k b ops hh]; exact hkilled)
    simpa [Outcome.obs] using this

/-- One step is stuck (panic, blocked for ever, or event loop ended) EXACTLY in the unsafe request states of the
    configuration — for every state, reachable or not. For the code as it is that is one state
    (`C17_unsafe_code`). -/
theorem C17_stuck_iff_unsafe (c : Cfg) (s : St) (op : Op) : (step c s op).2.stuck = unsafeReq c s op :=
  step_stuck_iff c s op

/-- In the code as it is the only request that gets a step stuck is a KILL for a controllable task whose rpc
    client is nil; no launch crashes. -/
theorem C17_unsafe_code :
    (∀ s op, unsafeReq codeCfg s op = killNoRpc s op) ∧ (∀ k b, launchCrashes codeCfg k b = false) := by
  constructor
  · intro s op; rw [unsafeReq_code]
  · intro k b; simp [launchCrashes, codeCfg]

/-- FULL-STRENGTH (false of the code as it is: `C17_finding_kill_unready_ctl_panics`): no launch, stop, kill,
    transition or trigger request crashes or hangs the executor or ends its event loop. -/
def C17_no_stuck_full (c : Cfg) : Prop :=
  ∀ (k : Kind) (b : Beh) (ops : List Op), noStuck (run c k b ops).res = true

/-- FULL-STRENGTH, TRUE of the code as it is (`C17_no_stuck_ready_code`), false of the code before the repairs
    (five findings): whatever the kind, the behaviour and the schedule, nothing crashes or hangs the executor or
    ends its event loop unless a KILL reaches a controllable task that is not ready. -/
def C17_no_stuck_ready_full (c : Cfg) : Prop :=
  ∀ (k : Kind) (b : Beh) (ops : List Op), never c killNoRpc k b ops = true → noStuck (run c k b ops).res = true

/-- FULL-STRENGTH, TRUE of the code as it is (`C17_no_stuck_basic_code`): no request whatsoever gets the
    executor stuck over a basic task, a hook task or a task launched without data. -/
def C17_no_stuck_basic_full (c : Cfg) : Prop :=
  ∀ (k : Kind) (b : Beh) (ops : List Op), k ≠ .ctl → noStuck (run c k b ops).res = true

/-- Exact characterisation over all schedules: a run is free of crash / hang / loop exit iff the LAUNCH does
    not crash and no request arrives in one of the unsafe states. -/
theorem C17_no_stuck_iff (c : Cfg) (k : Kind) (b : Beh) (ops : List Op) :
    noStuck (run c k b ops).res = (!launchCrashes c k b && never c (unsafeReq c) k b ops) := by
  simp only [run, never]
  have hh := init_halts c k b
  cases hl : launchCrashes c k b
  · rw [hl] at hh
    have hok := init_ok c k b hl
    simp only [hh, Bool.false_eq_true, ↓reduceIte, Bool.not_false, Bool.true_and]
    have := runFrom_noStuck c ops (init c k b).1
    simp only [noStuck, List.all_cons, hok] at this ⊢
    simpa [Res.stuck] using this
  · rw [hl] at hh
    simp [hh, noStuck, stuck_of_halts hh]

/-- Every request is handled, in every state the schedule reaches, provided the schedule avoids the unsafe
    request states of the configuration and the launches that crash in it. -/
theorem C17_no_stuck_partial (c : Cfg) (k : Kind) (b : Beh) (ops : List Op)
    (hl : launchCrashes c k b = false) (hn : never c (unsafeReq c) k b ops = true) :
    noStuck (run c k b ops).res = true := by
  rw [C17_no_stuck_iff, hl, hn]; rfl

/-- **For the code as it is**, at full strength: every launch, stop, kill, transition and trigger request is
    handled in every reachable state of every schedule — no crash, no hang, the event loop goes on — with the
    single exception that is still an open finding (KILL of a controllable task that is not ready). -/
theorem C17_no_stuck_ready_code : C17_no_stuck_ready_full codeCfg := by
  intro k b ops hn
  exact C17_no_stuck_partial codeCfg k b ops (C17_unsafe_code.2 k b) (unsafeReq_code ▸ hn)

/-- **For the code as it is**, at full strength and without any hypothesis: basic tasks, hook tasks and tasks
    launched without data never get the executor stuck. -/
theorem C17_no_stuck_basic_code : C17_no_stuck_basic_full codeCfg := by
  intro k b ops hk
  apply C17_no_stuck_ready_code k b ops
  simp only [never]
  split
  · rfl
  · exact neverFrom_of_keeps codeCfg (·.kind ≠ .ctl) killNoRpc (fun _ _ _ e h => e.kind ▸ h)
      (fun s op h => by simp [killNoRpc, h]) ops _ (by rw [init_kind]; exact hk)

/-- **For the code as it is**: no LAUNCH crashes the executor, whatever the task's data and command. -/
theorem C17_launch_code (k : Kind) (b : Beh) : (init codeCfg k b).2.stuck = false := by
  rw [init_ok codeCfg k b (C17_unsafe_code.2 k b)]; rfl

/-- Finding (repaired, true of the code as it was): STOP of a RUNNING basic task panics in
    ensureBasicTaskKilled (ProcessState is nil until Wait returns). -/
theorem C17_finding_stop_unreaped_basic_panics :
    ¬ C17_no_stuck_basic_full legacyCfg ∧ ¬ C17_no_stuck_ready_full legacyCfg := by
  constructor
  · intro h; have := h .basic .ok [.tick, .start, .stop] (by decide); revert this; decide
  · intro h; have := h .basic .ok [.tick, .start, .stop] (by decide); revert this; decide

/-- Finding (repaired, true of the code as it was): a second STOP after the child died of a signal blocks for
    ever on pendingFinalTaskStateCh. -/
theorem C17_finding_stop_signalled_twice_hangs :
    ¬ C17_no_stuck_basic_full legacyCfg ∧ ¬ C17_no_stuck_ready_full legacyCfg := by
  constructor
  · intro h; have := h .basic .sig [.tick, .start, .await, .stop, .stop] (by decide); revert this; decide
  · intro h; have := h .basic .sig [.tick, .start, .await, .stop, .stop] (by decide); revert this; decide

/-- Finding (repaired, true of the code as it was): a KILL for a task that is no longer active makes
    handleKillEvent return an error, which ends eventLoop. -/
theorem C17_finding_kill_inactive_ends_loop :
    ¬ C17_no_stuck_basic_full legacyCfg ∧ ¬ C17_no_stuck_ready_full legacyCfg := by
  constructor
  · intro h; have := h .basic .ok [.tick, .kill, .kill] (by decide); revert this; decide
  · intro h; have := h .ctl .occ [.kill, .kill] (by decide); revert this; decide

/-- Finding (repaired, true of the code as it was): LAUNCH with TaskInfo.Data missing — NewTask returns nil and
    handleLaunchEvent calls Launch on it. -/
theorem C17_finding_launch_nil_data_panics :
    ¬ C17_no_stuck_basic_full legacyCfg ∧ ¬ C17_no_stuck_ready_full legacyCfg := by
  constructor
  · intro h; have := h .nodata .ok [] (by decide); revert this; decide
  · intro h; have := h .nodata .ok [] (by decide); revert this; decide

/-- Finding (repaired, true of the code as it was): LAUNCH of a controllable task whose command cannot be
    started panics (taskCmd.Process is nil). -/
theorem C17_finding_ctl_start_failure_panics : ¬ C17_no_stuck_ready_full legacyCfg := by
  intro h; have := h .ctl .nobin [] (by decide); revert this; decide

/-- Finding (OPEN, true of the code as it is): KILL of a controllable task that is not ready (t.rpc == nil)
    panics in ControllableTask.Kill. -/
theorem C17_finding_kill_unready_ctl_panics : ¬ C17_no_stuck_full codeCfg := by
  intro h
  have := h .ctl .noport [.kill]
  revert this; decide

/-- FULL-STRENGTH (false of the code): after a KILL that was carried out no process of the task is left. -/
def C17_no_survivors_full (c : Cfg) : Prop :=
  ∀ (k : Kind) (b : Beh) (ops : List Op), noSurvivors ops (run c k b ops).obs = true

/-- What IS proved: after a carried-out KILL nothing of the task's process groups is alive and the run did
    not stop half-way, for every schedule that never kills a basic/hook task with a live process and never
    kills a controllable task that has forked helpers. -/
theorem C17_no_survivors_partial (c : Cfg) (k : Kind) (b : Beh) (ops : List Op)
    (hl : never c killLive k b ops = true) (hh : never c killHelpers k b ops = true) :
    noSurvivors ops (run c k b ops).obs = true := by
  simp only [noSurvivors, Bool.or_eq_true, Bool.not_eq_true']
  cases hk : killOk ops (run c k b ops).obs.res
  · exact Or.inl rfl
  · right
    obtain ⟨hhalt, hkilled⟩ := run_killOk c k b ops hk
    simp only [never, hhalt, Bool.false_eq_true, ↓reduceIte] at hl hh
    have l := init_launched c k b
    have := runFrom_survivors c _ ops l.noOrph l.surv hl hh hkilled
    simp [run_of_not_halts c k b ops hhalt, Outcome.obs, this.1, this.2]

/-- Finding (OPEN, true of the code as it is): KILL of a basic task never signals its child — the process group
    outlives the TASK_FINISHED, and when the child ends later its BASIC_TASK_TERMINATED follows the terminal
    status. -/
theorem C17_finding_basic_kill_spares_child :
    ¬ C17_no_survivors_full codeCfg ∧ ¬ C17_nothing_after_full codeCfg := by
  constructor
  · intro h; have := h .basic .ok [.tick, .start, .kill]; revert this; decide
  · intro h; have := h .basic .ok [.tick, .start, .kill, .await]; revert this; decide

/-- Finding (OPEN, true of the code as it is): KILL of a ready controllable task signals the device pid only —
    forked helpers survive. -/
theorem C17_finding_ctl_kill_spares_helpers : ¬ C17_no_survivors_full codeCfg := by
  intro h
  have := h .ctl .occfork [.kill]
  revert this; decide

/-- FULL-STRENGTH (false of the code: `C17_finding_basic_stop_spares_helpers`): once a STOP of a basic task has
    been answered and no child was started after it, no process of the task is alive. -/
def C17_stop_terminates_full (c : Cfg) : Prop :=
  ∀ (k : Kind) (b : Beh) (ops : List Op), stopTerminates k ops (run c k b ops).obs = true

/-- What IS proved, for every configuration with the repaired ensureBasicTaskKilled, all behaviours and schedules
    (the clause speaks of basic tasks only and is empty for the other kinds): a STOP leaves nothing of the task alive
    (and no later request but a START brings anything back),
    provided no STOP reaches the task while it has processes outside the group of a running latest child —
    children orphaned by a restart, helpers of earlier children, helpers of a child that already ended. -/
theorem C17_stop_terminates_partial (c : Cfg) (hc : c.stopNilSafe = true) (k : Kind) (b : Beh) (ops : List Op)
    (hn : never c stopSpares k b ops = true) :
    stopTerminates k ops (run c k b ops).obs = true := by
  cases k
  case basic =>
    have hh : (init c .basic b).2.halts = false := by simp [init, Res.halts]
    rw [run_of_not_halts c .basic b ops hh]
    simp only [never, hh, Bool.false_eq_true, ↓reduceIte] at hn
    have := runFrom_stopped c hc ops (init c .basic b).1 (init_kind c .basic b) (init_launched c .basic b).proc false
      nofun hn
    simp only [stopTerminates, stoppedLast, Outcome.obs, this.1, Bool.false_eq_true, ↓reduceIte]
    cases hs : stoppedFrom false ops (runFrom c (init c .basic b).1 ops).res
    · simp
    · simp [this.2 hs]
  all_goals simp [stopTerminates]

/-- **For the code as it is** (open finding `basic_stop_spares_helpers`). -/
theorem C17_stop_terminates_code (k : Kind) (b : Beh) (ops : List Op)
    (hn : never codeCfg stopSpares k b ops = true) :
    stopTerminates k ops (run codeCfg k b ops).obs = true :=
  C17_stop_terminates_partial codeCfg rfl k b ops hn

/-- Finding (OPEN, true of the code as it is): STOP of a basic task kills the group of the latest child only, and
    only while that child has not been reaped — the helper a child left behind when it ended on its own survives
    the STOP (ensureBasicTaskKilled: ProcessState != nil, "nothing to do"), and so do a child orphaned by a second
    START and its helpers. -/
theorem C17_finding_basic_stop_spares_helpers : ¬ C17_stop_terminates_full codeCfg := by
  intro h
  have := h .basic .fork [.start, .await, .stop]
  revert this; decide

/-- The other two shapes of the same class: a restart orphans the first child; the helper of an earlier child. -/
example :
    stopTerminates .basic [.start, .start, .stop] (run codeCfg .basic .ok [.start, .start, .stop]).obs = false ∧
    stopTerminates .basic [.start, .await, .start, .stop]
      (run codeCfg .basic .fork [.start, .await, .start, .stop]).obs = false ∧
    never codeCfg stopSpares .basic .ok [.start, .start, .stop] = false ∧
    never codeCfg stopSpares .basic .fork [.start, .await, .start, .stop] = false := by decide

/-! ## a launch that the executor gives up leaves no survivors

A controllable task that never opens its control port: after GRPC_DIAL_TIMEOUT the Launch goroutine reports
TASK_FAILED and calls doTermIntKill(-pgid) on the task's process GROUP (step `giveup`). The group is the command the
executor started (the leader: a wrapping shell, a launcher) and whatever it forked, each with its own way of treating
SIGTERM and SIGINT (`Disp`). doTermIntKill decides whether to go on to SIGINT and to SIGKILL by pidExists(-pgid),
which sees the LEADER only. -/

/-- FULL-STRENGTH for the escalation itself, TRUE when nobody reaps the command (`C17_group_escalation_code`),
    false when it is reaped meanwhile (`C17_group_escalation_needs_leader`): whatever the group — any disposition
    of the leader, any number of members with any dispositions, the leader running or already a zombie — nothing of
    it runs after doTermIntKill(-pgid). -/
def C17_group_escalation_full (keeps : Bool) : Prop :=
  ∀ g : Grp, g.leaderSeen = true → (escalateGroup keeps g).2.live = false

/-- **The code as it is** (nobody waits for the command on the launch-failure path), for ALL groups whose leader's pid
    exists (`leaderSeen`) and ALL dispositions: SIGTERM, SIGINT and SIGKILL are all sent — the dead leader stays a
    zombie, so both pidExists tests succeed — and no member of the group is left. -/
theorem C17_group_escalation_code :
    C17_group_escalation_full codeCfg.launchFailKeepsLeader ∧
    ∀ g : Grp, g.leaderSeen = true → (escalateGroup codeCfg.launchFailKeepsLeader g).1 = [.TERM, .INT, .KILL] := by
  constructor
  · intro g h
    obtain ⟨_, h2, h3⟩ := escalateGroup_keeps g h
    simp [codeCfg, Grp.live, h2, h3]
  · intro g h; exact (escalateGroup_keeps g h).1

/-- For every group and whoever reaps: the signals sent are a prefix of TERM, INT, KILL, or TERM, KILL. -/
theorem C17_group_escalation_shape (keeps : Bool) (g : Grp) :
    (escalateGroup keeps g).1 <+: [Sig.TERM, Sig.INT, Sig.KILL] ∨ (escalateGroup keeps g).1 = [Sig.TERM, Sig.KILL] := by
  rcases escalateGroup_sigs keeps g with h | h | h | h <;> rw [h] <;> decide

/-- For every group and whoever reaps: once SIGKILL was sent nothing of the group runs. What can go wrong is
    only that the last test (`!pidExists(pid)`: return) does not see who is left — it sees the leader. -/
theorem C17_group_escalation_kill_ends_all (keeps : Bool) (g : Grp) (h : Sig.KILL ∈ (escalateGroup keeps g).1) :
    (escalateGroup keeps g).2.live = false :=
  escalateGroup_kill_final keeps g h

/-- The code's constants: SIGTERM_TIMEOUT + SIGINT_TIMEOUT is at most 5 s, the two waits of the escalation of a
    group after the failure was reported (the bound the correspondence run triples before it looks for survivors);
    `escalateGroup` itself has no durations. -/
theorem C17_group_escalation_bounded :
    Gen.ExecTask.sigtermTimeoutMs + Gen.ExecTask.sigintTimeoutMs ≤ 5000 := by decide

/-- NOT the code — a command that is reaped while its group is escalated: EXACTLY when something is left running,
    for all groups. A leader that ignores both signals keeps the escalation going to SIGKILL; otherwise the escalation
    ends when the leader does: after SIGTERM every member that ignores SIGTERM is left; for a leader that ignores
    SIGTERM only, after SIGINT every member that ignores both is left. -/
theorem C17_group_escalation_reaping_exact (g : Grp) :
    (escalateGroup false g).2.live =
      (if g.leadLive && g.lead == .ignAll then false
       else if g.leadLive && g.lead == .ignTerm then g.members.any (fun d => d.survives .TERM && d.survives .INT)
       else g.members.any (fun d => d.survives .TERM)) :=
  escalateGroup_reaping_left g

/-- The full-strength statement is FALSE once the command is reaped while the group is escalated: the wrapping
    shell dies of SIGTERM and is collected, pidExists(-pgid) is false, the payload that ignores SIGTERM lives on. -/
theorem C17_group_escalation_needs_leader : ¬ C17_group_escalation_full reapingCfg.launchFailKeepsLeader := by
  intro h
  have := h { lead := .obey, leadLive := true, leadZombie := false, members := [.ignTerm] } (by decide)
  revert this; decide

/-- FULL-STRENGTH, TRUE of the code as it is (`C17_giveup_terminates_code`): whatever the kind, the behaviour —
    every group of the model — and the schedule, once the executor has given a launch up (reported it failed and
    run its escalation) no process of the task is alive and the run did not end half-way. -/
def C17_giveup_terminates_full (c : Cfg) : Prop :=
  ∀ (k : Kind) (b : Beh) (ops : List Op), giveupTerminates ops (run c k b ops).obs = true

/-- For every configuration in which nobody reaps the command before or while doTermIntKill runs: all kinds,
    behaviours and schedules — in particular whether the leader of the group still runs or has ended on its own
    (`await` before `giveup`: it is a zombie), and whatever is requested before and after. -/
theorem C17_giveup_terminates (c : Cfg) (hc : c.launchFailKeepsLeader = true) : C17_giveup_terminates_full c := by
  intro k b ops
  simp only [giveupTerminates, Bool.or_eq_true, Bool.not_eq_true']
  cases hk : gaveUpOk ops (run c k b ops).obs.res
  · exact Or.inl rfl
  · right
    obtain ⟨hhalt, hg⟩ := run_gaveUpOk c k b ops hk
    have l := init_launched c k b
    have := runFrom_gave c hc _ ops l.noOrph l.gave hg
    simp [run_of_not_halts c k b ops hhalt, Outcome.obs, this.1, this.2]

/-- **For the code as it is**, at full strength, no hypothesis. -/
theorem C17_giveup_terminates_code : C17_giveup_terminates_full codeCfg :=
  C17_giveup_terminates codeCfg rfl

/-- The statement depends on that switch: with a command that is reaped while its group is escalated (NOT the
    code) the member that ignores SIGTERM survives the launch failure — after TASK_FAILED, the terminal status,
    has been reported. -/
theorem C17_giveup_needs_leader : ¬ C17_giveup_terminates_full reapingCfg := by
  intro h
  have := h .ctl .noportkid [.giveup]
  revert this; decide

/-- Non-vacuity, and the faces of the class under both configurations: the launch failure alone, after the leader
    has ended on its own, with requests around it; every group of the model. Under `reapingCfg` exactly the groups
    of `C17_group_escalation_reaping_exact` keep a survivor. -/
example :
    let fin (c : Cfg) (b : Beh) (ops : List Op) : Bool × Option Bool :=
      (gaveUpOk ops (run c .ctl b ops).obs.res, (run c .ctl b ops).obs.alive)
    fin codeCfg .noportkid [.giveup] = (true, some false) ∧
    fin codeCfg .noportmix [.stop, .giveup, .kill] = (true, some false) ∧
    fin codeCfg .noportign [.await, .giveup] = (true, some false) ∧
    fin codeCfg .noportkidt [.await, .giveup, .giveup] = (true, some false) ∧
    (run codeCfg .ctl .noportmix [.giveup]).st.gsigs = [.TERM, .INT, .KILL] ∧
    (run codeCfg .ctl .noportkid [.await]).obs.alive = some true ∧
    fin codeCfg .occ [.giveup] = (false, some true) ∧
    fin reapingCfg .noport [.giveup] = (true, some false) ∧
    fin reapingCfg .noportfork [.await, .giveup] = (true, some false) ∧
    fin reapingCfg .noportign [.giveup] = (true, some false) ∧
    fin reapingCfg .noportign [.await, .giveup] = (true, some true) ∧
    fin reapingCfg .noportkidt [.giveup] = (true, some true) ∧
    fin reapingCfg .noportmix [.stop, .giveup, .kill] = (true, some true) ∧
    (run reapingCfg .ctl .noportkid [.giveup]).st.gsigs = [.TERM] := by decide

/-- The five conjuncts of `Spec` at once, for every schedule that stays clear of the classes of the
    configuration. -/
theorem C17_spec_partial (c : Cfg) (k : Kind) (b : Beh) (ops : List Op)
    (h0 : launchCrashes c k b = false) (h1 : never c (unsafeReq c) k b ops = true)
    (h2 : never c (killArmedIn c) k b ops = true) (h3 : never c killLive k b ops = true)
    (h4 : never c killHelpers k b ops = true) :
    Spec ops (run c k b ops).obs = true := by
  have a := C17_one_terminal c k b ops
  have b' := C17_nothing_after_partial c k b ops h2 h3
  have c' := C17_killed_not_failed c k b ops
  have d := C17_no_stuck_partial c k b ops h0 h1
  have e := C17_no_survivors_partial c k b ops h3 h4
  simp only [Spec, a, b', c', e, Bool.and_true, Bool.true_and]
  simpa [Outcome.obs] using d

/-- **The whole property for the code as it is**: all five conjuncts for every kind, behaviour and schedule
    that stays clear of the three request states of the findings that are still open — KILL of a controllable
    task that is not ready, KILL of a basic/hook task with a live process, KILL of a controllable task with
    forked helpers. (Before the repairs four more states and two launches had to be excluded.) -/
theorem C17_spec_code (k : Kind) (b : Beh) (ops : List Op)
    (h1 : never codeCfg killNoRpc k b ops = true) (h3 : never codeCfg killLive k b ops = true)
    (h4 : never codeCfg killHelpers k b ops = true) :
    Spec ops (run codeCfg k b ops).obs = true := by
  exact C17_spec_partial codeCfg k b ops (C17_unsafe_code.2 k b) (unsafeReq_code ▸ h1)
    (never_of_false codeCfg _ (killArmedIn_off rfl) k b ops) h3 h4

/-- **The whole property including "stopping a basic task terminates the whole process group" and "a launch that
    the executor gives up leaves no survivors", for the code as it is**: `SpecAll` for every kind, behaviour,
    schedule — and, the model being blind to it, every command shape — that stays clear of the four request states
    of the open findings. -/
theorem C17_spec_all_code (k : Kind) (b : Beh) (shp : Shape) (ops : List Op)
    (h1 : never codeCfg killNoRpc k b ops = true) (h3 : never codeCfg killLive k b ops = true)
    (h4 : never codeCfg killHelpers k b ops = true) (h5 : never codeCfg stopSpares k b ops = true) :
    SpecAll k ops (runIn codeCfg k b shp ops).obs = true := by
  simp only [SpecAll, runIn, C17_spec_code k b ops h1 h3 h4, C17_stop_terminates_code k b ops h5,
    C17_giveup_terminates_code k b ops, Bool.and_self]

/-- Non-vacuity: realistic schedules meet the hypotheses of `C17_spec_code` — among them the ones the code before
    the repairs did not survive: STOP of a running basic task, two STOPs after a child that died of a signal, KILL
    before the TASK_RUNNING timer, a repeated KILL, a launch without data, a command that cannot be started. -/
example :
    let ok (k : Kind) (b : Beh) (ops : List Op) : Bool :=
      never codeCfg killNoRpc k b ops && never codeCfg killLive k b ops && never codeCfg killHelpers k b ops
    ok .basic .ok [.tick, .start, .await, .stop, .start, .await, .kill] = true ∧
    ok .basic .ok [.start, .stop, .kill, .kill, .tick] = true ∧
    ok .basic .sig [.tick, .start, .await, .stop, .stop, .kill] = true ∧
    ok .nodata .ok [.kill, .start] = true ∧
    ok .ctl .nobin [.kill, .conf] = true ∧
    ok .ctl .occstay [.conf, .start, .kill, .kill] = true ∧
    ok .ctl .occign [.kill] = true ∧
    ok .hook .fail [.tick, .trigger, .await, .trigger, .await, .kill] = true := by decide

/-- Non-vacuity of `C17_spec_all_code` / `C17_stop_terminates_code`: schedules in which a STOP really has
    something to terminate meet the hypothesis, and the clause is not trivially true on them (a STOP was answered,
    nothing was started after it). -/
example :
    let ok (b : Beh) (ops : List Op) : Bool :=
      never codeCfg stopSpares .basic b ops && stoppedLast ops (run codeCfg .basic b ops).res
    ok .ok [.tick, .start, .stop] = true ∧
    ok .fork [.start, .stop, .conf, .tick] = true ∧
    ok .ok [.start, .stop, .start, .await, .stop, .kill] = true ∧
    ok .sig [.start, .await, .stop, .stop] = true ∧
    ok .nobin [.start, .stop] = true := by decide

/-- A schedule with a STOP of a running basic task and a repeated KILL: the property fails under the code as it
    was and holds under the code as it is. -/
example :
    Spec [.start, .stop, .kill, .kill, .tick] (run legacyCfg .basic .ok [.start, .stop, .kill, .kill, .tick]).obs = false ∧
    Spec [.start, .stop, .kill, .kill, .tick] (run codeCfg .basic .ok [.start, .stop, .kill, .kill, .tick]).obs = true := by
  decide

/-! ## overlapping requests

A schedule element `par a b` delivers request `b` while request `a` is being served (Model/ExecOverlap): the real
handlers look the task up and then serve every MESSAGE and every KILL in a goroutine of its own, on a task object
that has no lock. The model's answer is the SET of all interleavings of the atomic parts of the two requests
(`runI`); the correspondence run is a monitor (the real executor's observation must be one of them). The theorems
below are about EVERY member of that set, for all kinds, behaviours and schedules of items of any length. -/

/-- What the overlap model assumes about how requests are served IS what the source says (go/ast): both handlers
    look the task up themselves and serve the request (Transition, Trigger, Kill) from a goroutine they start;
    basicTaskBase.Kill sets the field t.taskCmd to nil, and neither it nor startBasicTask nor ensureBasicTaskKilled
    takes a lock (the parts of two requests interleave freely); ensureBasicTaskKilled runs straight through — no
    loop, no receive, no sleep — so that a STOP is ONE part. (Where the entry is removed from activeTasks and
    whether startBasicTask reads the field are switches of the model: `C17_repairs_are_code`.) A change that lets a
    STOP wait, or that serialises the requests, flips a fact and breaks this theorem: the granularity of the model
    then has to be redone together with the correspondence. -/
theorem C17_overlap_is_code :
    Gen.ExecTask.messagesServedInGoroutine = true ∧ Gen.ExecTask.killServedInGoroutine = true ∧
    Gen.ExecTask.lookupInHandler = true ∧
    Gen.ExecTask.basicKillClearsCmd = true ∧ Gen.ExecTask.stopDoesNotWait = true ∧
    Gen.ExecTask.basicTaskLocks = false := by decide

/-- The model with overlaps is conservative: a schedule without overlaps has exactly one run, the run of the
    sequential model — for every configuration, kind, behaviour and schedule. (All theorems above therefore also
    speak about `runI` on plain schedules.) -/
theorem C17_overlap_conservative (c : Cfg) (k : Kind) (b : Beh) (ops : List Op) :
    runI c k b (plain ops) = [(run c k b ops).lift] :=
  runI_plain c k b ops

/-- The atomic parts are a refinement of the step: the look-up and the parts of ONE request, run with nothing in
    between, do exactly what `step` does — for every configuration, every request and every state whose event loop
    still runs (in particular `prep; exec; reap` is `spawn`, and a KILL that takes the entry out at its look-up and
    then runs Kill() is the KILL step). -/
theorem C17_request_alone_is_step (c : Cfg) (s : St) (op : Op) (hl : s.loop = true) (hr : op.isRequest = true) :
    runThread c (partsOf s.kind op) s none =
      if (step c s op).2.halts then .error (step c s op).2 else .ok ((step c s op).1, some (step c s op).2) :=
  runThread_is_step c s op hl hr

/-- An overlap generalises the sequence: "A served completely, then B" is one of the behaviours of `par a b` — for
    every configuration, every pair of requests and every state in which the event loop runs, A's step neither halts
    nor ends the loop and B's step after it does not halt. -/
theorem C17_overlap_includes_sequential (c : Cfg) (s : St) (a b : Op) (hl : s.loop = true)
    (hra : a.isRequest = true) (hrb : b.isRequest = true) (ha : (step c s a).2.halts = false)
    (hl' : (step c s a).1.loop = true) (hb : (step c (step c s a).1 b).2.halts = false) :
    POut.done (step c (step c s a).1 b).1 (step c s a).2 (step c (step c s a).1 b).2 ∈ parOutcomes c s a b :=
  par_includes_seq c s a b hl hra hrb ha hl' hb

/-- ONE part of the handling of a request halts (panic, blocked for ever; an ended event loop is not counted)
    EXACTLY in the states `unsafePart` — for every configuration and every state, reachable or not: a request served
    in one piece where `step` is stuck
    (`C17_stuck_iff_unsafe`); before startBasicTask worked on its own pointer, its parts that use t.taskCmd exactly
    when the field is nil. -/
theorem C17_part_stuck_iff_unsafe (c : Cfg) (s : St) (p : Part) : (pstep c s p).halts = unsafePart c s p :=
  pstep_halts_iff c s p

/-- **In the code as it is** a part is stuck in ONE kind of state only — Kill() of a controllable task whose rpc
    client is nil (the open finding `kill_unready_ctl_panics`): no part of startBasicTask can find a nil command
    any more. -/
theorem C17_unsafe_part_code (s : St) (p : Part) :
    unsafePart codeCfg s p = (match p with
      | .whole op => killNoRpc { s with active := true } op
      | _ => false) := by
  cases p with
  | whole op => exact C17_unsafe_code.1 _ op
  | _ => simp [unsafePart, codeCfg]

/-- FULL-STRENGTH, TRUE of the code as it is (`C17_overlap_one_terminal_code`), false of the code before
    handleKillEvent took the entry out at its look-up (`C17_finding_overlapping_kills_two_terminals`): whatever
    requests overlap (of the pairs `parOK` admits), every run sends at most one terminal status. -/
def C17_overlap_one_terminal_full (c : Cfg) : Prop :=
  ∀ (k : Kind) (b : Beh) (items : List Item), items.all (Item.ok k) = true →
    (runI c k b items).all (fun o => oneTerminal (o.obs.flat items).2.emits) = true

/-- For every configuration, kind, behaviour and schedule of items: unless two KILLs overlap, EVERY interleaving
    sends at most one terminal status, and a task on which a KILL was carried out is never reported failed. -/
theorem C17_overlap_one_terminal_partial (c : Cfg) (k : Kind) (b : Beh) (items : List Item)
    (hn : items.all notTwoKills = true) :
    (runI c k b items).all (fun o => oneTerminal (o.obs.flat items).2.emits &&
      (!o.st.killed || !o.obs.emits.contains (.term .FAILED))) = true :=
  List.all_eq_true.mpr fun o ho => oneTerminal_of_inv items o (runI_inv c k b items hn o ho)

/-- Whenever handleKillEvent takes the entry out of activeTasks in the section that looks it up — all kinds,
    behaviours and schedules of items, ANY two requests overlapping, two KILLs (and a KILL of a controllable task)
    included: EVERY interleaving sends at most one terminal status, and a task on which a KILL was carried out is
    never reported failed. The KILL that found the task holds it: every later look-up — a second KILL's in
    particular — is refused. -/
theorem C17_overlap_one_terminal_claimed (c : Cfg) (hc : c.killClaimsEntry = true) (k : Kind) (b : Beh)
    (items : List Item) (hn : items.all reqItem = true) :
    (runI c k b items).all (fun o => oneTerminal (o.obs.flat items).2.emits &&
      (!o.st.killed || !o.obs.emits.contains (.term .FAILED))) = true :=
  List.all_eq_true.mpr fun o ho => oneTerminal_of_inv items o (runI_inv_claimed c hc k b items hn o ho)

/-- **For the code as it is**, at full strength: whatever requests overlap (of the pairs `parOK` admits), every run
    sends at most one terminal status. -/
theorem C17_overlap_one_terminal_code : C17_overlap_one_terminal_full codeCfg := by
  intro k b items hok
  have hn : items.all reqItem = true := by
    simp only [List.all_eq_true] at hok ⊢
    exact fun it hit => reqItem_of_ok k it (hok it hit)
  have := C17_overlap_one_terminal_claimed codeCfg rfl k b items hn
  simp only [List.all_eq_true, Bool.and_eq_true] at this ⊢
  exact fun o ho => (this o ho).1

/-- Finding (repaired, true of the code as it was): two KILLs for the same basic or hook task delivered back to
    back — both handlers found the task (the entry was removed only by the goroutine), both goroutines called Kill:
    two TASK_FINISHED. -/
theorem C17_finding_overlapping_kills_two_terminals :
    ¬ C17_overlap_one_terminal_full overlapLegacyCfg ∧ ¬ C17_overlap_one_terminal_full legacyCfg := by
  constructor <;> intro h <;> have := h .basic .ok [.one .tick, .par .kill .kill] (by decide) <;> revert this <;>
    decide +kernel

/-- The repaired behaviour on the witness of that finding and on its hook twin: one KILL is carried out, the other
    is ignored, one terminal status — in every interleaving. -/
example :
    (runI codeCfg .basic .ok [.one .tick, .par .kill .kill]).all
      (fun o => o.res == [.one .ok, .one .ok, .par .ok .ignored] && terminals o.st.out == 1 && !o.halted) = true ∧
    (runI codeCfg .hook .ok [.par .kill .kill, .one .tick]).all
      (fun o => o.res == [.one .ok, .par .ok .ignored, .one .ok] && o.st.out == [.term .FINISHED]) = true := by
  decide +kernel

/-- FULL-STRENGTH, TRUE of the code as it is (`C17_overlap_no_stuck_code`), false of the code before startBasicTask
    worked on its own pointer (`C17_finding_kill_overlaps_start_panics`): whatever requests overlap (of the pairs
    `parOK` admits) on a basic task, a hook task or a task without data, no run crashes or hangs the executor or ends
    its event loop. -/
def C17_overlap_no_stuck_full (c : Cfg) : Prop :=
  ∀ (k : Kind) (b : Beh) (items : List Item), k ≠ .ctl → items.all (Item.ok k) = true →
    (runI c k b items).all (fun o => noStuck (o.obs.flat items).2.res) = true

/-- For every configuration with the repaired ensureBasicTaskKilled, KILL handler and launch (in particular the
    code before startBasicTask worked on its own pointer), all behaviours, all schedules of items: over a basic
    task, a hook task or a task without data NO interleaving of overlapping requests crashes or hangs the executor
    or ends its event loop — unless a KILL overlaps a request that starts a child. In particular STOP ∥ KILL,
    STOP ∥ STOP, STOP ∥ START, KILL ∥ KILL and every overlap with a transition that is a no-op are handled in every
    order. -/
theorem C17_overlap_no_stuck_partial (c : Cfg) (hs : c.stopNilSafe = true) (hi : c.killInactiveIgnored = true)
    (hl : c.launchNilSafe = true) (k : Kind) (hk : k ≠ .ctl) (b : Beh) (items : List Item)
    (hn : items.all (noKillSpawn k) = true) :
    (runI c k b items).all (fun o => noStuck (o.obs.flat items).2.res) = true :=
  runI_noStuck_flat c ⟨hs, hi, hl⟩ k hk b items fun it hit =>
    safeItem_of_noKillSpawn c k it (List.all_eq_true.mp hn it hit)

/-- **For the code as it is**, at full strength — all behaviours, all schedules of items, ANY two requests
    overlapping that `parOK` admits, a KILL with a START / a trigger included: over a basic task, a hook task or a
    task without data NO interleaving crashes or hangs the executor or ends its event loop. -/
theorem C17_overlap_no_stuck_code : C17_overlap_no_stuck_full codeCfg := by
  intro k b items hk hok
  exact runI_noStuck_flat codeCfg codeCfg_repaired k hk b items fun it hit =>
    safeItem_of_owns codeCfg rfl k it (reqItem_of_ok k it (List.all_eq_true.mp hok it hit))

/-- Finding (repaired, true of the code as it was): a KILL handled while a START of the same basic task (or the
    trigger of the same hook) is being served — Kill set t.taskCmd = nil under startBasicTask, whose next use of
    the field (Start, or the reaper goroutine's copy) panicked: the executor and every task on it were gone. -/
theorem C17_finding_kill_overlaps_start_panics :
    ¬ C17_overlap_no_stuck_full overlapLegacyCfg ∧ ¬ C17_overlap_no_stuck_full legacyCfg := by
  constructor <;> intro h <;> have := h .hook .ok [.one .tick, .par .trigger .kill] (by decide) (by decide) <;>
    revert this <;> decide +kernel

/-- What is left of that class in the code as it is (open finding `basic_kill_spares_child`: Kill neither signals a
    child nor keeps a request in flight from starting one): no run halts, and in some the child is started for — and
    survives — a task whose terminal status is out; a KILL whose look-up comes FIRST now always refuses the START.
    The hypotheses of the two partial overlap theorems are met by realistic schedules whose runs really differ. -/
example :
    (runI codeCfg .basic .ok [.one .tick, .par .start .kill]).all (fun o => !o.halted) = true ∧
    (runI codeCfg .basic .ok [.one .tick, .par .start .kill]).any
      (fun o => o.st.alive && o.st.killed) = true ∧
    (runI codeCfg .hook .ok [.one .tick, .par .trigger .kill]).all (fun o => !o.halted) = true ∧
    (runI codeCfg .basic .ok [.one .tick, .par .kill .start]).all
      (fun o => o.res == [.one .ok, .one .ok, .par .ok .notask] && !o.st.alive) = true ∧
    (runI overlapLegacyCfg .basic .ok [.one .tick, .par .kill .start]).any
      (fun o => !o.halted && o.st.alive && o.st.killed) = true ∧
    ([Item.one .tick, .one .start, .par .stop .kill, .one .await].all (noKillSpawn .basic) &&
      [Item.one .tick, .one .start, .par .stop .kill, .one .await].all notTwoKills) = true ∧
    2 ≤ (runI codeCfg .basic .ok [.one .tick, .one .start, .par .stop .kill, .one .await]).length ∧
    ([Item.one .tick, .par .start .stop, .par .stop .start, .one .kill].all (noKillSpawn .basic)) = true ∧
    3 ≤ (runI codeCfg .basic .fork [.one .tick, .par .start .stop, .par .stop .start, .one .kill]).length := by
  decide +kernel
