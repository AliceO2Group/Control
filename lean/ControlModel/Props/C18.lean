/-
  Props/C18 — "A restarted core kills what it no longer owns, and only that".

  Model: Model/Reconcile.lean — lives of the core (in-memory framework id, roster, taskman channel), the
  runtime entry `mesos_fid`, the master (subscription stream, task table), and the steps
  coreStart | coreKill | coreTerm | subscribe | drop | read | handle | launch | status | reconUpdate |
  release | releaseBegin | releaseEnd | snapshot (a teardown is `release`, or its two roster writes
  `releaseBegin … releaseEnd` with ANY steps in between: the KILL calls are in flight and deployments of other
  environments complete meanwhile). A history is ANY `List Step` (a step that is not enabled does nothing), from ANY
  initial content `kv0` of the runtime entry; all theorems quantify over all of them. What the core did is
  the log `(run c W h (init kv0)).log`; the property is the conjunction of the decidable log predicates of
  Spec/C18.lean, which the driver also evaluates on the log of the REAL core.

  Configurations: `unguardedCfg` = the code at the pinned commit, `guardedCfg` = with the roster test of
  notes/C18.fix.patch (in /repo as `fix: reconciliation updates only kill tasks that are not in the roster`).
  `Spec.C18.codeCfg` is read off go/ast facts regenerated on every run
  (Gen/C18Facts.lean); `C18_cfg_is_code` says it IS one of the two, so every theorem below applies to the
  code as it is now, before and after the patch; any other change of the anchored code (no RECONCILE on
  SUBSCRIBED, `mesos_fid` not read or not written, a different KILL guard, another state list, …) makes
  `C18_cfg_is_code` false and the check fail, pointing here.

  "Owned" is ground truth, not the roster: `St.held` = what the live environments hold (set by `launch`, dropped
  by the teardown of that environment, gone with the process — `C18_held_until_released`). A KILL's `owned` flag is
  "locked in the roster OR held". That the two coincide — the roster is complete and sound, also across split
  teardowns — is a theorem about the code's way of writing the roster (`C18_roster_complete`, `C18_owned_is_held`:
  hypothesis `snapshotRewrite = false`, tied to the go/ast facts by `C18_kill_tasks_roster_writes_is_code`), and
  it is what `C18_owned_spared_fixed` rests on: `C18_stale_snapshot_kills_owned` refutes it for a doKillTasks
  that writes a snapshot taken before its KILL calls back after them.

  Assumptions spelled out as hypotheses:
    * `∀ n t, W.answers n t = true` — the master answers an implicit reconciliation with EVERY non-terminal
      task of the framework (Mesos as documented; `C18_orphans_need_complete_answers` shows it cannot be dropped);
    * `h.all (stepOk c)` — the master reports no task in a non-terminal state that the KILL branch does not
      list (for the code: TASK_UNREACHABLE, only sent to PARTITION_AWARE frameworks; `C18_not_partition_aware_is_code`);
    * `noReconnWhileOwning` — only for `C18_owned_spared_partial`: FORCED by the code, see the finding.

  "Every task of its previous life that Mesos still reports as alive is killed" is stated per reconciliation
  ROUND (`C18_orphans_killed_every_round`): the KILL of an orphan listed at a quiet point is newer than the
  latest RECONCILE call of the current life. Nothing in the model obliges a task to die when KILLed, so the
  histories include orphans that outlive any number of KILLs and reconnections.

  SEVERAL SUBSCRIPTIONS IN ONE LIFE, INCOMPLETE ANSWERS: Model/Resubscribe.lean layers
  `hide t | unhide t | mute | unmute` over these steps (what the master can report in answer to a RECONCILE becomes
  state; `C18_resub_conservative`) and records the SUBSCRIBE/SUBSCRIBED pairs. There the obligation is attached to
  the SUBSCRIPTION (`orphansKilledEachSubscription`: the KILL is newer than the latest SUBSCRIBE of the life), the
  completeness assumption shrinks to `noLateOrphans` (nothing the master reports at a quiet point was left out of
  the CURRENT subscription's answer — which the code does not guarantee: finding `late_orphan_never_reconciled`), and
  identity is stated on presented AND assigned ids (`identityKept`, `oneFramework`).

  STATUS UPDATES WHOSE OPTIONAL FIELDS ARE ABSENT: Model/SparseStatus.lean layers the step
  `handleSparse noAgent noExec` — taskman handles a message that lacks agent_id / executor_id, as an answer the master
  builds to a reconciliation may — over all of the above. "Owned" as the rest of the core reads it is Task.isLocked(), which
  needs both ids: the tasks of live environments must still be locked after any such answer, else the next sweep of unowned
  tasks (creation of another environment, CleanupTasks, shutdown) kills them — "and only that". With the guards the code
  has (`C18_status_id_copy_is_code`: go/ast facts Gen.TaskIds) the layer is conservative (`C18_sparse_updates_conservative`),
  so for ALL histories with any number of sparse updates: every held task is in the roster, locked
  (`C18_owned_stay_locked_under_sparse_updates`), at every quiet point (`C18_held_locked_at_every_quiet_point`: the Spec
  clause `heldLocked`), no reconciliation answer kills a locked roster task (`C18_roster_tasks_never_killed_under_sparse_updates`),
  the whole Spec holds under the hypotheses of the layer below (`C18_code_meets_spec_under_sparse_updates`). Without the
  guards — NOT the code — `C18_unguarded_id_copy_unlocks_owned`: one sparse reconciliation answer after a mere reconnection
  and the task of the live environment is held but not locked; `C18_complete_updates_hide_the_difference`: complete
  answers cannot tell.
-/
import ControlModel.Proofs.Reconcile
import ControlModel.Proofs.Resubscribe
import ControlModel.Proofs.SparseStatus

open Reconcile Spec.C18

/-- The configuration read off the regenerated facts is the code as pinned or the code with the roster test —
    nothing else. -/
theorem C18_cfg_is_code : codeCfg = unguardedCfg ∨ codeCfg = guardedCfg := by decide

/-- The one KILL call of handleMessage has one of the two guard shapes the model knows (`rosterGuard` says which) and tests
    reason REASON_RECONCILIATION. -/
theorem C18_kill_guard_is_code :
    codeCfg.rosterGuard = (Gen.C18.killGuard == "reason+state+notInRoster") ∧
    (Gen.C18.killGuard = "reason+state" ∨ Gen.C18.killGuard = "reason+state+notInRoster") ∧
    Gen.C18.killReason = "REASON_RECONCILIATION" ∧ Gen.C18.killCallsInHandleMessage = 1 := by decide

/-- The states listed in the KILL branch are the model's `killStates`. -/
theorem C18_kill_states_is_code :
    Gen.C18.killStates.map stateOfName = unguardedCfg.killStates.map some := by decide

/-- A RECONCILE call — implicit: no task list — is issued on SUBSCRIBED, after TrackSubscription stored the id,
    and on EVERY SUBSCRIBED: the handler is straight-line code and nothing next to it outlives one event (no
    "first subscription only", no rate limit) — the model's `read` of a SUBSCRIBED always reconciles. -/
theorem C18_reconcile_on_subscribed_is_code :
    (Gen.C18.reconcileOnSubscribed && Gen.C18.reconcileIsImplicit && Gen.C18.trackSubscriptionBeforeReconcile &&
     Gen.C18.reconcileOnEverySubscribed) = true := by decide

/-- The framework-id store is seeded from, and written back to, the runtime entry aliecs/mesos_fid, it is the
    store SUBSCRIBE and every other call take the id from, the failover timeout is set (so SUBSCRIBE carries
    the id), and every life starts with an empty roster. -/
theorem C18_fid_store_is_code :
    (Gen.C18.fidSeededFromRuntimeEntry && Gen.C18.fidWrittenBackToRuntimeEntry && Gen.C18.fidStoreFeedsSubscribe &&
     Gen.C18.failoverTimeoutSet && Gen.C18.failoverDefaultPositive && Gen.C18.rosterFreshPerLife) = true ∧
    Gen.C18.fidRuntimeKey = "aliecs/mesos_fid" := by decide

/-- The framework does not declare PARTITION_AWARE: the master reports TASK_LOST, never TASK_UNREACHABLE. -/
theorem C18_not_partition_aware_is_code : Gen.C18.partitionAware = false := by decide

/-- Both configurations satisfy what the invariants need. -/
theorem C18_cfg_sound (c : Cfg) (hc : c = unguardedCfg ∨ c = guardedCfg) : Sound c := by
  rcases hc with rfl | rfl <;>
    exact ⟨rfl, rfl, rfl, rfl, by decide, by intro st; cases st <;> decide, rfl⟩

/-- doKillTasks writes the roster as the model's `releaseBegin`/`releaseEnd` do — before its KILL calls only
    `m.roster.updateTasks(m.roster.filtered(…))` (a fresh read, filtered, written at once), after a failed call
    `m.roster.append(<that task>)`, nothing else, nothing after the loop — and the roster has no other writer than
    acquireTasks' `append` (the model's `launch`): the model's configuration has `snapshotRewrite = false`. -/
theorem C18_kill_tasks_roster_writes_is_code :
    Gen.C18.killTasksRosterWrites = "filter-then-append" ∧
    Gen.C18.rosterWriteSites = ["acquireTasks:append", "doKillTasks:append", "doKillTasks:updateTasks", "doKillTasks:updateTasks"] ∧
    codeCfg.snapshotRewrite = false := by decide

/-- **Same identity.** Once a framework id is persisted (by an earlier installation: `kv0`; or by any life
    of this history), every later SUBSCRIBE — of the same life after a reconnection, or of any later life —
    carries it, and the persisted id never changes. For ALL histories. -/
theorem C18_same_identity (c : Cfg) (W : World) (hseed : c.seedFid = true) (hfo : c.failover = true)
    (kv0 : Option Nat) (h : List Step) :
    sameIdentity (run c W h (init kv0)).log = true ∧ persistedOnce (run c W h (init kv0)).log = true :=
  let i := Reach.invA hseed hfo (.run W h (all_true h) (.init kv0))
  ⟨i.same, i.once⟩

/-- The same, read on the state: whatever is in `mesos_fid` is the id in memory of a live core and the id of
    the stream it is subscribed on. -/
theorem C18_identity_state (c : Cfg) (W : World) (hseed : c.seedFid = true) (hfo : c.failover = true)
    (kv0 : Option Nat) (h : List Step) (f : Nat) (hkv : (run c W h (init kv0)).kv = some f) :
    ((run c W h (init kv0)).alive = true → (run c W h (init kv0)).fidMem = some f) ∧
    ((run c W h (init kv0)).stream = none ∨ (run c W h (init kv0)).stream = some f) :=
  let i := Reach.invA hseed hfo (.run W h (all_true h) (.init kv0))
  ⟨fun ha => i.mem ha f hkv, i.stream f hkv⟩

/-- … and a core that is connected HAS persisted its id (write-back), so the next life finds it. -/
theorem C18_identity_persisted (c : Cfg) (W : World) (hc : Sound c) (hW : ∀ n t, W.answers n t = true)
    (kv0 : Option Nat) (h : List Step) (hh : h.all (stepOk c) = true)
    (hconn : (run c W h (init kv0)).alive = true ∧ (run c W h (init kv0)).connected = true) :
    ∃ f, (run c W h (init kv0)).kv = some f ∧ (run c W h (init kv0)).stream = some f :=
  have ⟨f, hs, hk⟩ := (Reach.invB hc (.run W h hh (.init kv0))).connected hconn.1 hconn.2
  ⟨f, hk, hs⟩

/-- **Orphans killed.** Whenever the system is quiescent in some life (connected, nothing in flight), every
    task of an EARLIER life that the master still holds in a state the KILL branch lists has received a KILL
    from the current life, caused by the reconciliation answer. For ALL histories — any number of lives,
    crashes (SIGKILL) and orderly shutdowns (SIGTERM) at any point of any environment's life, connection drops
    in between — under the assumptions that the master answers implicit reconciliation completely and reports no
    non-terminal state the KILL branch does not list (`stepOk`). -/
theorem C18_orphans_killed (c : Cfg) (W : World) (hc : Sound c) (hW : ∀ n t, W.answers n t = true)
    (kv0 : Option Nat) (h : List Step) (hh : h.all (stepOk c) = true) :
    orphansKilled (run c W h (init kv0)).log = true :=
  orphansKilled_of_eachRound _ (invQ_run c W hc hW kv0 h hh).spec

/-- **Orphans killed after EVERY reconciliation round** (strictly stronger than `C18_orphans_killed`, see
    `C18_every_round_implies_once`). Whenever the system is quiescent in some life, every task of an earlier
    life that the master still holds in a listed state has received a KILL from the current life that is
    NEWER than the latest RECONCILE call of that life: the KILL answers the latest reconciliation answer
    reporting the task alive. So an orphan that survives its KILL — the call was lost with the connection, the
    agent is partitioned, the task hangs in TASK_KILLING — is killed again after every re-subscription, for as
    long as the master reports it; a core that sends "one KILL per orphan" does not satisfy this
    (`C18_one_kill_per_orphan_is_not_enough`). For ALL histories, same hypotheses as `C18_orphans_killed`. -/
theorem C18_orphans_killed_every_round (c : Cfg) (W : World) (hc : Sound c) (hW : ∀ n t, W.answers n t = true)
    (kv0 : Option Nat) (h : List Step) (hh : h.all (stepOk c) = true) :
    orphansKilledEachRound (run c W h (init kv0)).log = true :=
  (invQ_run c W hc hW kv0 h hh).spec

/-- The per-round predicate implies the per-task one, on every log (also on the log of the real core). -/
theorem C18_every_round_implies_once (log : List Out) (h : orphansKilledEachRound log = true) :
    orphansKilled log = true :=
  orphansKilled_of_eachRound log h

/-- The same on the state instead of the observer's snapshots: in a quiescent state no task of an earlier
    life is alive (killable) without a KILL of the current life in the log — sent since the latest RECONCILE
    call of the current life. -/
theorem C18_no_task_survives_unowned (c : Cfg) (W : World) (hc : Sound c) (hW : ∀ n t, W.answers n t = true)
    (kv0 : Option Nat) (h : List Step) (hh : h.all (stepOk c) = true) :
    let s := run c W h (init kv0)
    s.alive = true → s.connected = true → s.queue = [] → s.inbox = [] →
    ∀ t ∈ s.tasks, t.life < s.life → c.killable t.state = true →
      ∃ owned, Out.kill s.life t.id (.update .recon) owned ∈ sinceReconcile s.life s.log ∧
               Out.kill s.life t.id (.update .recon) owned ∈ s.log := by
  intro s ha hcn hq hi t ht hlt hk
  have hquiet : s.quiescent = true := by simp [St.quiescent, ha, hcn, hq, hi]
  rcases (plain_orphans c W hc hW kv0 h hh).1.quiet hquiet t ht hlt hk with ⟨o, _, ho⟩ | hm
  · exact ⟨o, ho, sinceReconcile_sub _ _ _ ho⟩
  · cases hm

/-- A history in which an orphan SURVIVES its KILL (nothing obliges a task to die): life 2 kills task 0 after
    its first reconciliation, the stream is dropped, life 2 re-subscribes and reconciles again, the master
    reports the task RUNNING again. -/
def C18_witness_survivor : List Step :=
  [.coreStart, .subscribe, .read, .launch 0 0, .status 0 .running, .read, .handle, .coreKill,
   .coreStart, .subscribe, .read, .read, .handle, .snapshot,
   .drop, .subscribe, .read, .read, .handle, .snapshot]

/-- What the model's core (= the code) does on it: TWO KILLs of life 2 for task 0, one per round. -/
theorem C18_survivor_is_killed_again :
    ((run unguardedCfg World.complete C18_witness_survivor (init none)).log.filter (isReconKill 2 0)).length = 2 ∧
    ((run guardedCfg World.complete C18_witness_survivor (init none)).log.filter (isReconKill 2 0)).length = 2 := by
  decide

/-- "One KILL per orphan task is enough" is NOT what the property asks: the log of a core that behaves like
    the model except that it skips the KILL for a task it has KILLed before (here: the model's log on the
    survivor history with the second KILL removed) satisfies the per-task predicate but not the per-round
    one. This is why `Spec.C18.all` contains `orphansKilledEachRound`. -/
theorem C18_one_kill_per_orphan_is_not_enough :
    let log := run unguardedCfg World.complete C18_witness_survivor (init none) |>.log
    let once := log.eraseP (isReconKill 2 0)   -- newest first: drops the SECOND KILL
    orphansKilled once = true ∧ orphansKilledEachRound once = false ∧ orphansKilledEachRound log = true := by
  decide

/-- … and such a task is never in the roster of the new life (it is "unowned"): the roster only holds tasks
    launched by the current life. -/
theorem C18_orphans_are_unowned (c : Cfg) (W : World) (hc : Sound c) (hW : ∀ n t, W.answers n t = true)
    (kv0 : Option Nat) (h : List Step) (hh : h.all (stepOk c) = true) :
    let s := run c W h (init kv0)
    ∀ t ∈ s.tasks, t.life < s.life → inRoster s.roster t.id = false := by
  intro s t ht hlt
  exact not_inRoster_of_old c s (Reach.invB hc (.run W h hh (.init kv0))) t ht hlt

/-- The assumption on the master cannot be dropped: if the answer omits a task, it survives. -/
theorem C18_orphans_need_complete_answers :
    ¬ ∀ (W : World) (h : List Step), orphansKilled (run unguardedCfg W h (init none)).log = true := by
  intro hall
  have := hall { answers := fun _ _ => false }
    [.coreStart, .subscribe, .read, .launch 0 0, .status 0 .running, .read, .handle,
     .coreKill, .coreStart, .subscribe, .read, .snapshot]
  revert this; decide

/-- FULL-STRENGTH statement: reconciliation answers — after a restart or after a mere
    reconnection — never cause a KILL of an owned task (locked in the roster, or held by a live environment). -/
def C18_owned_spared_full (c : Cfg) : Prop :=
  ∀ (W : World) (kv0 : Option Nat) (h : List Step), ownedSpared (run c W h (init kv0)).log = true

/-- Witness of the finding: one life, one environment with one healthy task, the master drops the stream,
    mesos-go re-subscribes, the core reconciles, the master reports the task RUNNING, the core KILLs it. -/
def C18_witness_reconnect : List Step :=
  [.coreStart, .subscribe, .read, .launch 0 0, .status 0 .running, .read, .handle,
   .drop, .subscribe, .read, .read, .handle]

/-- **Finding `reconnect_kills_owned`.** The code as pinned violates the full statement. -/
theorem C18_finding_reconnect_kills_owned : ¬ C18_owned_spared_full unguardedCfg := by
  intro hfull
  have := hfull World.complete none C18_witness_reconnect
  revert this; decide

/-- What the code does guarantee: as long as the connection is never (re-)established while the roster holds
    a locked task (and the master volunteers no reconciliation update for one), no reconciliation answer
    kills an owned task — in particular after every RESTART, where the roster is empty when the new life
    subscribes. For ALL histories satisfying the hypothesis, both configurations. -/
theorem C18_owned_spared_partial (c : Cfg) (W : World) (hseed : c.seedFid = true) (hfo : c.failover = true)
    (hrw : c.snapshotRewrite = false)
    (kv0 : Option Nat) (h : List Step) (hno : noReconnWhileOwning c W h (init kv0) = true) :
    ownedSpared (run c W h (init kv0)).log = true :=
  (invP_run c W hrw h _ hno (invB_init c kv0).seen (invR_init kv0) (invP_init kv0)).spec

/-- **The roster is complete.** In every reachable state, every task that a live environment holds — launched
    in this life, its environment not torn down since (`C18_held_until_released`) — has a roster entry of that
    environment, locked. For ALL histories, in particular those in which a teardown's two roster writes
    (`releaseBegin e … releaseEnd e`, the KILL calls in flight between them) are interleaved with `launch`es of
    other environments, further teardowns, connection drops (the KILLs then fail and the tasks are appended back)
    and restarts. Hypothesis: the code appends failed tasks back one by one instead of writing back a roster
    value read before the calls (`C18_kill_tasks_roster_writes_is_code`); `C18_roster_needs_append_back` shows
    it cannot be dropped. -/
theorem C18_roster_complete (c : Cfg) (hrw : c.snapshotRewrite = false) (W : World) (kv0 : Option Nat) (h : List Step) :
    let s := run c W h (init kv0)
    ∀ t e, (t, e) ∈ s.held → ∃ r ∈ s.roster, r.id = t ∧ r.env = e ∧ r.locked = true := by
  intro s t e hm
  exact (Reach.invR hrw (.run W h (all_true h) (.init kv0))).complete (t, e) hm

/-- … and sound: "locked in the roster" and "held by a live environment" are the same thing in every reachable
    state, so the roster test of the KILL branch decides ownership correctly. -/
theorem C18_owned_is_held (c : Cfg) (hrw : c.snapshotRewrite = false) (W : World) (kv0 : Option Nat) (h : List Step) :
    let s := run c W h (init kv0)
    ∀ t, lockedIn s.roster t = heldBy s.held t := by
  intro s t
  exact (heldBy_eq_lockedIn s (Reach.invR hrw (.run W h (all_true h) (.init kv0))) t).symm

/-- What `held` means, without reference to the roster: a task stays held by its environment `e` as long as
    the process lives on and `e` is not torn down (`release e` / `releaseBegin e`); `launch` makes it held. -/
theorem C18_held_until_released (c : Cfg) (W : World) (s : St) (x : Step) (t e : Nat) (hm : (t, e) ∈ s.held)
    (hal : (step c W s x).alive = true) (hl : (step c W s x).life = s.life)
    (h1 : x ≠ .release e) (h2 : x ≠ .releaseBegin e) : (t, e) ∈ (step c W s x).held := by
  have hs := step_eff c W s x
  generalize step c W s x = s' at hs hal hl ⊢
  cases hs with
  | coreStart => exact absurd hl (Nat.succ_ne_self _)
  | coreKill | coreTerm | stateError => cases hal
  | launch => exact List.mem_append_left _ hm
  | release e' | releaseFailed e' => exact List.mem_filter.mpr ⟨hm, by simpa using fun (h : e = e') => h1 (h ▸ rfl)⟩
  | releaseBegin e' => exact List.mem_filter.mpr ⟨hm, by simpa using fun (h : e = e') => h2 (h ▸ rfl)⟩
  | _ => exact hm

theorem C18_launch_holds (c : Cfg) (W : World) (s : St) (e t f : Nat) (hal : s.alive = true) (hs : s.stream = some f)
    (hh : s.hello = none) (hf : t ∉ s.seen) :
    (t, e) ∈ (step c W s (.launch e t)).held ∧ lockedIn (step c W s (.launch e t)).roster t = true := by
  simp [step, hal, hs, hh, hf, lockedIn]

/-- A teardown without anything in between IS the two halves one after the other: `release e` =
    `releaseBegin e` then `releaseEnd e` (no other teardown of `e` in flight), in both configurations and also
    with a snapshot written back — the difference only shows when something is interleaved. -/
theorem C18_release_is_split (c : Cfg) (W : World) (s : St) (e : Nat)
    (hno : s.tearing.all (fun d => d.env != e) = true) :
    step c W (step c W s (.releaseBegin e)) (.releaseEnd e) = step c W s (.release e) := by
  by_cases hal : s.alive = true
  case neg => simp [step, hal]
  -- no teardown of `e` is in flight: `releaseEnd e` finds the one `releaseBegin e` has just added, and removes it
  have hnone : ∀ d ∈ s.tearing, ¬ (d.env == e) = true := fun d hd => by simpa using List.all_eq_true.mp hno d hd
  have hfind : s.tearing.find? (fun d => d.env == e) = none := List.find?_eq_none.mpr hnone
  have herase : ∀ d : Teardown, d.env = e → (s.tearing ++ [d]).eraseP (fun d => d.env == e) = s.tearing := by
    intro d hd
    rw [List.eraseP_append_right _ hnone]
    simp [hd]
  by_cases hs : s.stream.isSome = true
  · simp [step, hal, hs, hfind, List.find?_append, herase, killsFor, putBack, Function.comp_def]
  · simp [step, hal, hs, hfind, List.find?_append, herase]
    -- the KILLs fail: `putBack e` of an ACTIVE entry of `e` is that entry, unlocked
    intro a _ ha he
    cases a; simp_all [putBack]

/-- A teardown of environment 0 whose KILL call is in flight while environment 1 is deployed; then the stream
    is dropped, the core re-subscribes and the master reports task 1 (owned, running) in its answer. -/
def C18_witness_overlap : List Step :=
  [.coreStart, .subscribe, .read, .launch 0 0, .status 0 .running, .read, .handle,
   .releaseBegin 0, .launch 1 1, .status 1 .running, .read, .handle, .releaseEnd 0, .status 0 .killed, .read, .handle,
   .drop, .subscribe, .read, .read, .handle]

/-- `C18_roster_complete` needs its hypothesis: a doKillTasks that writes the roster value it read before its
    KILL calls back after them (`staleCfg`) loses the task deployed in between — held by environment 1, running,
    and no longer in the roster. -/
theorem C18_roster_needs_append_back :
    let s := run staleCfg World.complete (C18_witness_overlap.take 13) (init none)
    (1, 1) ∈ s.held ∧ inRoster s.roster 1 = false ∧
    inRoster (run guardedCfg World.complete (C18_witness_overlap.take 13) (init none)).roster 1 = true := by
  decide

/-- With the roster test of notes/C18.fix.patch the full statement holds, for ALL histories, with no
    hypothesis on reconnections — given that the roster is complete (`C18_roster_complete`: failed KILLs are
    appended back, no snapshot is rewritten), so that "not in the roster" implies "not held by any environment". -/
theorem C18_owned_spared_fixed (c : Cfg) (hg : c.rosterGuard = true) (hrw : c.snapshotRewrite = false) :
    C18_owned_spared_full c := by
  intro W kv0 h
  exact Reach.spared hg hrw (.run W h (all_true h) (.init kv0))

/-- … and the roster test ALONE is not enough: with a doKillTasks that rewrites a stale snapshot, the witness
    history ends with a KILL — caused by the reconciliation answer after the re-subscription — of task 1, which
    environment 1 holds. (This is the class of regressions "the roster forgets an owned task": the KILL branch
    then takes the task for a leftover of a previous life.) -/
theorem C18_stale_snapshot_kills_owned : ¬ C18_owned_spared_full staleCfg := by
  intro hfull
  have := hfull World.complete none C18_witness_overlap
  revert this; decide

/-- The patch does not cost the other half: the guarded configuration still kills every orphan
    (instance of `C18_orphans_killed`; stated because it is the point of the patch). -/
theorem C18_fixed_still_kills_orphans (W : World) (hW : ∀ n t, W.answers n t = true)
    (kv0 : Option Nat) (h : List Step) (hh : h.all (stepOk guardedCfg) = true) :
    orphansKilled (run guardedCfg W h (init kv0)).log = true :=
  C18_orphans_killed guardedCfg W (C18_cfg_sound _ (Or.inr rfl)) hW kv0 h hh

/-- Ordinary status updates (reason ≠ RECONCILIATION) never cause a KILL. For ALL histories. -/
theorem C18_updates_never_kill (c : Cfg) (hg : c.reasonGuard = true) (W : World) (kv0 : Option Nat) (h : List Step) :
    updatesNeverKill (run c W h (init kv0)).log = true :=
  Reach.neverKill hg (.run W h (all_true h) (.init kv0))

/-- The layered model is a conservative extension: a history without `hide`/`unhide`/`mute`/`unmute` is a
    history of Model/Reconcile.lean against a master that answers completely — every theorem above is a theorem
    about the layered model too. -/
theorem C18_resub_conservative (c : Cfg) (kv0 : Option Nat) (h : List Step) :
    (rrun c (h.map .base) (rinit kv0)).base = run c World.complete h (init kv0) :=
  rrun_plain c h (rinit kv0) rfl rfl

/-- **Orphans killed after EVERY subscription** (Model/Reconcile.lean, complete answers): at every quiet point the KILL of
    an orphan the master holds alive is NEWER than the latest SUBSCRIBE of the current life — a re-subscription
    starts the obligation afresh, whatever earlier subscriptions of the life did. For ALL histories of listed states
    (`stepOk`). -/
theorem C18_orphans_killed_every_subscription (c : Cfg) (W : World) (hc : Sound c) (hW : ∀ n t, W.answers n t = true)
    (kv0 : Option Nat) (h : List Step) (hh : h.all (stepOk c) = true) :
    orphansKilledEachSubscription (run c W h (init kv0)).log = true :=
  (plain_orphans c W hc hW kv0 h hh).2.1

/-- The per-subscription predicate implies the per-task one, on every log (also on the log of the real core). -/
theorem C18_every_subscription_implies_once (log : List Out) (h : orphansKilledEachSubscription log = true) :
    orphansKilled log = true :=
  orphansKilled_of_eachSubscription log h

/-- FULL-STRENGTH statement: against a master whose reconciliation answers may leave tasks out
    and whose scheduler API may lose a RECONCILE — at any point, any number of times, any number of restarts and
    reconnections — at every quiet point every task of an earlier life that the master REPORTS alive has received
    a KILL from the current life since the current life last subscribed. -/
def C18_visible_orphans_killed_full (c : Cfg) : Prop :=
  ∀ (kv0 : Option Nat) (h : List RStep), h.all (rstepOk c) = true →
    orphansKilledEachSubscription (rrun c h (rinit kv0)).base.log = true

/-- An orphan whose agent is away when life 2 reconciles (so the answer leaves it out), and back afterwards:
    reported alive at the next quiet point — and the core, which asks on SUBSCRIBED only, never asks again. -/
def C18_witness_late : List RStep :=
  [.base .coreStart, .base .subscribe, .base .read, .base (.launch 0 0), .base (.status 0 .running), .base .read, .base .handle,
   .hide 0, .base .coreKill, .base .coreStart, .base .subscribe, .base .read, .base .snapshot,
   .unhide 0, .base .snapshot]

/-- **Finding `late_orphan_never_reconciled`.** The code violates the full statement: it reconciles once per
    SUBSCRIBED event and at no other time (no timer, no retry of a lost RECONCILE), so a task of a previous life
    that the master could not report at that moment survives unowned until the connection happens to drop. -/
theorem C18_finding_late_orphan_never_reconciled : ¬ C18_visible_orphans_killed_full guardedCfg := by
  intro hfull
  have := hfull none C18_witness_late (by decide)
  revert this; decide

/-- What the code does guarantee against such a master: as long as
    whatever the master reports alive at a quiet point could already be reported when the core last subscribed
    (`noLateOrphans`: no reported orphan is among the tasks the answer to the current subscription's RECONCILE
    left out), every reported orphan has a KILL newer than the latest SUBSCRIBE (and than the latest RECONCILE:
    the per-round predicate holds too). No hypothesis on EARLIER
    subscriptions: their answers may have been incomplete or lost in any way — a task missed by the first answer
    of the life (or of several lives) is killed when a later subscription's answer shows it. For ALL histories of
    the layered model with listed states only (`rstepOk`). -/
theorem C18_visible_orphans_killed_partial (c : Cfg) (hc : Sound c) (kv0 : Option Nat) (h : List RStep)
    (hh : h.all (rstepOk c) = true) (hno : noLateOrphans c h (rinit kv0) = true) :
    orphansKilledEachSubscription (rrun c h (rinit kv0)).base.log = true ∧
    orphansKilledEachRound (rrun c h (rinit kv0)).base.log = true :=
  orphanSpec_rrun c hc h hh (rinit kv0) (orphans_init c kv0) hno (orphanSpec_init kv0)

/-- The same on the state: in a quiescent state every task of an earlier life that is alive (killable) is either
    KILLed since the latest SUBSCRIBE of the current life, or was left out of the answer to the current
    subscription's RECONCILE — with NO hypothesis about late orphans. -/
theorem C18_orphan_killed_or_missed (c : Cfg) (hc : Sound c) (kv0 : Option Nat) (h : List RStep)
    (hh : h.all (rstepOk c) = true) :
    let r := rrun c h (rinit kv0)
    r.base.quiescent = true →
    ∀ t ∈ r.base.tasks, t.life < r.base.life → c.killable t.state = true →
      (∃ owned, Out.kill r.base.life t.id (.update .recon) owned ∈ sinceSubscribe r.base.life r.base.log) ∨
      t.id ∈ r.missed := by
  intro r hq t ht hlt hk
  exact ((orphans_rrun c hc h hh _ (orphans_init c kv0)).inv.quiet hq t ht hlt hk).imp_left fun ⟨o, ho, _⟩ => ⟨o, ho⟩

/-- The class the property needs and a core that reconciles on its first SUBSCRIBED only gets wrong: task 0's
    agent is away when life 2 subscribes and reconciles, it registers again while the stream is down, life 2
    re-subscribes and reconciles AGAIN, the master reports the task, the core KILLs it. -/
def C18_witness_missed : List RStep :=
  [.base .coreStart, .base .subscribe, .base .read, .base (.launch 0 0), .base (.status 0 .running), .base .read, .base .handle,
   .hide 0, .base .coreKill, .base .coreStart, .base .subscribe, .base .read, .base .snapshot,
   .unhide 0, .base .drop, .base .subscribe, .base .read, .base .read, .base .handle, .base .snapshot]

/-- What the model's core (= the code) does on it: the first snapshot of life 2 reports no orphan (the master
    cannot see task 0), the last one reports it, with a KILL of life 2 that is newer than the second SUBSCRIBE;
    there are two RECONCILE calls of life 2, one per SUBSCRIBED. -/
theorem C18_missed_orphan_killed_after_resubscription :
    let r := rrun guardedCfg C18_witness_missed (rinit none)
    C18_witness_missed.all (rstepOk guardedCfg) = true ∧ noLateOrphans guardedCfg C18_witness_missed (rinit none) = true ∧
    r.base.log.head? = some (.snap 2 [0]) ∧ Out.snap 2 [] ∈ r.base.log ∧
    (sinceSubscribe 2 r.base.log).any (isReconKill 2 0) = true ∧
    (r.base.log.filter (· == .reconcile 2)).length = 2 ∧ allR r.base.log r.subs = true := by
  decide

/-- "Reconcile after the first SUBSCRIBED of a life" is NOT what the property asks. The log of a core that
    behaves like the model except that it sends no RECONCILE (hence no KILL) after a RE-subscription — here: the
    model's log on the survivor history `C18_witness_survivor` with the second RECONCILE and the second KILL of
    life 2 removed — satisfies the per-task predicate and even the per-round one (its latest RECONCILE is the
    first one, and the KILL that followed it is there) but not the per-subscription one: the orphan is reported
    alive under the second subscription and nothing was done about it. This is why `Spec.C18.all` contains
    `orphansKilledEachSubscription`. -/
theorem C18_reconcile_once_per_life_is_not_enough :
    let log := run unguardedCfg World.complete C18_witness_survivor (init none) |>.log
    let once := (log.eraseP (isReconKill 2 0)).eraseP (· == .reconcile 2)   -- newest first: the SECOND round
    orphansKilled once = true ∧ orphansKilledEachRound once = true ∧ orphansKilledEachSubscription once = false ∧
    orphansKilledEachSubscription log = true := by
  decide

/-- **Identity kept over every reconnection.** Every SUBSCRIBE made after a SUBSCRIBED that the core accepted
    presents the framework id the master assigned then — in the SAME life after any number of dropped streams
    (a core in its first life, nothing persisted when it started, included: what it presents is the id it was
    given on its first subscription), and in every later life — and all accepted subscriptions are for one and
    the same framework id; in the log: every SUBSCRIBE after a `persist` carries that id, which never changes.
    For ALL histories of the layered model, any initial content of `mesos_fid`. -/
theorem C18_identity_kept_over_reconnections (c : Cfg) (hseed : c.seedFid = true) (hpers : c.persistFid = true)
    (hfo : c.failover = true) (kv0 : Option Nat) (h : List RStep) :
    identityKept (rrun c h (rinit kv0)).subs = true ∧ oneFramework (rrun c h (rinit kv0)).subs = true ∧
    sameIdentity (rrun c h (rinit kv0)).base.log = true ∧ persistedOnce (rrun c h (rinit kv0)).base.log = true := by
  have i := invS_rrun c hseed hpers hfo h _ (invS_init kv0)
  exact ⟨i.kept, i.one, i.a.same, i.a.once⟩

/-- The same on the state: a live core that has ever had a subscription accepted holds the id assigned then in
    memory — the id its NEXT SUBSCRIBE presents (`step … .subscribe` carries `fidMem`) — and the runtime entry
    holds it too. -/
theorem C18_resubscribe_presents_assigned_id (c : Cfg) (hseed : c.seedFid = true) (hpers : c.persistFid = true)
    (hfo : c.failover = true) (kv0 : Option Nat) (h : List RStep) :
    let r := rrun c h (rinit kv0)
    ∀ y ∈ r.subs, y.accepted = true →
      r.base.kv = some y.assigned ∧ (r.base.alive = true → r.base.fidMem = some y.assigned) := by
  intro r y hy hacc
  have i := invS_rrun c hseed hpers hfo h _ (invS_init kv0)
  have hk := i.acc y hy hacc
  exact ⟨hk, fun ha => by rw [i.mem ha]; exact hk⟩

/-- **One framework.** After any history of listed states (`rstepOk`) — restarts, reconnections, incomplete answers —
    while the core is connected, every task the core ever launched is a task of the framework the core is subscribed as NOW: the tasks of its live
    environments are still its own after a reconnection (`C18_roster_complete`: they are in the roster; here: the master
    files them under the id of the connected stream). -/
theorem C18_one_framework (c : Cfg) (hc : Sound c) (kv0 : Option Nat) (h : List RStep) (hh : h.all (rstepOk c) = true) :
    let r := rrun c h (rinit kv0)
    r.base.alive = true → r.base.connected = true → ∀ t ∈ r.base.tasks, r.base.stream = some t.fid := by
  intro r ha hcn t ht
  have i : InvB c r.base := Reach.invB hc (.rrun h (fun _ hy => List.all_eq_true.mp hh _ hy) (.init kv0))
  obtain ⟨f, hs, hk⟩ := i.connected ha hcn
  rw [hs, ← hk, i.fid t ht]

/-- **Locked roster tasks (and held ones) are never killed by a reconciliation answer** — with the roster test and
    failed KILLs appended back (`hg`, `hrw`), over ALL histories of the layered model: any number of reconnections at any point, answers that leave out or bring back any task at any time
    (a task of a live environment left out of one answer and reported by the next is spared both times). -/
theorem C18_roster_tasks_never_killed_over_reconnections (c : Cfg) (hg : c.rosterGuard = true)
    (hrw : c.snapshotRewrite = false) (kv0 : Option Nat) (h : List RStep) :
    ownedSpared (rrun c h (rinit kv0)).base.log = true :=
  Reach.spared hg hrw (.rrun (ok := fun _ => true) h (fun _ _ => rfl) (.init kv0))

/-- Ordinary status updates never cause a KILL — layered model, ALL histories. -/
theorem C18_updates_never_kill_over_reconnections (c : Cfg) (hg : c.reasonGuard = true) (kv0 : Option Nat) (h : List RStep) :
    updatesNeverKill (rrun c h (rinit kv0)).base.log = true :=
  Reach.neverKill hg (.rrun (ok := fun _ => true) h (fun _ _ => rfl) (.init kv0))

/-- Everything, at the configuration read off the code on this run, for the layered model: the whole Spec on the
    log AND on the SUBSCRIBE/SUBSCRIBED pairs, for ALL histories (no UNREACHABLE) with incomplete answers that have no late
    orphan (and, should the roster test be missing, no reconnection while owning — not expressible here, so the
    roster test is a hypothesis). -/
theorem C18_code_meets_spec_over_reconnections (kv0 : Option Nat) (h : List RStep)
    (hh : h.all (rstepOk codeCfg) = true) (hno : noLateOrphans codeCfg h (rinit kv0) = true)
    (hg : codeCfg.rosterGuard = true) :
    allR (rrun codeCfg h (rinit kv0)).base.log (rrun codeCfg h (rinit kv0)).subs = true := by
  have hc := C18_cfg_is_code
  have hs := C18_cfg_sound codeCfg hc
  have h1 := C18_identity_kept_over_reconnections codeCfg hs.seed hs.persist hs.failover kv0 h
  have h2 := C18_visible_orphans_killed_partial codeCfg hs kv0 h hh hno
  have h3 := C18_roster_tasks_never_killed_over_reconnections codeCfg hg hs.norewrite kv0 h
  have h4 := C18_updates_never_kill_over_reconnections codeCfg (by rcases hc with e | e <;> rw [e] <;> rfl) kv0 h
  have h5 := orphansKilled_of_eachSubscription _ h2.1
  simp [allR, Spec.C18.all, h1.1, h1.2.1, h1.2.2.1, h1.2.2.2, h2.1, h2.2, h3, h4, h5]

/-- **The guards of the model are the guards of the code.** In updateTaskStatus both id copies stand in the
    TASK_RUNNING clause, each under `if status.Get…ID() != nil` (go/ast, regenerated on every run), and nothing else in
    package core/task writes a task's `agentId` / `executorId` but HandleAgentFailed / HandleExecutorFailed, which blank one
    of them for the tasks of a lost agent / executor (dead tasks; C06). -/
theorem C18_status_id_copy_is_code :
    codeGuards = TaskIds.codeGuards ∧ Gen.TaskIds.copiesUnderRunningOnly = true ∧
    Gen.TaskIds.idWriteSites = ["HandleAgentFailed:agentId:blank", "HandleExecutorFailed:executorId:blank",
                                "updateTaskStatus:agentId:status", "updateTaskStatus:executorId:status"] := by decide

/-- **Sparse updates change nothing**: with the code's guards a history in which any messages lack any optional fields
    ends in the state the history with complete messages ends in — every theorem of the layers below carries over. -/
theorem C18_sparse_updates_conservative (c : Cfg) (kv0 : Option Nat) (h : List SStep) :
    srun TaskIds.codeGuards c h (rinit kv0) = rrun c (h.map SStep.erase) (rinit kv0) :=
  srun_code c h _

/-- **The tasks of live environments stay owned.** After ANY history — reconnections at any point, answers that leave
    tasks out or bring them back, messages that lack agent_id and/or executor_id at any point — every task a live
    environment holds has a roster entry of that environment, LOCKED: the next sweep of unowned tasks spares it. -/
theorem C18_owned_stay_locked_under_sparse_updates (c : Cfg) (hrw : c.snapshotRewrite = false) (kv0 : Option Nat) (h : List SStep) :
    let s := (srun TaskIds.codeGuards c h (rinit kv0)).base
    (∀ t e, (t, e) ∈ s.held → ∃ r ∈ s.roster, r.id = t ∧ r.env = e ∧ r.locked = true) ∧
    (∀ t, lockedIn s.roster t = heldBy s.held t) := by
  intro s
  have i : InvR s := by
    show InvR (srun TaskIds.codeGuards c h (rinit kv0)).base
    rw [srun_code]; exact Reach.invR hrw (.rrun (ok := fun _ => true) _ (fun _ _ => rfl) (.init kv0))
  exact ⟨fun t e hm => i.complete (t, e) hm, fun t => (heldBy_eq_lockedIn s i t).symm⟩

/-- … in the form the driver evaluates on the real core: at every quiet point of every history every held task is
    locked (`Spec.C18.heldLocked` of the views collected along the history). -/
theorem C18_held_locked_at_every_quiet_point (c : Cfg) (hrw : c.snapshotRewrite = false) (kv0 : Option Nat) (h : List SStep) :
    heldLocked (sviews TaskIds.codeGuards c h (rinit kv0)) = true :=
  heldLocked_sviews c hrw h _ (.init kv0)

/-- Locked roster tasks (and held ones) are never killed by a reconciliation answer, sparse or not (same `hg`, `hrw`). -/
theorem C18_roster_tasks_never_killed_under_sparse_updates (c : Cfg) (hg : c.rosterGuard = true)
    (hrw : c.snapshotRewrite = false) (kv0 : Option Nat) (h : List SStep) :
    ownedSpared (srun TaskIds.codeGuards c h (rinit kv0)).base.log = true := by
  rw [srun_code]; exact C18_roster_tasks_never_killed_over_reconnections c hg hrw kv0 _

/-- Everything, at the configuration AND the guards read off the code on this run, for ALL histories with sparse
    updates: the whole Spec on the log, on the SUBSCRIBE/SUBSCRIBED pairs and on the views at the quiet points
    (hypotheses as in `C18_code_meets_spec_over_reconnections`, on the history with the omissions erased). -/
theorem C18_code_meets_spec_under_sparse_updates (kv0 : Option Nat) (h : List SStep)
    (hh : (h.map SStep.erase).all (rstepOk codeCfg) = true) (hno : noLateOrphans codeCfg (h.map SStep.erase) (rinit kv0) = true)
    (hg : codeCfg.rosterGuard = true) :
    allS (srun codeGuards codeCfg h (rinit kv0)).base.log (srun codeGuards codeCfg h (rinit kv0)).subs
      (sviews codeGuards codeCfg h (rinit kv0)) = true := by
  have hgd : codeGuards = TaskIds.codeGuards := C18_status_id_copy_is_code.1
  have hs := C18_cfg_sound codeCfg C18_cfg_is_code
  rw [hgd, srun_code]
  simp only [allS, Bool.and_eq_true]
  exact ⟨C18_code_meets_spec_over_reconnections kv0 _ hh hno hg, C18_held_locked_at_every_quiet_point codeCfg hs.norewrite kv0 h⟩

/-- A complete message — both optional fields present, what the AliECS executor always sends and what a master with a
    full task record answers — is handled alike with and without the guards (restarts, reconnections and incomplete
    answer SETS, the layers below, are steps `.r x`, on which `sstep` does not read the guards). -/
theorem C18_complete_updates_hide_the_difference (g : TaskIds.Guards) (c : Cfg) (r : RSt) :
    sstep g c r (.handleSparse false false) = sstep TaskIds.codeGuards c r (.handleSparse false false) := by
  rw [sstep_full, sstep_full]

/-- One environment RUNNING, the stream dropped and re-established, the master's reconciliation answer about the task
    of the live environment (TASK_RUNNING, in the roster: it goes to updateTaskStatus) lacks executor_id; quiet points
    before the drop and at the end. -/
def C18_witness_sparse : List SStep :=
  [.r (.base .coreStart), .r (.base .subscribe), .r (.base .read), .r (.base (.launch 0 0)), .r (.base (.status 0 .running)),
   .r (.base .read), .r (.base .handle), .r (.base .snapshot),
   .r (.base .drop), .r (.base .subscribe), .r (.base .read), .r (.base .read), .handleSparse false true, .r (.base .snapshot)]

/-- **Without the guards (NOT the code) a sparse reconciliation answer un-owns the task of a live environment.** On
    `C18_witness_sparse`, roster test in place: no KILL is made at reconciliation time, the task stays in the roster and
    its environment holds it — but it is no longer locked: the roster invariant `C18_owned_stay_locked_under_sparse_updates`
    (what `C18_owned_spared_fixed` and every sweep of unowned tasks rest on) is gone and the Spec clause `heldLocked`
    rejects the second quiet point. With the code's guards the same history leaves the task locked and the whole Spec true. -/
theorem C18_unguarded_id_copy_unlocks_owned :
    (let r := srun TaskIds.noGuards guardedCfg C18_witness_sparse (rinit none)
     (0, 0) ∈ r.base.held ∧ inRoster r.base.roster 0 = true ∧ lockedIn r.base.roster 0 = false ∧
     r.base.log.all (fun o => match o with | .kill _ _ _ _ => false | _ => true) = true ∧
     sviews TaskIds.noGuards guardedCfg C18_witness_sparse (rinit none) = [[(0, true)], [(0, false)]] ∧
     allR r.base.log r.subs = true ∧
     allS r.base.log r.subs (sviews TaskIds.noGuards guardedCfg C18_witness_sparse (rinit none)) = false) ∧
    (let r := srun TaskIds.codeGuards guardedCfg C18_witness_sparse (rinit none)
     (0, 0) ∈ r.base.held ∧ lockedIn r.base.roster 0 = true ∧
     sviews TaskIds.codeGuards guardedCfg C18_witness_sparse (rinit none) = [[(0, true)], [(0, true)]] ∧
     allS r.base.log r.subs (sviews TaskIds.codeGuards guardedCfg C18_witness_sparse (rinit none)) = true) := by
  decide

/-- Either guard alone is not enough: a guard configuration under which no update ever unlocks is the code's. -/
theorem C18_id_guards_needed (g : TaskIds.Guards) :
    (∀ k u, TaskIds.unlocks g k u = false) ↔ g = TaskIds.codeGuards :=
  TaskIds.unlocks_none_iff g

/-- The base model (Model/Reconcile.lean) at the configuration read off the code on this run: same identity,
    orphans killed (complete answers, no UNREACHABLE), ordinary updates never kill — and owned tasks are
    spared in full if the roster test is there, else under `noReconnWhileOwning`. -/
theorem C18_code_meets_spec (W : World) (hW : ∀ n t, W.answers n t = true) (kv0 : Option Nat) (h : List Step)
    (hh : h.all (stepOk codeCfg) = true)
    (hno : codeCfg.rosterGuard = true ∨ noReconnWhileOwning codeCfg W h (init kv0) = true) :
    Spec.C18.all (run codeCfg W h (init kv0)).log = true := by
  have hc := C18_cfg_is_code
  have hs := C18_cfg_sound codeCfg hc
  have h1 := C18_same_identity codeCfg W hs.seed hs.failover kv0 h
  have h2 := C18_orphans_killed codeCfg W hs hW kv0 h hh
  have h2' := C18_orphans_killed_every_round codeCfg W hs hW kv0 h hh
  have h2'' := C18_orphans_killed_every_subscription codeCfg W hs hW kv0 h hh
  have h4 := C18_updates_never_kill codeCfg (by rcases hc with e | e <;> rw [e] <;> rfl) W kv0 h
  have h3 : ownedSpared (run codeCfg W h (init kv0)).log = true := by
    rcases hno with hg | hno
    · exact C18_owned_spared_fixed codeCfg hg hs.norewrite W kv0 h
    · exact C18_owned_spared_partial codeCfg W hs.seed hs.failover hs.norewrite kv0 h hno
  simp [Spec.C18.all, h1.1, h1.2, h2, h2', h2'', h3, h4]

/-- A restart with a live environment: the hypotheses of the partial theorem hold, an orphan exists, it is
    killed, and the snapshot records it. -/
example :
    let h : List Step := [.coreStart, .subscribe, .read, .launch 0 0, .launch 0 1, .status 0 .running, .status 1 .running,
      .read, .read, .handle, .handle, .coreKill, .coreStart, .subscribe, .read, .read, .read, .handle, .handle, .snapshot]
    h.all (stepOk unguardedCfg) = true ∧ noReconnWhileOwning unguardedCfg World.complete h (init none) = true ∧
    (run unguardedCfg World.complete h (init none)).log.head? = some (.snap 2 [0, 1]) ∧
    Spec.C18.all (run unguardedCfg World.complete h (init none)).log = true := by decide

/-- The survivor history is legal (complete answers, listed states, no reconnection while owning), both
    snapshots list the orphan, and the whole Spec holds of the model's log. -/
example : C18_witness_survivor.all (stepOk unguardedCfg) = true ∧
    noReconnWhileOwning unguardedCfg World.complete C18_witness_survivor (init none) = true ∧
    (run unguardedCfg World.complete C18_witness_survivor (init none)).log.head? = some (.snap 2 [0]) ∧
    Spec.C18.all (run unguardedCfg World.complete C18_witness_survivor (init none)).log = true := by decide

/-- The overlap history is legal; with the code's configuration task 1 stays in the roster through the split
    teardown, the reconciliation answer about it causes no KILL, the whole Spec holds — and it is non-trivial:
    the teardown's KILL of task 0 is in the log, task 1 is held and alive at the end. -/
example : C18_witness_overlap.all (stepOk guardedCfg) = true ∧
    (let s := run guardedCfg World.complete C18_witness_overlap (init none)
     (1, 1) ∈ s.held ∧ lockedIn s.roster 1 = true ∧ Out.kill 1 0 .release false ∈ s.log ∧
     s.log.all (fun o => match o with | .kill _ 1 _ _ => false | _ => true) = true ∧ Spec.C18.all s.log = true) := by decide

/-- The witness of the finding is a legal history for the other theorems (complete answers, listed states). -/
example : C18_witness_reconnect.all (stepOk unguardedCfg) = true ∧
    noReconnWhileOwning unguardedCfg World.complete C18_witness_reconnect (init none) = false ∧
    ownedSpared (run guardedCfg World.complete C18_witness_reconnect (init none)).log = true := by decide

/-- A core in its FIRST life (nothing persisted) with a live environment, the stream dropped and re-established:
    the second SUBSCRIBE presents the id the first SUBSCRIBED assigned, the master keeps it, the task of the live
    environment is still held, in the roster, under the framework of the connected stream, and was never KILLed;
    the whole Spec — log and SUBSCRIBE/SUBSCRIBED pairs — holds. -/
example :
    let h : List RStep := [.base .coreStart, .base .subscribe, .base .read, .base (.launch 0 0), .base (.status 0 .running),
      .base .read, .base .handle, .base .snapshot, .base .drop, .base .subscribe, .base .read, .base .read, .base .handle, .base .snapshot]
    let r := rrun guardedCfg h (rinit none)
    h.all (rstepOk guardedCfg) = true ∧ noLateOrphans guardedCfg h (rinit none) = true ∧
    r.subs = [{ life := 1, carry := some 0, assigned := 0, accepted := true }, { life := 1, carry := none, assigned := 0, accepted := true }] ∧
    (0, 0) ∈ r.base.held ∧ lockedIn r.base.roster 0 = true ∧ r.base.stream = some 0 ∧
    r.base.tasks.all (fun t => t.fid == 0) = true ∧
    r.base.log.all (fun o => match o with | .kill _ _ _ _ => false | _ => true) = true ∧
    allR r.base.log r.subs = true := by decide

/-- … and `identityKept` is not vacuous: a re-subscription that presents NO id after an accepted one (the master
    then registers a new framework, id 1) is rejected, and so is one framework after another being accepted. -/
example :
    identityKept [{ life := 1, carry := none, assigned := 1, accepted := false }, { life := 1, carry := none, assigned := 0, accepted := true }] = false ∧
    oneFramework [{ life := 1, carry := none, assigned := 1, accepted := true }, { life := 1, carry := none, assigned := 0, accepted := true }] = false := by
  decide

/-- The witness of the finding is a legal history (listed states only); it violates exactly `noLateOrphans`, at
    its last step; the rest of the Spec holds of it. -/
example : C18_witness_late.all (rstepOk guardedCfg) = true ∧ noLateOrphans guardedCfg C18_witness_late (rinit none) = false ∧
    noLateOrphans guardedCfg C18_witness_late.dropLast (rinit none) = true ∧
    (let r := rrun guardedCfg C18_witness_late (rinit none)
     r.base.log.head? = some (.snap 2 [0]) ∧ r.missed = [0] ∧ r.hidden = [] ∧
     sameIdentity r.base.log = true ∧ ownedSpared r.base.log = true ∧ identityKept r.subs = true ∧ oneFramework r.subs = true ∧
     orphansKilledEachSubscription r.base.log = false) := by decide

/-- The sparse witness is a legal history for the other theorems (listed states, no late orphan), it really contains a
    message that goes to updateTaskStatus and lacks a field, and both quiet points are taken. -/
example : (C18_witness_sparse.map SStep.erase).all (rstepOk guardedCfg) = true ∧
    noLateOrphans guardedCfg (C18_witness_sparse.map SStep.erase) (rinit none) = true ∧
    (srun TaskIds.codeGuards guardedCfg (C18_witness_sparse.take 12) (rinit none)).base.headUpdates guardedCfg = some (0, .running) ∧
    (sviews TaskIds.codeGuards guardedCfg C18_witness_sparse (rinit none)).length = 2 := by decide
