/-
  Props/C19 — "Published events are delivered once, in order, and flushed on shutdown".

  Property theorems only; the model is Model/Writer.lean (goroutine interleavings of
  common/event/writer.go + fifobuffer.go); what a step does (`Move`) and the invariants every
  step preserves are in Proofs/Writer.lean.
  A schedule is a `List Step`; every theorem quantified over `sched` speaks about
  every interleaving of any number of producers, the batching loop, the writing
  loop, the broker's latency (`writeDone`) and the instant of `close`.

  Tie to /repo: `Gen.C19` is rewritten on every run from the working tree —
  constants and loop shapes by go/ast, the FIFO and the partition-key function by
  evaluating the linked code — and identified with the model below; the
  interleaving model itself is tied by the correspondence run (harness/props/c19).

  Worker start-up (`C19_worker_count_is_code`, `C19_close_waits_for_both_workers`,
  `C19_flushed_when_close_returns`, `C19_self_registering_workers_lose_events`): the constructor
  only spawns the two workers; Close() counts them before it closes the channel, so it returns
  only after both have been scheduled and have finished, and at that instant everything accepted
  has been handed to the write function and nothing happens any more.

  The hand-over (`C19_handover_is_code`, `C19_accepted_in_pipeline`, `C19_full_channel_blocks`):
  WriteEvent returns only after its message is in the channel, a full channel makes the
  producer wait, so every accepted event is in channel ∪ hand ∪ buffer ∪ written.

  Two statements of the property were FALSE of the code before its two repairs (`legacyCfg`):
  `C19_flush_full` (finding close_drops_buffered) and `C19_close_terminates_full`
  (finding close_lost_wakeup). Each is stated as a `def`, refuted for `legacyCfg` on a concrete
  schedule, proved under the excluding hypothesis for every configuration in which Close() counts
  the workers (termination: with a positive batch size), and proved outright for the code as it
  is (`codeCfg` = `fixedCfg`: both repairs, notes/C19.fix.patch).
-/
import ControlModel.Gen.C19Writer
import ControlModel.Proofs.Writer
import ControlModel.Proofs.Registry

open Writer

/-- Channel capacity, batch size, the two behaviours the repairs changed and who counts the
    workers are what go/ast finds in writer.go / fifobuffer.go. -/
theorem C19_constants_are_code :
    codeCfg = { cap := Gen.C19.chanCap, batchMax := Gen.C19.popMax,
                drainOnDone := Gen.C19.drainOnDone, releaseSticky := Gen.C19.releaseSticky,
                selfRegister := Gen.C19.workersSelfRegister } := by
  decide

/-- Shape facts the model relies on: the done token fits its channel (the batching loop
    never blocks on it) and is sent before ReleaseGoroutines; the done clause returns;
    every FIFO operation runs under the lock (one atomic step); Push appends at the end. -/
theorem C19_loop_shape_is_code :
    Gen.C19.doneChCap = 1 ∧ Gen.C19.doneBeforeRelease = true ∧ Gen.C19.doneCaseReturns = true ∧
    Gen.C19.fifoOpsLocked = true ∧ Gen.C19.pushAppendsToEnd = true := by
  decide

/-- The model's pop (`take n` / `drop n` of a queue filled at the back) IS what the linked
    FifoBuffer does on every tabulated (n, length). -/
theorem C19_pop_is_code :
    Gen.C19.popTable.all (fun (n, len, popped, rest) =>
      (List.range len).take n == popped && (List.range len).drop n == rest) = true := by
  decide

/-- The model's key function IS what the linked WriteEvent path attaches to the message, for
    all nine payload types × environment id {"", e1, e2} × task id {"", t1, t2}. -/
theorem C19_key_is_code :
    Gen.C19.keyTable.length = 81 ∧
    Gen.C19.keyTable.all (fun (k, env, task, key) =>
      match Kind.ofIdx? k with
      | some kind => keyOf kind env task == key
      | none => false) = true := by
  decide

/-- For every schedule: what has been handed to the write function, followed by the FIFO
    buffer, the message in the batching loop's hand and the channel, IS the publication
    order — nothing lost, duplicated or reordered between the stages; every producer's
    events are numbered 0,1,2,… in that order, no event occurs twice; hence what reached the
    broker is a prefix of the publication order: per producer in order, each once. -/
theorem C19_no_dup_no_reorder (c : Cfg) (sched : List Step) :
    let s := run c init sched
    delivered s ++ s.buf ++ s.hand.toList ++ s.chan = s.pubs ∧
    (∀ p, seqsOf p s.pubs = List.range (countOf p s.pubs)) ∧ s.pubs.Nodup ∧
    delivered s <+: s.pubs ∧ (delivered s).Nodup ∧
    (∀ p, seqsOf p (delivered s) = List.range (countOf p (delivered s))) ∧
    orderedOnce (delivered s) = true := by
  intro s
  have h := (reach c sched).inv
  have hpre : delivered s <+: s.pubs := by
    refine ⟨s.buf ++ s.hand.toList ++ s.chan, ?_⟩
    have := h.cons
    simp only [List.append_assoc] at this ⊢
    exact this
  have hd := seqs_of_prefix hpre h.seqs
  exact ⟨h.cons, h.seqs, h.nodup, hpre, hpre.sublist.nodup h.nodup, hd, orderedOnce_of_seqs hd⟩

/-- For every schedule, every batch handed to the write function is non-empty and at most
    `batchMax` long (= 100 in the code, `C19_constants_are_code`). -/
theorem C19_batch_bound (c : Cfg) (sched : List Step) :
    (∀ b ∈ (run c init sched).written, 0 < b.length ∧ b.length ≤ c.batchMax) ∧
    batchesBounded c.batchMax (run c init sched).written = true := by
  have h := (reach c sched).inv.bound
  refine ⟨h, ?_⟩
  simp only [batchesBounded, List.all_eq_true, Bool.and_eq_true, decide_eq_true_eq]
  exact h

/-- (1) Whether a producer can publish depends on the channel and the closed flag only:
    two states that agree on those agree on `publish`, whatever the writing loop is doing
    (parked in a write call, waiting, gone).
    (2) And the batching loop alone keeps the channel from staying full: from ANY state with
    the channel open and within its capacity and the batching loop scheduled and in its loop,
    however long the write function stays
    parked (no writing-loop step, no `writeDone` occurs in the schedule), `n` rounds "push,
    receive, publish" get `n` further events accepted — nothing is written meanwhile and a
    writing loop that is not waiting does not move. -/
theorem C19_producers_never_wait_on_broker (c : Cfg) (hcap : 0 < c.cap) :
    (∀ (s s' : State) (p : Nat), s.closed = s'.closed → s.chan = s'.chan →
        enabled c s (.publish p) = enabled c s' (.publish p)) ∧
    (∀ (s : State) (p n : Nat), s.closed = false → s.bpc = .loop → s.chan.length ≤ c.cap → s.bStarted = true →
        let s' := run c s (feedN p n)
        s'.pubs.length = s.pubs.length + n ∧ s'.written = s.written ∧
        (s.wpc ≠ .waiting → s'.wpc = s.wpc)) := by
  refine ⟨?_, ?_⟩
  · intro s s' p h1 h2
    rw [Bool.eq_iff_iff, enabled_iff, enabled_iff]
    show (_ ∧ _) ↔ (_ ∧ _); rw [h1, h2]
  · intro s p n h1 h2 h3 h4
    exact (feedN_spec c hcap p n s ⟨h1, h2, h3, h4⟩).2

/-- The rounds contain no step of the writing loop and no return of the write function. -/
theorem C19_feed_has_no_writer_step (p n : Nat) :
    ∀ st ∈ feedN p n, st = .batchPush ∨ st = .batchRecv ∨ st = .publish p := by
  induction n with
  | zero => intro st h; cases h
  | succ n ih =>
    intro st h
    simp only [feedN, feed, List.cons_append, List.nil_append, List.mem_cons] at h
    rcases h with h | h | h | h
    · exact Or.inl h
    · exact Or.inr (Or.inl h)
    · exact Or.inr (Or.inr h)
    · exact ih st h

/-- The model's `publish p` step — accepted and in the channel at once, enabled only while the
    channel has room — is what `WriteEventWithTimestamp` does: go/ast finds exactly one send on
    `toBatchMessagesChan` in it (function literals included), as an ordinary statement (not
    the communication of a `select` clause, so it blocks until the channel takes the message),
    and no `select` and no `go` statement at all: nothing is tried, nothing is finished in the
    background, the call returns only after its own send. -/
theorem C19_handover_is_code :
    Gen.C19.handoverSends = 1 ∧ Gen.C19.handoverPlainSend = true ∧
    Gen.C19.handoverSelects = 0 ∧ Gen.C19.handoverGoStmts = 0 := by
  decide

/-- For every capacity and every schedule: every accepted event is somewhere in the pipeline.
    The channel holds at most `cap` messages and the batching loop at most one; the number of
    accepted events is exactly channel + hand + buffer + handed to the write function, also
    per producer; and the snapshot the model shows at any instant before Close — whatever
    producers have a call outstanding — satisfies `snapOk`: no more calls have returned than
    the pipeline accounts for, and a producer waits only on a full channel. -/
theorem C19_accepted_in_pipeline (c : Cfg) (sched : List Step) :
    let s := run c init sched
    s.chan.length ≤ c.cap ∧ s.hand.toList.length ≤ 1 ∧
    s.pubs.length = (delivered s).length + s.buf.length + s.hand.toList.length + s.chan.length ∧
    (∀ p, countOf p s.pubs =
        countOf p (delivered s) + countOf p s.buf + countOf p s.hand.toList + countOf p s.chan) ∧
    (∀ (np : Nat) (pending : List Nat), s.closed = false →
        snapOk c.cap (snapOf c s np pending) = true) := by
  intro s
  have hinv := (reach c sched).inv.cons
  have hcap : s.chan.length ≤ c.cap := (reach c sched).chan_le
  have hhand : s.hand.toList.length ≤ 1 := by cases s.hand <;> simp
  have hlen : s.pubs.length =
      (delivered s).length + s.buf.length + s.hand.toList.length + s.chan.length := by
    have := congrArg List.length hinv
    simp only [List.length_append] at this
    exact this.symm
  refine ⟨hcap, hhand, hlen, ?_, ?_⟩
  · intro p
    have := congrArg (countOf p) hinv
    simp only [countOf_append] at this
    exact this.symm
  · intro np pending hcl
    have hsum := sum_counts_le np s.pubs
    simp only [snapOk, snapOf, Bool.and_eq_true, Bool.or_eq_true, beq_iff_eq]
    refine ⟨⟨⟨decide_eq_true (by omega), decide_eq_true hcap⟩, decide_eq_true hhand⟩, ?_⟩
    by_cases hroom : s.chan.length < c.cap
    · left
      have : (pending.filter fun p => !enabled c s (.publish p)) = [] := by
        apply List.filter_eq_nil_iff.mpr
        intro p _
        rw [(enabled_iff (st := .publish p)).mpr ⟨hcl, hroom⟩]; decide
      rw [this]; rfl
    · right; omega

/-- A producer facing a full channel does not move, and moves again exactly when there is room.
    (1) With the channel at capacity, `publish` steps — of any producers, however often they are
    scheduled — leave the state unchanged: nothing is accepted, nothing enters the pipeline behind
    the channel's back.  (2) An enabled `publish` appends the SAME event (producer, its next
    sequence number) to the publication order and to the back of the channel: accepted = in the
    channel, atomically, behind everything accepted before.  (3) With the channel open `publish`
    is enabled iff the channel has room.  (4) One receive of the batching loop makes room. -/
theorem C19_full_channel_blocks (c : Cfg) :
    (∀ (s : State) (ps : List Nat), c.cap ≤ s.chan.length → run c s (ps.map Step.publish) = s) ∧
    (∀ (s : State) (p : Nat), enabled c s (.publish p) = true →
        (step c s (.publish p)).chan = s.chan ++ [(p, nextSeq s p)] ∧
        (step c s (.publish p)).pubs = s.pubs ++ [(p, nextSeq s p)]) ∧
    (∀ (s : State) (p : Nat), s.closed = false →
        (enabled c s (.publish p) = true ↔ s.chan.length < c.cap)) ∧
    (∀ (s : State) (p : Nat), s.closed = false → s.chan.length ≤ c.cap →
        enabled c s .batchRecv = true → enabled c (step c s .batchRecv) (.publish p) = true) := by
  refine ⟨?_, ?_, ?_, ?_⟩
  · intro s ps hfull
    induction ps with
    | nil => rfl
    | cons p rest ih =>
      have hdis : enabled c s (.publish p) = false :=
        Bool.eq_false_iff.mpr fun h => Nat.lt_irrefl _ (Nat.lt_of_lt_of_le (enabled_iff.mp h).2 hfull)
      simp only [List.map_cons, run, step, hdis]
      exact ih
  · intro s p hen
    rw [step, if_pos hen]
    exact ⟨rfl, rfl⟩
  · intro s p hcl
    exact enabled_iff.trans (and_iff_right hcl)
  · intro s p hcl hle hen
    have hm := step_move hen
    generalize step c s .batchRecv = s1 at hm
    cases hm with
    | recv e rest _ _ _ hc => rw [hc] at hle; exact enabled_iff.mpr ⟨hcl, hle⟩

/-- Events about the same environment carry the same key: for the payload types keyed by
    environment (role, environment, call, integrated-service, run events) the key is the
    environment id itself, so equal ids give equal keys and different ids different keys,
    whatever the payload type and task id; meta events carry no key; a task event is keyed
    by its task id (not by the environment id it also carries). -/
theorem C19_key_by_env :
    (∀ (k k' : Kind) (env t t' : Nat), k.envScoped = true → k'.envScoped = true →
        keyOf k env t = keyOf k' env t') ∧
    (∀ (k : Kind) (env t : Nat), k.envScoped = true → keyOf k env t = env) ∧
    (∀ (k : Kind), k.envScoped = true ↔ (k = .roleEvent ∨ k = .environmentEvent ∨ k = .callEvent ∨
        k = .integratedServiceEvent ∨ k = .runEvent)) ∧
    (∀ (env t : Nat), keyOf .taskEvent env t = if t = 0 then 0 else 1000 + t) ∧
    (∀ (k : Kind) (env t : Nat), keySel k = .none → keyOf k env t = 0) := by
  -- an environment-scoped kind selects the environment id, whatever the kind
  have henv : ∀ (k : Kind) (env t : Nat), k.envScoped = true → keyOf k env t = env := by
    intro k env t h
    simp only [Kind.envScoped, beq_iff_eq] at h
    simp only [keyOf, h]
  refine ⟨fun k k' env t t' h h' => (henv k env t h).trans (henv k' env t' h').symm, henv, ?_, fun _ _ => rfl, ?_⟩
  · intro k; cases k <;> decide
  · intro k env t h; simp only [keyOf, h]

/-- FULL-STRENGTH statement: whenever Close has returned, everything accepted has been handed
    to the write function. TRUE of the code as it is (`C19_flush_code`), false of the code
    before the repair (`C19_finding_close_drops_buffered`). -/
def C19_flush_full (c : Cfg) : Prop :=
  ∀ sched : List Step, let s := run c init sched
    s.closeCompleted = true → delivered s = s.pubs

/-- What holds without the drain repair too (Close() counting the workers), for every schedule:
    when Close has returned, both loops are gone, the channel and the batching loop's hand are empty and no write call is
    in flight, so the ONLY place an accepted event can be left behind is the FIFO buffer:
    `delivered ++ buf = pubs`; if the buffer is empty at that point, everything was flushed. -/
theorem C19_flush_partial (c : Cfg) (hsr : c.selfRegister = false) (sched : List Step) :
    let s := run c init sched
    s.closeCompleted = true →
      s.chan = [] ∧ s.hand = none ∧ s.wpc = .exited ∧ s.bpc = .exited ∧
      delivered s ++ s.buf = s.pubs ∧ (s.buf = [] → delivered s = s.pubs) := by
  intro s hc
  have h := (reach c sched).inv
  obtain ⟨_, hw, hb⟩ := ((reach c sched).invW hsr).completed hc
  obtain ⟨hch, hh, _⟩ := h.batcherGone (by rw [hb]; decide)
  have hcons := h.behind_hand hch hh
  refine ⟨hch, hh, hw, hb, hcons, fun hbuf => ?_⟩
  rwa [hbuf, List.append_nil] at hcons

/-- A quiescent shutdown is flushed whatever the configuration (the only kind the code before the
    drain repair flushed reliably): if, when Close is called, channel, hand and buffer are empty
    (everything already handed over), then after ANY continuation everything accepted is delivered. -/
theorem C19_flush_quiescent (c : Cfg) (pre post : List Step) :
    let s0 := run c init pre
    s0.chan = [] → s0.hand = none → s0.buf = [] →
    let s := run c init (pre ++ [.close] ++ post)
    delivered s = s.pubs ∧ s.buf = [] := by
  intro s0 h1 h2 h3 s
  -- `close` finds the pipeline drained, and a closed, drained pipeline stays so
  have hq : Quiet (step c s0 .close) := by
    rcases step_cases c s0 .close with ⟨hne, e⟩ | hm
    · rw [e]; exact ⟨(Bool.not_eq_false _).mp hne, h1, h2, h3⟩
    · generalize step c s0 .close = s1 at hm
      cases hm with
      | close => exact ⟨rfl, h1, h2, h3⟩
  have hs : s = run c (step c s0 .close) post := by
    show run c init (pre ++ [.close] ++ post) = _
    rw [List.append_assoc, run_append]; rfl
  have hq' : Quiet s := hs ▸ run_invariant (fun _ _ _ hm => hm.quiet) post _ hq
  exact ⟨delivered_of_quiet (reach c _).inv hq', hq'.2.2.2⟩

/-- The known finding, machine-checked on the faithful model: two events accepted, moved to
    the buffer, Close called, the batching loop posts its done token, the writing loop's next
    `select` takes it and returns, Close returns — nothing was written. -/
theorem C19_finding_close_drops_buffered : ¬ C19_flush_full legacyCfg := by
  intro h
  have := h [.writerStart, .batchStart, .publish 0, .publish 0, .batchRecv, .batchPush, .batchRecv, .batchPush,
             .close, .batchDone, .broadcast, .writerSelect, .closeReturn]
  revert this; decide

/-- The same on the schedule the harness replays on the real writer ("published, first write
    parked, Close, batching loop done, release"): three events, the first one is in the parked
    write call; when it returns the writing loop sees the token and leaves two in the buffer. -/
theorem C19_finding_close_drops_buffered_replay :
    let s := run legacyCfg init
      [.writerStart, .batchStart,                                               -- both workers are running
       .publish 0, .batchRecv, .batchPush, .writerSelect, .writerPop,          -- first write parked with 1 event
       .publish 0, .publish 0, .batchRecv, .batchPush, .batchRecv, .batchPush,   -- two more accepted and buffered
       .close, .batchDone, .broadcast,                                            -- Close; batching loop done
       .writeDone, .writerSelect, .closeReturn]                                   -- release; writer sees done
    s.closeCompleted = true ∧ s.written = [[(0, 0)]] ∧ s.buf = [(0, 1), (0, 2)] ∧ s.pubs.length = 3 := by
  decide

/-- With the drain repair (notes/C19.fix.patch, `drainOnDone`) and the workers counted by Close()
    the full statement holds, for every capacity, batch size and schedule. -/
theorem C19_flush_fixed (c : Cfg) (hd : c.drainOnDone = true) (hsr : c.selfRegister = false) (sched : List Step) :
    let s := run c init sched
    s.closeCompleted = true → delivered s = s.pubs := by
  intro s hc
  have h := (reach c sched).inv
  have hp := C19_flush_partial c hsr sched hc
  exact hp.2.2.2.2.2 (h.drained hd hp.2.2.1)

/-- **Flush on shutdown, in full, for the code as it is** (`codeCfg` has the drain; tied to the
    source by `C19_constants_are_code`). -/
theorem C19_flush_code : C19_flush_full codeCfg :=
  fun sched => C19_flush_fixed codeCfg rfl rfl sched

/-! ## worker start-up: Close() waits for workers that have not run yet

  The constructor only spawns the two workers; events can be accepted and Close() can be called
  before the scheduler has run either of them for the first time (`writerStart`, `batchStart` are
  steps of the schedule like any other).  "Flushed on shutdown" means: at the instant Close()
  RETURNS everything accepted has been handed to the write function — not eventually. -/

/-- The model's counting is the code's (go/ast, writer.go): the only `runningWorkers.Add` of the
    file is `Add(2)` in Close(), executed before `close(toBatchMessagesChan)`, which comes before
    `Wait()`, which comes before the kafka.Writer is closed; no worker registers itself; there are
    exactly two `Done()` calls — the statement before the `return` of the writing loop's done clause
    and the last statement of the batching loop —; the constructor spawns exactly the two workers,
    each once (and so does the verification hook), and a worker that has been scheduled is at its
    loop at once (no statement in front of the `for` / `range`). -/
theorem C19_worker_count_is_code :
    codeCfg.selfRegister = Gen.C19.workersSelfRegister ∧ Gen.C19.wgAddCalls = 1 ∧ Gen.C19.wgCloseAdd = 2 ∧
    Gen.C19.wgCloseOrder = true ∧ Gen.C19.wgDoneCalls = 2 ∧ Gen.C19.wgWriterDoneLast = true ∧
    Gen.C19.wgBatcherDoneLast = true ∧ Gen.C19.workerGoStmts = 2 ∧ Gen.C19.workersSpawned = true ∧
    Gen.C19.loopPrologue = 0 ∧ Gen.C19.hookSpawnsWorkers = true := by
  decide

/-- **Close() returns only after both workers have finished**, for every schedule — the ones in
    which Close() is called before a worker was scheduled for the first time included — of every
    configuration in which Close() counts the workers itself: (1) once Close() has been called
    the WaitGroup counter is exactly the number of workers that have not finished, started or not
    (0 before); (2) when Close() has returned both workers HAVE been scheduled and have finished
    and the counter is 0; (3) as long as a worker has not been scheduled `Wait()` cannot return. -/
theorem C19_close_waits_for_both_workers (c : Cfg) (hsr : c.selfRegister = false) (sched : List Step) :
    let s := run c init sched
    (s.wg = if s.closed then liveW s.wpc + liveB s.bpc else 0) ∧
    (s.closeCompleted = true →
      s.wStarted = true ∧ s.bStarted = true ∧ s.wpc = .exited ∧ s.bpc = .exited ∧ s.wg = 0) ∧
    (s.closed = true → (s.wStarted = false ∨ s.bStarted = false) → enabled c s .closeReturn = false) := by
  intro s
  have hw : InvW s := (reach c sched).invW hsr
  refine ⟨hw.counted, fun hc => ?_, fun hcl hun => ?_⟩
  · obtain ⟨_, hwp, hbp⟩ := hw.completed hc
    exact ⟨(hw.started hc).1, (hw.started hc).2, hwp, hbp, hw.wg_zero hwp hbp⟩
  · -- a worker that has not started has not finished: it is still counted
    have hpos : s.wg ≠ 0 := by
      rw [hw.counted, hcl, if_pos rfl]
      rcases hun with hx | hx
      · rw [hw.wUn hx]; show 1 + liveB s.bpc ≠ 0; omega
      · rw [hw.bUn hx]; exact Nat.succ_ne_zero _
    exact not_enabled_iff.mpr fun hg => hpos hg.2.1

/-- **Flushed at the instant Close() returns**, for every schedule `pre` after which Close() has
    returned (code: drain repair, workers counted by Close()): everything accepted has been handed
    to the write function (as lists and as counts — the snapshot a caller takes right after
    Close()), no write call is in progress, and NOTHING happens afterwards: whatever is scheduled
    later (`post`) leaves the state as it is, in particular no write call begins after Close()
    has returned. -/
theorem C19_flushed_when_close_returns (c : Cfg) (hd : c.drainOnDone = true) (hsr : c.selfRegister = false)
    (pre post : List Step) :
    let s := run c init pre
    s.closeCompleted = true →
      delivered s = s.pubs ∧ (delivered s).length = s.pubs.length ∧ s.wpc ≠ .writing ∧
      run c s post = s ∧ (run c init (pre ++ post)).written = s.written := by
  intro s hc
  have hw : InvW s := (reach c pre).invW hsr
  have hfl : delivered s = s.pubs := C19_flush_fixed c hd hsr pre hc
  have hq : run c s post = s := run_after_return c s hw hc post
  refine ⟨hfl, by rw [hfl], ?_, hq, ?_⟩
  · rw [(hw.completed hc).2.1]; decide
  · rw [run_append]; exact congrArg State.written hq

/-- The same for the code as it is. -/
theorem C19_flushed_when_close_returns_code (pre post : List Step) :
    let s := run codeCfg init pre
    s.closeCompleted = true →
      delivered s = s.pubs ∧ (delivered s).length = s.pubs.length ∧ s.wpc ≠ .writing ∧
      run codeCfg s post = s ∧ (run codeCfg init (pre ++ post)).written = s.written :=
  C19_flushed_when_close_returns codeCfg rfl rfl pre post

/-- The self-registering variant (every worker does `Add(1)` when it starts running, Close() adds
    nothing) is NOT the code and does not have the property: (1) the full flush statement fails;
    (2) two events accepted, Close() called before either worker was scheduled: the counter is 0,
    `Wait()` returns at once, Close() has returned with both events still in the hand-over channel;
    (3) the workers start afterwards and the event reaches the write function AFTER Close() has
    returned (in production: a closed kafka.Writer); (4) with only the batching loop started the
    counter goes 1 → 0 when it finishes and Close() returns with the event in the buffer. -/
theorem C19_self_registering_workers_lose_events :
    ¬ C19_flush_full selfRegisterCfg ∧
    (let s := run selfRegisterCfg init [.publish 0, .publish 0, .close, .closeReturn]
     s.closeCompleted = true ∧ delivered s = [] ∧ s.chan = [(0, 0), (0, 1)] ∧ s.wg = 0) ∧
    (let s0 := run selfRegisterCfg init [.publish 0, .close, .closeReturn]
     let s := run selfRegisterCfg s0 [.batchStart, .writerStart, .batchRecv, .batchPush, .writerSelect, .writerPop]
     s0.closeCompleted = true ∧ s0.written = [] ∧ s.written = [[(0, 0)]]) ∧
    (let s := run selfRegisterCfg init
       [.batchStart, .publish 0, .close, .batchRecv, .batchPush, .batchDone, .broadcast, .closeReturn]
     s.closeCompleted = true ∧ s.wStarted = false ∧ s.buf = [(0, 0)] ∧ delivered s = []) := by
  refine ⟨?_, by decide, by decide, by decide⟩
  intro h
  have := h [.publish 0, .close, .closeReturn]
  revert this; decide

/-- FULL-STRENGTH statement (TRUE of the code as it is: `C19_close_terminates_code`; false of
    the code before the repair: `C19_finding_close_lost_wakeup`): once Close has been called, every run that keeps
    taking enabled steps (fairness: nothing enabled is postponed for ever; the write
    function returns) is finite, and when nothing more can happen Close has returned. -/
def C19_close_terminates_full (c : Cfg) : Prop :=
  ∀ sched more : List Step,
    let s := run c init sched
    let s' := run c s more
    s.closed = true → allEnabled c s more = true →
      more.length ≤ rank s ∧ (canProgress c s' = false → s'.closeCompleted = true)

/-- What IS proved, for every configuration with a positive batch size in which Close() counts the
    workers, and every schedule: after Close is called every enabled step strictly decreases
    `rank`, so at most `rank s` further steps can happen (no livelock, whatever the interleaving),
    and a state in which nothing can happen is either "Close has returned" or the lost wake-up: the
    writing loop inside `cond.Wait()` with the batching loop — the only goroutine that signals —
    gone. -/
theorem C19_close_terminates_partial (c : Cfg) (hb : 0 < c.batchMax) (hsr : c.selfRegister = false)
    (sched more : List Step) :
    let s := run c init sched
    let s' := run c s more
    s.closed = true → allEnabled c s more = true →
      more.length ≤ rank s ∧
      (canProgress c s' = false → lostWakeup s' = false → s'.closeCompleted = true) := by
  intro s s' hcl hen
  have hr := reach c sched
  have hbound := run_bounded c hb s more hr.inv2 hcl hen
  refine ⟨by omega, fun hnp hnl => ?_⟩
  cases hcc : s'.closeCompleted with
  | true => rfl
  | false =>
    have := stuck_is_lostWakeup c s' (run_closed c s more hcl) hcc ((hr.run more).invW hsr).wg_zero hnp
    rw [this] at hnl; cases hnl

/-- The known finding, machine-checked on the faithful model — no event needed: the writing
    loop takes `default` in its select; Close closes the channel; the batching loop posts the
    token and broadcasts (nobody is waiting yet) and returns; the writing loop then locks, finds
    the buffer empty and waits — for ever; Close never returns. -/
theorem C19_finding_close_lost_wakeup : ¬ C19_close_terminates_full legacyCfg := by
  intro h
  have := h [.writerStart, .batchStart, .writerSelect, .close, .batchDone, .broadcast, .writerPop] [] (by decide) (by decide)
  revert this; decide

/-- With the sticky-release repair (`releaseSticky`) and the workers counted by Close() the full
    statement holds for every capacity, positive batch size and schedule: bounded, and stuck only
    when Close returned. -/
theorem C19_close_terminates_fixed (c : Cfg) (hs : c.releaseSticky = true) (hb : 0 < c.batchMax)
    (hsr : c.selfRegister = false) (sched more : List Step) :
    let s := run c init sched
    let s' := run c s more
    s.closed = true → allEnabled c s more = true →
      more.length ≤ rank s ∧ (canProgress c s' = false → s'.closeCompleted = true) := by
  intro s s' hcl hen
  obtain ⟨h1, h2⟩ := C19_close_terminates_partial c hb hsr sched more hcl hen
  refine ⟨h1, fun hnp => h2 hnp ?_⟩
  cases hl : lostWakeup s' with
  | false => rfl
  | true =>
    simp only [lostWakeup, Bool.and_eq_true, beq_iff_eq] at hl
    exact absurd hl.2 (((reach c sched).run more).inv.noOrphan hs hl.1)

/-- **Close terminates, in full, for the code as it is.** -/
theorem C19_close_terminates_code : C19_close_terminates_full codeCfg :=
  fun sched more => C19_close_terminates_fixed codeCfg rfl (by decide) rfl sched more

/-- Both repairs together: after any schedule of the repaired model, if Close was called and
    nothing more can happen, Close has returned and everything accepted was delivered. -/
theorem C19_fixed_model_flushes_and_terminates (sched : List Step) :
    let s := run fixedCfg init sched
    s.closed = true → canProgress fixedCfg s = false → s.closeCompleted = true ∧ delivered s = s.pubs := by
  intro s hcl hnp
  have h := C19_close_terminates_fixed fixedCfg rfl (by decide) rfl sched [] hcl rfl
  have hc := h.2 hnp
  exact ⟨hc, C19_flush_fixed fixedCfg rfl rfl sched hc⟩

/-! ## the registry of the core: per writer = per topic

  `the.EventWriterWithTopic(t)` hands every publisher of topic `t` a writer, `the.ClearEventWriters()`
  closes the registered writers at shutdown (core/the/eventwriter.go, Model/Registry.lean).  The
  statements above are about ONE writer; they are statements about a topic because, for every
  interleaving of any number of callers, all callers of a topic are handed the same writer between
  two shutdowns and every writer ever handed out is closed by the next shutdown. -/

/-- The registry model's exclusive section is the code's: one mutex (a `sync.Mutex`, nothing in
    core/the takes it in shared or try mode), `createOrGetWriter` takes it with `Lock` as its first
    statement and releases it by a deferred `Unlock` — the lookup (`if w, ok := writers[topic]; ok
    { return w }`, the first statement that touches the map), the creation and the registration
    (`writers[topic] = <constructor>`; `return writers[topic]`) are one critical section; every
    function of the package that touches the map has that shape and the map is not mentioned
    outside functions; `ClearEventWriters` holds the mutex too, ranges over the map calling
    `Close()` on every value, nothing leaves the loop early, and then empties the map. -/
theorem C19_registry_is_code :
    Registry.codeCfg = { exclusive := Gen.C19.regGetHoldsLock && Gen.C19.regPlainMutex &&
                                      (Gen.C19.regSharedLockCalls == 0) } ∧
    Gen.C19.regMutexVars = 1 ∧ Gen.C19.regMapUsersLocked = Gen.C19.regMapUsers ∧
    Gen.C19.regMapUsesOutside = 0 ∧ Gen.C19.regGetLookupFirst = true ∧ Gen.C19.regGetRegisters = true ∧
    Gen.C19.regClearHoldsLock = true ∧ Gen.C19.regClearClosesEach = true ∧ Gen.C19.regClearEmpties = true := by
  decide

/-- Mutual exclusion, for every schedule: two callers that are inside `createOrGetWriter` /
    `ClearEventWriters` are the same caller — a call of either function is atomic for all others. -/
theorem C19_registry_get_is_atomic (sched : List Registry.Step) (c c' : Registry.Caller) :
    let s := Registry.run Registry.codeCfg Registry.init sched
    s.pc c ≠ .idle → s.pc c' ≠ .idle → c = c' := by
  intro s hc hc'
  exact (Registry.inv_reach sched).one hc hc'

/-- **One writer per topic between two shutdowns**, for every interleaving of any number of callers,
    topics and shutdowns: two results handed out for the same topic since the last shutdown are the
    same writer, it is the one the map holds for the topic (so every later look-up returns it and the
    next shutdown closes it); `allSame` / at most one pipeline per topic. -/
theorem C19_registry_one_writer_per_topic (sched : List Registry.Step) (t : Registry.Topic) :
    let s := Registry.run Registry.codeCfg Registry.init sched
    (∀ c c' w w', (c, t, w) ∈ s.handed → (c', t, w') ∈ s.handed → w = w') ∧
    (∀ c w, (c, t, w) ∈ s.handed → Registry.find s.reg t = some w) ∧
    Registry.allSame (Registry.handedFor s t) = true ∧ (Registry.writersOf s t).length ≤ 1 := by
  intro s
  have h := Registry.inv_reach sched
  have hreg : ∀ c w, (c, t, w) ∈ s.handed → Registry.find s.reg t = some w :=
    fun c w hm => h.handedReg (c, t, w) hm
  have hone : ∀ c c' w w', (c, t, w) ∈ s.handed → (c', t, w') ∈ s.handed → w = w' :=
    fun c c' w w' hm hm' => Option.some.inj ((hreg c w hm).symm.trans (hreg c' w' hm'))
  have hsame : ∀ w ∈ Registry.handedFor s t, ∀ w' ∈ Registry.handedFor s t, w = w' := by
    intro w hw w' hw'
    obtain ⟨c, hc⟩ := Registry.handedFor_mem hw
    obtain ⟨c', hc'⟩ := Registry.handedFor_mem hw'
    exact hone c c' w w' hc hc'
  exact ⟨hone, hreg, Registry.allSame_of_all_eq hsame, Registry.length_eraseDups_le_one hsame⟩

/-- **No writer is orphaned**, for every interleaving: every writer ever handed to a caller has
    been closed by a shutdown or is still registered; the loop of the next shutdown closes every
    registered writer, so after it EVERY writer ever handed out is closed; and whenever the map is
    empty (right after a shutdown) nothing that was handed out is still open. -/
theorem C19_registry_no_orphan (sched : List Registry.Step) :
    let s := Registry.run Registry.codeCfg Registry.init sched
    (∀ w ∈ s.everHanded, w ∈ s.closed ∨ w ∈ Registry.vals s.reg) ∧
    (∀ k, Registry.enabled Registry.codeCfg s (.closeAll k) = true →
        ∀ w ∈ (Registry.step Registry.codeCfg s (.closeAll k)).everHanded,
          w ∈ (Registry.step Registry.codeCfg s (.closeAll k)).closed) ∧
    (s.reg = [] → ∀ w ∈ s.everHanded, w ∈ s.closed) := by
  intro s
  have h := Registry.inv_reach sched
  refine ⟨h.noOrphan, ?_, ?_⟩
  · intro k hen w hw
    simp only [Registry.step, hen, if_true, Registry.fire] at hw ⊢
    exact List.mem_append.mpr (h.noOrphan w hw)
  · intro hreg w hw
    rcases h.noOrphan w hw with h1 | h1
    · exact h1
    · rw [hreg] at h1; exact absurd h1 List.not_mem_nil

/-- No writer is closed twice (a second `Close` would close a closed channel), and a registered
    writer — the one publishers are being handed — is never a closed one; for every configuration
    and every schedule. -/
theorem C19_registry_closes_once (cfg : Registry.Cfg) (sched : List Registry.Step) :
    let s := Registry.run cfg Registry.init sched
    s.closed.Nodup ∧ (∀ w ∈ Registry.vals s.reg, w ∉ s.closed) ∧ (Registry.vals s.reg).Nodup := by
  intro s
  have h := Registry.fresh_reach cfg sched
  exact ⟨h.closedNodup, h.disjoint, h.regNodup⟩

/-- The exclusive section is needed: in a registry whose callers can be between their lookup and
    their registration at the same time (`sharedCfg`: a shared-mode or unlocked lookup), two callers
    asking for one fresh topic together are handed two writers, the second registration overwrites
    the first, and after a complete shutdown the first writer — handed to a publisher — is neither
    closed nor registered: both statements above fail. -/
theorem C19_registry_needs_exclusive_section :
    (¬ ∀ (sched : List Registry.Step) (t : Registry.Topic),
        Registry.allSame (Registry.handedFor (Registry.run Registry.sharedCfg Registry.init sched) t) = true) ∧
    (¬ ∀ (sched : List Registry.Step),
        let s := Registry.run Registry.sharedCfg Registry.init sched
        ∀ w ∈ s.everHanded, w ∈ s.closed ∨ w ∈ Registry.vals s.reg) := by
  refine ⟨?_, ?_⟩
  · intro h
    have := h [.enter 0 7, .enter 1 7, .look 0, .look 1, .create 0, .create 1, .ret 0, .ret 1] 7
    revert this; decide
  · intro h
    have := h ([.enter 0 7, .enter 1 7, .look 0, .look 1, .create 0, .create 1, .ret 0, .ret 1] ++
               Registry.clearCall 2) 0
    revert this; decide

/-- **The per-writer statements lifted to a topic.**  For every interleaving of registry calls and
    whatever the writers do (`wsched w` = any schedule of writer `w`: any producers, broker latency,
    Close instant): the events of topic `t` in the current epoch go through `writersOf s t`, which
    is at most ONE pipeline; so what the broker gets for the topic is a prefix of what was accepted
    for it, every producer's events once and in order; and when `Close`
    has returned for the topic's writers, everything accepted for the topic has been delivered. -/
theorem C19_topic_order_and_flush (sched : List Registry.Step) (wsched : Registry.WId → List Step)
    (t : Registry.Topic) :
    let s := Registry.run Registry.codeCfg Registry.init sched
    let ws := Registry.writersOf s t
    let st := fun w => run codeCfg init (wsched w)
    let topicDelivered := (ws.map fun w => delivered (st w)).flatten
    let topicPubs := (ws.map fun w => (st w).pubs).flatten
    ws.length ≤ 1 ∧ topicDelivered <+: topicPubs ∧ orderedOnce topicDelivered = true ∧
    ((∀ w ∈ ws, (st w).closeCompleted = true) → topicDelivered = topicPubs) := by
  intro s ws st topicDelivered topicPubs
  have hlen : ws.length ≤ 1 := (C19_registry_one_writer_per_topic sched t).2.2.2
  refine ⟨hlen, ?_⟩
  match hws : ws, hlen with
  | [], _ =>
    simp only [topicDelivered, topicPubs, hws, List.map_nil, List.flatten_nil]
    exact ⟨List.prefix_refl _, by decide, fun _ => trivial⟩
  | [w], _ =>
    have hn := C19_no_dup_no_reorder codeCfg (wsched w)
    simp only [topicDelivered, topicPubs, hws, List.map_cons, List.map_nil, List.flatten_cons, List.flatten_nil,
      List.append_nil]
    refine ⟨hn.2.2.2.1, hn.2.2.2.2.2.2, ?_⟩
    intro hc
    exact C19_flush_code (wsched w) (hc w (by simp))
  | _ :: _ :: _, h => simp at h

set_option maxRecDepth 8192 in
/-- The hypotheses above are met by a realistic run: two producers interleave five events,
    the writing loop waits, is signalled, writes two batches, a quiescent Close returns with
    everything delivered in order. -/
example :
    let s := run codeCfg init
      [.batchStart, .writerStart,                                   -- both workers get to run
       .writerSelect, .writerPop,                                   -- writing loop waits on the empty buffer
       .publish 0, .publish 1, .publish 0, .batchRecv, .batchPush,   -- first push signals it
       .batchRecv, .batchPush, .writerWake,                          -- it wakes with two buffered: batch of 2
       .batchRecv, .batchPush, .publish 1, .publish 1, .writeDone,
       .batchRecv, .batchPush, .batchRecv, .batchPush,
       .writerSelect, .writerPop, .writeDone,                        -- batch of 3
       .writerSelect, .writerPop,                                    -- waits again
       .close, .batchDone, .broadcast, .writerWake, .writerSelect, .closeReturn]
    s.closeCompleted = true ∧ s.written = [[(0, 0), (1, 0)], [(0, 1), (1, 1), (1, 2)]] ∧ delivered s = s.pubs := by
  decide

/-- Worker start-up is not vacuous: three events are accepted and Close() is called before either
    worker has been scheduled; `Wait()` cannot return (counter 2); the workers start, move and write
    everything, finish, the counter reaches 0 and Close() returns with everything delivered. -/
example :
    let pre : List Step := [.publish 0, .publish 1, .publish 0, .close]
    let s0 := run codeCfg init pre
    let s := run codeCfg s0
      [.closeReturn,                                                  -- not enabled: nothing happens
       .writerStart, .writerSelect, .batchStart,
       .batchRecv, .batchPush, .batchRecv, .batchPush, .writerPop,     -- batch of 2
       .batchRecv, .batchPush, .batchDone, .broadcast, .writeDone,
       .writerSelect,                                                  -- done token seen: drains the third event
       .writeDone, .writerSelect, .closeReturn]
    s0.wg = 2 ∧ enabled codeCfg s0 .closeReturn = false ∧
    s.closeCompleted = true ∧ s.written = [[(0, 0), (1, 0)], [(0, 1)]] ∧ delivered s = s.pubs ∧ s.wg = 0 := by
  decide

/-- The hand-over theorems are not vacuous: with a channel of two slots, one message in the
    batching loop's hand and the batching loop held up, the fourth and fifth `publish` do not
    happen (both producers wait), the snapshot says so and satisfies `snapOk`; an observation
    in which those calls HAD returned with the channel full is rejected by `snapOk`. -/
example :
    let c : Cfg := { codeCfg with cap := 2 }
    let s := run c init [.batchStart, .publish 0, .batchRecv, .publish 0, .publish 1, .publish 1, .publish 0]
    s.pubs = [(0, 0), (0, 1), (1, 0)] ∧ s.chan = [(0, 1), (1, 0)] ∧ s.hand = some (0, 0) ∧
    snapOf c s 2 [0, 1] = { acc := [2, 1], chan := 2, hand := 1, buf := 0, written := 0, blocked := [0, 1] } ∧
    snapOk c.cap (snapOf c s 2 [0, 1]) = true ∧
    snapOk 2 { acc := [3, 2], chan := 2, hand := 1, buf := 0, written := 0, blocked := [] } = false := by
  decide

/-- The registry theorems are not vacuous: callers 0 and 1 ask for the fresh topic 7 together — the
    second `enter` does not happen while the first caller holds the mutex — and caller 2 for topic 8;
    0 creates writer 0, 1 is handed the same writer on its hit, 2 gets writer 1; the shutdown by
    caller 3 closes both; then topic 7 is looked up again and gets a NEW writer, which is open. -/
example :
    let s := Registry.run Registry.codeCfg Registry.init
      ([.enter 0 7, .enter 1 7, .look 0, .create 0, .enter 2 8, .ret 0] ++ Registry.getCall 1 7 ++
       Registry.getCall 2 8)
    let s' := Registry.run Registry.codeCfg s (Registry.clearCall 3 ++ Registry.getCall 1 7)
    s.handed = [(0, 7, 0), (1, 7, 0), (2, 8, 1)] ∧ Registry.writersOf s 7 = [0] ∧ s.reg = [(7, 0), (8, 1)] ∧
    s'.closed = [0, 1] ∧ s'.everHanded = [0, 0, 1, 2] ∧ s'.handed = [(1, 7, 2)] ∧ s'.reg = [(7, 2)] := by
  decide
