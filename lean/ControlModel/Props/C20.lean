/-
  Props/C20 — "Configuration lookups return the most specific existing entry".

  The property theorems (`C20_*` = the proof obligations counted in the evidence file), the two full-strength
  statements that are refuted (`C20_substitution_full`, `C20_seq_fresh_full`) and the non-vacuity examples; lemmas live
  in Proofs/Query.lean and Proofs/QueryConc.lean, the model in Model/Query.lean and Model/QueryConc.lean, the decidable
  property predicates in Spec/C20.lean.

  Tie to /repo. `Gen.C20.*` (lean/ControlModel/Gen/QueryTables.lean) is rewritten on every run by `vh gen`:
    * the three regexp pattern texts, by go/ast from configuration/componentcfg/query.go;
    * the character class at every position of every pattern, by EVALUATING the linked IsStringValid… recognisers on
      every Unicode scalar value (and the set of characters NewQuery trims);
    * apricotpb.RunType_name / RunType_value, FALLBACK_RUNTYPE, FALLBACK_ROLENAME, ConfigComponentsPath, SEPARATOR;
    * for each of the 16 existence patterns, the sequence of Exists probes and the result of the linked
      local.Service.ResolveComponentQuery on a recording backend;
    * the names template.MakeUtilFuncMap binds;
    * what the linked local.Service writes into a payload for a supplied value (every ASCII character by itself, some
      realistic values; plainly and inside an explicit `{% autoescape on %}` block), and every call of pongo2's
      process-wide `SetAutoescape` in the repository (go/ast);
    * what GetAndProcessComponentConfiguration does with the cached template set, which functions touch the map of
      sets, and every assignment to the shared snapshot in `YamlSource.refresh` (go/ast).
  The `…_is_code` theorems identify the hand-written model with those tables, so every theorem below is about what
  the code computes; a changed table breaks a theorem. Model functions that are not tables (recogniser, trim,
  resolve, YAML walk, template fragment) are tied by the correspondence run.
-/
import ControlModel.Gen.QueryTables
import ControlModel.Proofs.Query
import ControlModel.Proofs.QueryConc

open Query Spec.C20

/-- The pattern texts the recognisers were written from are the literals in query.go. -/
theorem C20_regex_sources_are_code :
    inputFullRegexSrc = Gen.C20.inputFullRegexSrc ∧ inputEntriesRegexSrc = Gen.C20.inputEntriesRegexSrc ∧
    inputParametersRegexSrc = Gen.C20.inputParametersRegexSrc :=
  ⟨rfl, rfl, rfl⟩

/-- The model's character classes are, at every position of the three patterns, exactly the sets of Unicode scalar
    values the linked recognisers accept there; the blanks are the characters NewQuery trims. -/
theorem C20_charclasses_are_code :
    componentClass = Gen.C20.fullComponentClass ∧ runTypeClass = Gen.C20.fullRunTypeClass ∧
    roleClass = Gen.C20.fullRoleClass ∧ entryClass = Gen.C20.fullEntryClass ∧
    componentClass = Gen.C20.entriesComponentClass ∧ runTypeClass = Gen.C20.entriesRunTypeClass ∧
    roleClass = Gen.C20.entriesRoleClass ∧
    paramKeyClass = Gen.C20.paramKeyClass ∧ paramValueClass = Gen.C20.paramValueClass ∧
    paramKeyClass = Gen.C20.paramKey2Class ∧ paramValueClass = Gen.C20.paramValue2Class ∧
    spaceClass = Gen.C20.spaceClass :=
  ⟨rfl, rfl, rfl, rfl, rfl, rfl, rfl, rfl, rfl, rfl, rfl, rfl⟩

/-- Run-type names/numbers and the fallback constants are the code's. -/
theorem C20_runtypes_are_code :
    runTypes = Gen.C20.runTypeName ∧ runTypes.map (fun e => (e.2, e.1)) = Gen.C20.runTypeValue ∧
    fallbackRunType = Gen.C20.fallbackRunType ∧ fallbackRoleName = Gen.C20.fallbackRoleName ∧
    configComponentsPath = Gen.C20.configComponentsPath ∧ ['/'] = Gen.C20.separator :=
  ⟨rfl, rfl, rfl, rfl, rfl, rfl⟩

/-- THE FALLBACK ORDER: for every one of the 16 existence patterns the model's walk (which keys it probes, in which
    order, and which candidate it returns) is what the real resolveComponentQuery did on the recording backend. -/
theorem C20_fallback_order_is_code : (List.range 16).map walkPattern = Gen.C20.resolveTable := by decide +kernel

/-- The names the service binds on top of the supplied variables are the ones the model treats as reserved. -/
theorem C20_reserved_names_are_code : reservedNames = Gen.C20.utilFuncNames := rfl

/-- SUBSTITUTION IS THE CODE'S: for every probed value — each ASCII character by itself (`& < > " '` among them), a
    non-ASCII one, realistic JSON/HTML-looking values — the payload the linked GetAndProcessComponentConfiguration
    returned for the entry `{{ v }}` is what the model's configuration of the code as it is (`codeCfg`) writes; the five
    characters pongo2 would rewrite were all probed; and the only place of the repository that touches pongo2's
    process-wide autoescape switch is `init()` of apricot/local, which turns it off. (Reverting the repair of finding
    `autoescape_html` breaks the first and the last part; the middle one says that the first covers what it must.) -/
theorem C20_substitution_is_code :
    Gen.C20.substProbes.map (fun p => codeCfg.subst p.1) = Gen.C20.substProbes.map (fun p => p.2) ∧
    escapedChars.all (fun c => Gen.C20.substProbes.any (fun p => p.1 == [c])) = true ∧
    autoescapeSwitches = Gen.C20.autoescapeSwitches := by decide +kernel

/-- The legacy configuration is pongo2 with autoescaping on: inside an explicit `{% autoescape on %}` block the linked
    service writes for every probed value what `legacyCfg` (the model's `escape`) writes. So the refutation
    `C20_finding_autoescape_html` is about what the code did before the repair — and an entry that asks for escaping
    still gets it. -/
theorem C20_escape_is_pongo2 :
    Gen.C20.escapeProbes.map (fun p => legacyCfg.subst p.1) = Gen.C20.escapeProbes.map (fun p => p.2) := by decide +kernel

/-- For EVERY existence predicate and EVERY query: the code's four-step walk returns the first candidate, in the order
    exact → any run type with that role → that run type with any role → any/any, that exists; `none` (the error)
    iff none of the four exists. -/
theorem C20_first_existing (ex : Str → Bool) (q : Query) :
    resolve ex q = (specCandidates q).find? (fun c => ex (absRaw c)) :=
  resolve_eq_find? ex q

/-- A resolved path always exists, and it is one of the four candidates. -/
theorem C20_resolved_exists (ex : Str → Bool) (q r : Query) (h : resolve ex q = some r) :
    ex (absRaw r) = true ∧ r ∈ specCandidates q :=
  ⟨(resolve_mem ex q r h).2, (resolve_mem ex q r h).1⟩

/-- Most specific: every candidate that precedes the resolved one in the order does not exist. -/
theorem C20_most_specific (ex : Str → Bool) (q r : Query) (h : resolve ex q = some r) :
    ∃ before after, specCandidates q = before ++ r :: after ∧ ∀ c ∈ before, ex (absRaw c) = false := by
  rw [C20_first_existing, List.find?_eq_some_iff_append] at h
  obtain ⟨_, before, after, hsplit, hb⟩ := h
  exact ⟨before, after, hsplit, fun c hc => (Bool.not_eq_true' _).mp (hb c hc)⟩

/-- Resolution fails exactly when none of the four candidates exists. -/
theorem C20_unresolved_iff (ex : Str → Bool) (q : Query) :
    resolve ex q = none ↔ ∀ c ∈ specCandidates q, ex (absRaw c) = false := by
  rw [C20_first_existing, List.find?_eq_none]
  simp only [Bool.not_eq_true]

/-- The existence probes are exactly the candidates in order, up to and including the first that exists. -/
theorem C20_probe_order (ex : Str → Bool) (q : Query) :
    probes ex q = match ((specCandidates q).map absRaw).findIdx? ex with
      | some i => ((specCandidates q).map absRaw).take (i + 1)
      | none => (specCandidates q).map absRaw :=
  probes_walk ex _ _ _ _

/-- Resolution of a well-formed query yields a well-formed query (so it can be printed and re-parsed). -/
theorem C20_resolved_wellformed (ex : Str → Bool) (q r : Query) (hq : wf q = true) (h : resolve ex q = some r) :
    wf r = true :=
  resolve_wf ex q r hq h

/-- Entries that are not among the query's four candidates have no influence on its resolution: two backends that
    agree on the four candidate keys resolve the query alike (for any other difference between them). -/
theorem C20_resolve_depends_only_on_candidates (ex ex' : Str → Bool) (q : Query)
    (h : ∀ c ∈ specCandidates q, ex (absRaw c) = ex' (absRaw c)) : resolve ex q = resolve ex' q := by
  rw [C20_first_existing, C20_first_existing]
  exact find?_congr h

/-- Adding entries never loses a resolution and never makes it less specific: if every key that exists in `ex` exists in
    `ex'` and `q` resolves to `r` in `ex`, it resolves in `ex'` to a candidate at or before `r` in the order. -/
theorem C20_resolve_monotone (ex ex' : Str → Bool) (q r : Query) (hsub : ∀ k, ex k = true → ex' k = true)
    (h : resolve ex q = some r) :
    ∃ r' before after, resolve ex' q = some r' ∧ specCandidates q = before ++ r :: after ∧ r' ∈ before ++ [r] := by
  obtain ⟨before, after, hsplit, -⟩ := C20_most_specific ex q r h
  obtain ⟨r', h1, h2⟩ := find?_append_cons_of_pos (p := fun c => ex' (absRaw c)) (before := before) (after := after)
    (hsub _ (C20_resolved_exists ex q r h).1)
  exact ⟨r', before, after, by rw [C20_first_existing, hsplit, h1], hsplit, h2⟩

/-- What the walk returns is a fixed point: asking again for the resolved query returns it unchanged. -/
theorem C20_resolve_idempotent (ex : Str → Bool) (q r : Query) (h : resolve ex q = some r) : resolve ex r = some r := by
  rw [C20_first_existing]
  exact List.find?_cons_of_pos (C20_resolved_exists ex q r h).1

/-- The hypotheses are met by a real situation: only the any/any entry exists, the query resolves to it; with the
    role-specific entry added the same query resolves to that one, which precedes any/any in the order. -/
example :
    let q : Query := ⟨['q', 'c'], 1, ['f', 'l', 'p'], ['t', 'p', 'c']⟩
    let anyAny := absRaw { q with runType := fallbackRunType, role := fallbackRoleName }
    let anyRt := absRaw { q with runType := fallbackRunType }
    resolve (fun k => k == anyAny) q = some { q with runType := fallbackRunType, role := fallbackRoleName } ∧
    resolve (fun k => k == anyAny || k == anyRt) q = some { q with runType := fallbackRunType } := by decide

/-- NewQuery accepts exactly the denotation of the anchored pattern on the trimmed string, with a known run-type name,
    and returns exactly the four spelled parts. -/
theorem C20_parse_characterised (s : Str) (q : Query) :
    parse s = some q ↔
      ∃ rt, FullLang (trim s) q.component rt q.role q.entry ∧ runTypeValue rt = some q.runType :=
  parse_some_iff s q

/-- Malformed strings are rejected: `parse s = none` iff the trimmed string is NOT a concatenation
    component "/" RUNTYPE "/" role "/" entry of non-empty class runs with a known run-type name. -/
theorem C20_malformed_rejected (s : Str) :
    parse s = none ↔ ¬ ∃ c rt role e n, FullLang (trim s) c rt role e ∧ runTypeValue rt = some n := by
  rw [Option.eq_none_iff_forall_ne_some]
  constructor
  · rintro h ⟨c, rt, role, e, n, hl, hv⟩
    exact h ⟨c, n, role, e⟩ ((parse_some_iff s _).mpr ⟨rt, hl, hv⟩)
  · intro h q hp
    obtain ⟨rt, hl, hv⟩ := (parse_some_iff s q).mp hp
    exact h ⟨q.component, rt, q.role, q.entry, q.runType, hl, hv⟩

/-- Round trip 1: what NewQuery returns prints back to the input, surrounding blanks aside. -/
theorem C20_roundtrip_print (s : Str) (q : Query) (h : parse s = some q) : print q = trim s ∧ wf q = true :=
  ⟨print_of_parse s q h, parse_wf s q h⟩

/-- Round trip 2: every well-formed query re-parses from its printed form to itself. -/
theorem C20_roundtrip_parse (q : Query) (h : wf q = true) : parse (print q) = some q :=
  parse_print q h

/-- Parsing is insensitive to surrounding blanks and to nothing else: two accepted strings that denote the same query are
    equal after trimming (conversely `parse` reads its argument only through `trim`). -/
theorem C20_parse_injective (s s' : Str) (q : Query) (h : parse s = some q) (h' : parse s' = some q) :
    trim s = trim s' := by
  rw [← print_of_parse s q h, ← print_of_parse s' q h']

/-- Non-vacuity: a realistic query string with surrounding blanks. -/
example : parse [' ', 'q', 'c', '/', 'P', 'H', 'Y', 'S', 'I', 'C', 'S', '/', 'f', 'l', 'p', '0', '0', '1', '/', 't', 'p', 'c', '-', 'r', 'a', 'w', '/', 's', 'u', 'b', '\n']
    = some ⟨['q', 'c'], 1, ['f', 'l', 'p', '0', '0', '1'], ['t', 'p', 'c', '-', 'r', 'a', 'w', '/', 's', 'u', 'b']⟩ := by decide
example : parse ['q', 'c', '/', 'p', 'h', 'y', 's', 'i', 'c', 's', '/', 'f', 'l', 'p', '0', '0', '1', '/', 't', 'p', 'c', '-', 'r', 'a', 'w'] = none := by decide
example : parse ['q', 'c', '/', 'P', 'H', 'Y', 'S', 'I', 'C', 'S', '/', 'f', 'l', 'p', '0', '0', '1'] = none := by decide
example : wf ⟨['q', 'c'], 300, ['a', 'n', 'y'], ['a', '/', 'b']⟩ = true := by decide

/-- An entry that can be read as a value exists (YAML backend). -/
theorem C20_yaml_value_exists (t : List Leaf) (key v : Str) (h : yamlGet t key = some v) : yamlExists t key = true :=
  yamlGet_exists t key v h

/-- The template loader fetches exactly the entry the (resolved) query names: for a well-formed query the re-parse of
    the printed path is the identity, so the processed payload is that entry's content with every `{{ name }}` replaced
    by the value supplied for `name`, as supplied. -/
theorem C20_processed_reads_named_entry (t : List Leaf) (q : Query) (vars : List (Str × Str)) (hq : wf q = true) :
    processComponent t q vars =
      match yamlGet t (absRaw q) with
      | none => .err "load"
      | some content =>
        match lexTemplate content with
        | none => .unmodelled
        | some segs =>
          if (bindings vars).all (fun kv => validIdent kv.1) then
            .ok (renderSegs (fun n => lookup (bindings vars) n) segs)
          else .err "badident" :=
  processComponentWith_wf codeCfg t q vars hq

/-- Content without any `{` is returned unchanged, whatever the variables (and whatever the configuration). -/
theorem C20_render_plain (c : Cfg) (content : Str) (vars : List (Str × Str)) (h : '{' ∉ content) :
    renderWith c content vars = some content ∧ renderVerbatim content vars = some content := by
  obtain ⟨segs, h1, h2⟩ := lex_text_no_brace content h
  rw [renderWith, renderVerbatim, lexTemplate, h1, Option.map_some, Option.map_some, h2, h2]
  exact ⟨rfl, rfl⟩

/-- Exactly the variables supplied: the rendering depends on the variables only through the values of the names that
    occur in the template (unused variables are irrelevant, two variable sets agreeing on the used names render alike). -/
theorem C20_render_exact (c : Cfg) (content : Str) (segs : List Seg) (vars vars' : List (Str × Str))
    (hl : lexTemplate content = some segs)
    (h : ∀ n ∈ varNames segs, lookup (bindings vars) n = lookup (bindings vars') n) :
    renderWith c content vars = renderWith c content vars' ∧ renderVerbatim content vars = renderVerbatim content vars' := by
  simp only [renderWith, renderVerbatim, hl, Option.map_some, Option.some.injEq]
  exact ⟨renderSegs_congr _ _ segs fun n hn => congrArg c.subst (h n hn), renderSegs_congr _ _ segs h⟩

/-- FULL-STRENGTH substitution clause of a configuration: every `{{ name }}` is replaced by the value supplied for
    `name`, verbatim — all templates of the fragment, all variables, all values. -/
def C20_substitution_full (c : Cfg) : Prop :=
  ∀ (content : Str) (vars : List (Str × Str)), renderWith c content vars = renderVerbatim content vars

/-- THE CODE AS IT IS substitutes verbatim: for every template of the fragment and ALL variables and values — `& < > " '`
    included — the rendering is the content with every `{{ name }}` replaced by the supplied value itself
    (`render` = `renderWith codeCfg`; `codeCfg` is tied to the linked code by `C20_substitution_is_code`). -/
theorem C20_substitution_code : C20_substitution_full codeCfg := by
  intro content vars
  rfl

/-- …in the vocabulary of the model's `render`. -/
theorem C20_render_is_verbatim (content : Str) (vars : List (Str × Str)) :
    render content vars = renderVerbatim content vars :=
  C20_substitution_code content vars

/-- Whatever the configuration (the legacy one included): substitution is verbatim whenever the values of the names the
    template mentions contain none of `& < > " '` — for every template of the fragment, any number of occurrences, any
    variables. -/
theorem C20_substitution_partial (c : Cfg) (content : Str) (segs : List Seg) (vars : List (Str × Str))
    (hl : lexTemplate content = some segs)
    (hesc : ∀ n ∈ varNames segs, escapeFree (lookup (bindings vars) n) = true) :
    renderWith c content vars = renderVerbatim content vars := by
  simp only [renderWith, renderVerbatim, hl, Option.map_some, Option.some.injEq]
  exact renderSegs_congr _ _ segs (fun n hn => subst_of_escapeFree c _ (hesc n hn))

/-- The finding (repaired in the code as it is), machine-checked on the model of the code AS IT WAS: with pongo2's
    default autoescaping substituted values are HTML-escaped, so `{{ a }}` with a = `"x"&` yields `&quot;x&quot;&amp;`. -/
theorem C20_finding_autoescape_html : ¬ C20_substitution_full legacyCfg := by
  intro h
  have := h ['{', '{', ' ', 'a', ' ', '}', '}'] [(['a'], ['"', 'x', '"', '&'])]
  revert this; decide

/-- For every configuration, every tree, every query and all variables, the model's observation satisfies every clause
    of Spec.C20's `lookupOk` except the one on the processed payload (`processedOk`: verbatim substitution). -/
theorem C20_model_meets_spec_but_substitution (c : Cfg) (t : List Leaf) (q : Query) (vars : List (Str × Str)) :
    lookupOkButSubstitution t q vars (modelLookupObsWith c t q vars) = true := by
  unfold lookupOkButSubstitution modelLookupObsWith
  cases h : resolve (yamlExists t) q with
  | none => dsimp only; rw [resolutionOk_unresolved h, payloadOk_getComponent]; rfl
  | some r => dsimp only; rw [resolutionOk_resolved h, payloadOk_getComponent, payloadOk_getComponent]; rfl

/-- THE CODE AS IT IS MEETS THE WHOLE OF Spec.C20's `lookupOk`, substitution included: for every tree, every well-formed
    query and ALL variables and values, the model's observation satisfies every clause the harness evaluates on the
    implementation's lookups. -/
theorem C20_model_meets_spec_code (t : List Leaf) (q : Query) (vars : List (Str × Str)) (hq : wf q = true) :
    lookupOk t q vars (modelLookupObs t q vars) = true :=
  lookupOk_model codeCfg t q vars fun r h => processedOk_model t r vars (resolve_wf _ q r hq h)

/-- Whatever the configuration (the legacy one included), the whole of Spec.C20's `lookupOk` holds when the values the
    resolved entry's template mentions are free of the five characters autoescaping rewrites. -/
theorem C20_model_meets_spec_partial (c : Cfg) (t : List Leaf) (q : Query) (vars : List (Str × Str)) (hq : wf q = true)
    (hesc : ∀ r, resolve (yamlExists t) q = some r → valuesEscapeFree t r vars = true) :
    lookupOk t q vars (modelLookupObsWith c t q vars) = true :=
  lookupOk_model c t q vars fun r h => processedOk_modelWith c t r vars (resolve_wf _ q r hq h) (hesc r h)

/-- The Spec tells the two configurations apart: on the finding's witness (`hosts={{ hosts }}` with
    hosts = `["flp1","flp2"]`) the observation of the code as it was FAILS `lookupOk` — were the repair reverted, the
    harness would report this input as a plain violation — while the code as it is returns `hosts=["flp1","flp2"]`. -/
theorem C20_legacy_violates_spec :
    let t : List Leaf := [⟨[['o', '2'], ['c', 'o', 'm', 'p', 'o', 'n', 'e', 'n', 't', 's'], ['q', 'c'], ['P', 'H', 'Y', 'S', 'I', 'C', 'S'], ['f', 'l', 'p', '0', '0', '1'], ['e']],
                           some ['h', 'o', 's', 't', 's', '=', '{', '{', ' ', 'h', 'o', 's', 't', 's', ' ', '}', '}']⟩]
    let q : Query := ⟨['q', 'c'], 1, ['f', 'l', 'p', '0', '0', '1'], ['e']⟩
    let vars := [(['h', 'o', 's', 't', 's'], ['[', '"', 'f', 'l', 'p', '1', '"', ',', '"', 'f', 'l', 'p', '2', '"', ']'])]
    wf q = true ∧ lookupOk t q vars (modelLookupObsWith legacyCfg t q vars) = false ∧
    (modelLookupObs t q vars).proc =
      .ok ['h', 'o', 's', 't', 's', '=', '[', '"', 'f', 'l', 'p', '1', '"', ',', '"', 'f', 'l', 'p', '2', '"', ']'] := by decide +kernel

/-- Query strings: the model's NewQuery satisfies Spec.C20.parseOk on every string. -/
theorem C20_parse_meets_spec (s : Str) : parseOk s (modelFullObs s) = true := by
  unfold parseOk modelFullObs
  cases h : parse s with
  | none => rfl
  | some q =>
    dsimp only
    rw [parse_wf s q h, absRaw, print_of_parse s q h]
    simp only [beq_self_eq_true, Bool.and_self]

/-- Non-vacuity of the partial theorems: a tree where only ANY/any exists, a well-formed query, a templated entry. -/
example :
    let t : List Leaf := [⟨[['o', '2'], ['c', 'o', 'm', 'p', 'o', 'n', 'e', 'n', 't', 's'], ['q', 'c'], ['A', 'N', 'Y'], ['a', 'n', 'y'], ['e']],
                           some ['h', 'o', 's', 't', '=', '{', '{', ' ', 'h', 'o', 's', 't', ' ', '}', '}']⟩]
    let q : Query := ⟨['q', 'c'], 1, ['f', 'l', 'p', '0', '0', '1'], ['e']⟩
    let vars := [(['h', 'o', 's', 't'], ['f', 'l', 'p', '0', '0', '1'])]
    wf q = true ∧ resolve (yamlExists t) q = some ⟨['q', 'c'], 300, ['a', 'n', 'y'], ['e']⟩ ∧
    valuesEscapeFree t ⟨['q', 'c'], 300, ['a', 'n', 'y'], ['e']⟩ vars = true ∧
    processComponent t ⟨['q', 'c'], 300, ['a', 'n', 'y'], ['e']⟩ vars = .ok ['h', 'o', 's', 't', '=', 'f', 'l', 'p', '0', '0', '1'] ∧
    processComponentWith legacyCfg t ⟨['q', 'c'], 300, ['a', 'n', 'y'], ['e']⟩ vars = .ok ['h', 'o', 's', 't', '=', 'f', 'l', 'p', '0', '0', '1'] := by decide +kernel

/-! ## histories: many requests on one service (the per-base-path template cache)

  `Svc` = backend + the service's only cross-request state, the map path ↦ compiled template; `step`/`run` answer a
  history of GetAndProcess… (direct or after ResolveComponentQuery), GetComponentConfiguration,
  InvalidateComponentTemplateCache and backend changes; templates may `include`/`extend` other entries. -/

/-- What the request path does with the cached template set is what the model assumes: it only asks it for the
    compiled template (`FromCache`) — nothing of a request is stored in it — and the map of sets is touched only by the
    lookup-or-create and by the invalidation (go/ast over apricot/local, re-extracted on every run). -/
theorem C20_template_set_use_is_code :
    tplSetUses = Gen.C20.tplSetUses ∧ tplSetOtherRefs = Gen.C20.tplSetOtherRefs ∧
    templateSetsUsers = Gen.C20.templateSetsUsers :=
  ⟨rfl, rfl, rfl⟩

/-- The state a history leaves behind (backend and cache) does not depend on the variables its requests supplied. -/
theorem C20_seq_state_ignores_vars (s : Svc) (pre pre' : List Op) (h : sameButVars pre pre' = true) :
    after s pre = after s pre' :=
  after_sameButVars s pre pre' h

/-- EXACTLY THE VARIABLES SUPPLIED, over histories: the answer to a request is the same whatever variables the earlier
    requests of the history supplied (any service state, any history, any mix of operations). -/
theorem C20_seq_payload_own_vars (s : Svc) (pre pre' : List Op) (h : sameButVars pre pre' = true) (op : Op) :
    (run s (pre ++ [op])).getLast? = (run s (pre' ++ [op])).getLast? := by
  rw [run_append_singleton, run_append_singleton, after_sameButVars s pre pre' h, List.getLast?_concat,
    List.getLast?_concat]

/-- FULL-STRENGTH history clause (kept visible; FALSE of the code, see `C20_finding_stale_template_cache`): one service
    answers every request of every history as a fresh service over the backend of that moment would. -/
def C20_seq_fresh_full : Prop :=
  ∀ (t : List Leaf) (ops : List Op), run (freshSvc t) ops = runFresh t ops

/-- What IS proved: it does, for every history in which no request is processed between a backend change and the next
    InvalidateComponentTemplateCache (changes before anything was compiled do not count). -/
theorem C20_seq_fresh_partial (t : List Leaf) (ops : List Op) (h : noStale ops = true) :
    run (freshSvc t) ops = runFresh t ops :=
  run_eq_runFresh (freshSvc t) false false (fun _ => rfl) (fun _ => .of_empty rfl) ops h

/-- The finding, machine-checked on the model: a compiled template outlives a change of its entry. Request, change the
    entry, request again: the second answer is still rendered from the old content. -/
theorem C20_finding_stale_template_cache : ¬ C20_seq_fresh_full := by
  intro h
  have := h [⟨[['o', '2'], ['c', 'o', 'm', 'p', 'o', 'n', 'e', 'n', 't', 's'], ['q', 'c'], ['A', 'N', 'Y'], ['a', 'n', 'y'], ['e']], some ['v', '1']⟩]
    [.proc ⟨['q', 'c'], 300, ['a', 'n', 'y'], ['e']⟩ [],
     .put ['o', '2', '/', 'c', 'o', 'm', 'p', 'o', 'n', 'e', 'n', 't', 's', '/', 'q', 'c', '/', 'A', 'N', 'Y', '/', 'a', 'n', 'y', '/', 'e'] ['v', '2'],
     .proc ⟨['q', 'c'], 300, ['a', 'n', 'y'], ['e']⟩ []]
  revert this; decide +kernel

/-- An invalidation always restores exactness, whatever happened before: the GetAndProcess… request after it is answered as by
    a fresh service over the backend of that moment. -/
theorem C20_seq_inval_restores (s : Svc) (pre : List Op) (q : Query) (vars : List (Str × Str)) :
    (step (after s (pre ++ [.inval])) (.proc q vars)).2 = .pay (processT (treeAfter s.tree pre) q vars) := by
  rw [after_append, ← after_tree]
  rfl

/-- THE PAYLOAD OF REQUEST n: in a history without stale requests, the answer to a well-formed request is the entry it
    names, linked (includes, extends) against the backend of that moment, executed with the variables of THIS request —
    an expression in which neither the earlier requests nor their variables occur. -/
theorem C20_seq_payload_exact (t : List Leaf) (pre : List Op) (q : Query) (vars : List (Str × Str))
    (hq : wf q = true) (h : noStale (pre ++ [.proc q vars]) = true) :
    (run (freshSvc t) (pre ++ [.proc q vars])).getLast? =
      some (.pay (match linkedEntry (treeAfter t pre) q with
                  | .ok segs => execT segs vars
                  | .err c => .err c
                  | .unmodelled => .unmodelled)) := by
  rw [C20_seq_fresh_partial t _ h, runFresh_append_singleton, List.getLast?_concat, step_fresh_proc, processT_eq,
    compileP_wf _ q hq]
  rfl

/-- The extended template fragment contains the plain one: an entry made of text and `{{ name }}` only (no variable
    called `block`, which pongo2 binds itself inside block bodies) is answered by a fresh service exactly as the
    single-request model says, so `C20_render_exact`, `C20_substitution_partial` … apply. -/
theorem C20_seq_fresh_plain (t : List Leaf) (q : Query) (vars : List (Str × Str)) (hq : wf q = true)
    (content : Str) (segs : List Seg) (hg : yamlGet t (absRaw q) = some content)
    (hl : lexTemplate content = some segs) (hb : blockKw ∉ varNames segs) :
    processT t q vars = processComponent t q vars :=
  processT_plain t q vars hq content segs hg hl hb

/-- The model's answers to a whole history satisfy the Spec the harness evaluates on the implementation — every
    request judged against the backend of its moment and its own variables — for all histories without stale requests,
    with well-formed queries; ALL variables and values (the code as it is substitutes them as supplied). -/
theorem C20_seq_model_meets_spec_partial (t : List Leaf) (ops : List Op) (hs : noStale ops = true)
    (hwf : opsWf ops = true) :
    seqOk t ops (modelSeqObs t ops) = true := by
  unfold modelSeqObs
  rw [C20_seq_fresh_partial t ops hs]
  exact seqOk_runFresh t ops hwf

/-- Non-vacuity: an entry that includes a snippet and a child that extends a base, asked three times with shrinking
    variable sets on one service; a variable that is no longer supplied renders empty. -/
example :
    let dir : List Str := [['o', '2'], ['c', 'o', 'm', 'p', 'o', 'n', 'e', 'n', 't', 's'], ['q', 'c'], ['A', 'N', 'Y'], ['a', 'n', 'y']]
    let t : List Leaf := [
      ⟨dir ++ [['g']], some ['[', '{', '{', ' ', 'w', ' ', '}', '}', ']', '{', '%', ' ', 'i', 'n', 'c', 'l', 'u', 'd', 'e', ' ', '"', 't', '"', ' ', '%', '}']⟩,
      ⟨dir ++ [['t']], some ['t', '=', '{', '{', 'm', '}', '}']⟩,
      ⟨dir ++ [['b']], some ['<', '{', '%', ' ', 'b', 'l', 'o', 'c', 'k', ' ', 'p', ' ', '%', '}', 'd', '{', '%', ' ', 'e', 'n', 'd', 'b', 'l', 'o', 'c', 'k', ' ', '%', '}', '>']⟩,
      ⟨dir ++ [['c']], some ['x', '{', '%', ' ', 'e', 'x', 't', 'e', 'n', 'd', 's', ' ', '"', 'b', '"', ' ', '%', '}', '{', '%', 'b', 'l', 'o', 'c', 'k', ' ', 'p', '%', '}', '{', '{', 'w', '}', '}', '{', '%', 'e', 'n', 'd', 'b', 'l', 'o', 'c', 'k', ' ', 'p', '%', '}']⟩]
    let g : Query := ⟨['q', 'c'], 300, ['a', 'n', 'y'], ['g']⟩
    let c : Query := ⟨['q', 'c'], 300, ['a', 'n', 'y'], ['c']⟩
    let ops : List Op := [.proc g [(['w'], ['A']), (['m'], ['f'])], .proc g [(['w'], ['B'])], .proc c [(['w'], ['C'])], .proc c []]
    noStale ops = true ∧ opsWf ops = true ∧
    run (freshSvc t) ops = [.pay (.ok ['[', 'A', ']', 't', '=', 'f']), .pay (.ok ['[', 'B', ']', 't', '=']),
                            .pay (.ok ['<', 'C', '>']), .pay (.ok ['<', '>'])] := by decide +kernel

/-! ## concurrent requests on one service over an unchanged configuration

  The front-ends run many lookups at once on ONE `Service`, hence on one backend object and one set of template sets.
  `Prog` = a request as a program of atomic steps (an existence probe, a value read, the template-set step under its
  mutex); `Conf.run c sched` = the pool of requests in flight executed under the schedule `sched` (which thread moves
  next) — any interleaving. The backend is a tree that does not change; that this is what the file backend offers when
  nobody modifies the file is tied to the source by `C20_refresh_publishes_complete_trees_is_code`. -/

/-- What the model assumes about the file backend is what yamlsource.go does (go/ast, re-extracted on every run): inside
    `refresh` the shared snapshot `yc.data` is cleared only in blocks that leave with an error, and a tree is assigned to
    it exactly once, outside those blocks, after the file has been read, parsed and converted — so a concurrent reader
    finds the previous complete tree or the new complete tree, never an empty or half-built one; and no function of the
    lookup path writes into a tree. -/
theorem C20_refresh_publishes_complete_trees_is_code :
    refreshDataWrites = Gen.C20.refreshDataWrites ∧ readPathElemWrites = Gen.C20.readPathElemWrites ∧
    publishesOnlyCompleteTrees Gen.C20.refreshDataWrites = true ∧ Gen.C20.readPathElemWrites = 0 :=
  ⟨rfl, rfl, rfl, rfl⟩

/-- A request's program, run alone to its end, computes the request's sequential answer: the four existence probes are
    `resolve`, Exists + Get is `getComponent`, the template-set step on a service without cached templates followed by
    the execution is `processT`. -/
theorem C20_conc_program_is_sequential_answer (t : List Leaf) (rq : Req) : Prog.eval t (progOf rq) = rq.answer t :=
  eval_progOf t rq

/-- …and for the three kinds of request the history model has (`get`, `proc`, `rproc`) the sequential answer is its
    answer to the one-request history on a fresh service (the model the `seq` class ties to the code). -/
theorem C20_conc_answer_is_history_answer (t : List Leaf) (q : Query) (vars : List (Str × Str)) :
    run (freshSvc t) [.get q] = [(Req.get q).answer t] ∧
    run (freshSvc t) [.proc q vars] = [(Req.proc q vars).answer t] ∧
    run (freshSvc t) [.rproc q vars] = [(Req.rproc q vars).answer t] :=
  ⟨rfl, rfl, congrArg (· :: []) (step_fresh_rproc t q vars)⟩

/-- CONCURRENCY IS INVISIBLE. For every tree, every multiset of requests accepted at once by a fresh service, EVERY schedule
    of their atomic steps and every request of the pool: whenever the request has finished, its answer is its sequential
    answer — the answer it gets when issued alone on a fresh service. -/
theorem C20_conc_answer_is_sequential (t : List Leaf) (reqs : List Req) (sched : List Nat) (i : Nat) (r : Resp)
    (h : ((startConf t reqs).run sched).answer? i = some r) :
    ∃ rq, reqs[i]? = some rq ∧ r = rq.answer t := by
  obtain ⟨rq, hq, hr⟩ := Option.map_eq_some_iff.mp (startConf_answer t reqs sched i r h)
  exact ⟨rq, hq, hr.symm⟩

/-- The schedule does not matter: two runs of the same pool under any two schedules give a request the same answer. -/
theorem C20_conc_schedule_irrelevant (t : List Leaf) (reqs : List Req) (sched sched' : List Nat) (i : Nat) (r r' : Resp)
    (h : ((startConf t reqs).run sched).answer? i = some r)
    (h' : ((startConf t reqs).run sched').answer? i = some r') : r = r' :=
  Option.some.inj ((startConf_answer t reqs sched i r h).symm.trans (startConf_answer t reqs sched' i r' h'))

/-- The company does not matter: the answer to a request is the same whatever other requests are in flight with it
    (another pool, another position, another schedule). -/
theorem C20_conc_independent_of_other_requests (t : List Leaf) (reqs reqs' : List Req) (sched sched' : List Nat)
    (i i' : Nat) (rq : Req) (r r' : Resp) (hi : reqs[i]? = some rq) (hi' : reqs'[i']? = some rq)
    (h : ((startConf t reqs).run sched).answer? i = some r)
    (h' : ((startConf t reqs').run sched').answer? i' = some r') : r = r' := by
  have ha := startConf_answer t reqs sched i r h
  have ha' := startConf_answer t reqs' sched' i' r' h'
  rw [hi] at ha
  rw [hi'] at ha'
  exact Option.some.inj (ha.symm.trans ha')

/-- Lookups leave the backend as it was, and every template the service has cached by then is the compilation of its
    entry against that backend — under every schedule. -/
theorem C20_conc_backend_untouched (t : List Leaf) (reqs : List Req) (sched : List Nat) :
    ((startConf t reqs).run sched).svc.tree = t ∧
    ∀ e ∈ ((startConf t reqs).run sched).svc.cache, compileP t e.1 = .ok e.2 := by
  have h := (ConcInv.start t reqs).run sched
  refine ⟨h.tree, fun e he => ?_⟩
  have := h.current e he
  rwa [h.tree] at this

/-- Every request is answered: under any schedule that lets each thread move six times (four existence probes, then the
    two reads of the payload or the template-set step), whatever the other threads do in between, every request of the
    pool has finished — with its sequential answer. -/
theorem C20_conc_all_answered (t : List Leaf) (reqs : List Req) (sched : List Nat)
    (hfair : ∀ i, i < reqs.length → 6 ≤ sched.count i) (i : Nat) (rq : Req) (hi : reqs[i]? = some rq) :
    ((startConf t reqs).run sched).answer? i = some (rq.answer t) := by
  have hp : (startConf t reqs).pool[i]? = some (progOf rq) := by rw [startConf, List.getElem?_map, hi]; rfl
  have hs := Conf.run_finishes sched i (startConf t reqs) 6 (progOf rq) hp (doneWithin_progOf rq)
    (hfair i (List.getElem?_eq_some_iff.mp hi).1)
  obtain ⟨r, ha⟩ := Option.isSome_iff_exists.mp hs
  have hr := startConf_answer t reqs sched i r ha
  rw [hi] at hr
  cases hr
  exact ha

/-- …in particular under the round-robin schedule (every thread in turn, six times over). -/
theorem C20_conc_round_robin_answers_all (t : List Leaf) (reqs : List Req) :
    reqs.mapIdx (fun i _ => ((startConf t reqs).run (roundRobin reqs.length 6)).answer? i) =
      reqs.map (fun rq => some (rq.answer t)) := by
  apply List.ext_getElem?
  intro i
  rw [List.getElem?_mapIdx, List.getElem?_map]
  cases hi : reqs[i]? with
  | none => rfl
  | some rq =>
    exact congrArg some
      (C20_conc_all_answered t reqs _ (fun j hj => Nat.le_of_eq (count_roundRobin _ _ _ hj).symm) i rq hi)

/-- The backend assumption is needed, not decoration: if ONE probe of a request reads a cleared snapshot (an empty tree)
    instead of the configuration, the request's answer can differ from its sequential answer — a less specific entry
    than the one that exists. (`Prog.step ⟨[], []⟩` = one step against the cleared snapshot, `Prog.eval t` = the rest
    against the real tree.) -/
theorem C20_conc_cleared_snapshot_is_visible :
    ∃ (t : List Leaf) (rq : Req), Prog.eval t ((progOf rq).step ⟨[], []⟩).2 ≠ rq.answer t := by
  let dir : List Str := [['o', '2'], ['c', 'o', 'm', 'p', 'o', 'n', 'e', 'n', 't', 's'], ['q', 'c']]
  refine ⟨[⟨dir ++ [['P', 'H', 'Y', 'S', 'I', 'C', 'S'], ['r'], ['e']], some ['x']⟩,
           ⟨dir ++ [['A', 'N', 'Y'], ['a', 'n', 'y'], ['e']], some ['y']⟩],
          .res ⟨['q', 'c'], 1, ['r'], ['e']⟩, ?_⟩
  decide

/-- The model's observation of a concurrent case satisfies the Spec the harness evaluates on the implementation: every
    answer — alone or under concurrency — names the most specific existing entry, returns the named entry's content,
    templates it with the request's own variables, as supplied (well-formed queries; ALL variables and values). -/
theorem C20_conc_model_meets_spec_partial (t : List Leaf) (reqs : List Req) (hwf : reqs.all reqWf = true) :
    concOk t reqs (modelConcObs t reqs) = true :=
  concOk_model t reqs hwf

/-- Non-vacuity: three requests on a tree where the exact entry and ANY/any exist, under a schedule that interleaves
    their probes; each finishes with its sequential answer. -/
example :
    let dir : List Str := [['o', '2'], ['c', 'o', 'm', 'p', 'o', 'n', 'e', 'n', 't', 's'], ['q', 'c']]
    let t : List Leaf := [⟨dir ++ [['P', 'H', 'Y', 'S', 'I', 'C', 'S'], ['r'], ['e']], some ['x', '=', '{', '{', 'a', '}', '}']⟩,
                          ⟨dir ++ [['A', 'N', 'Y'], ['a', 'n', 'y'], ['e']], some ['y']⟩]
    let q : Query := ⟨['q', 'c'], 1, ['r'], ['e']⟩
    let q2 : Query := ⟨['q', 'c'], 2, ['s'], ['e']⟩
    let reqs : List Req := [.rget q2, .rproc q [(['a'], ['1'])], .res q]
    let c := (startConf t reqs).run [0, 1, 2, 0, 1, 0, 2, 0, 1, 0, 0, 2]
    reqs.all reqWf = true ∧
    c.answer? 0 = some (.res (some ⟨['q', 'c'], 300, ['a', 'n', 'y'], ['e']⟩) (.ok ['y'])) ∧
    c.answer? 1 = some (.res (some q) (.ok ['x', '=', '1'])) ∧
    c.answer? 2 = some (.res (some q) .dash) := by decide +kernel
